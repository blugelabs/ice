-- root of the library: importing everything makes `lake build IceModel` (bin/setup) compile all modules
import IceModel.Basic
import IceModel.Bridge.Appends
import IceModel.Bridge.Consts
import IceModel.Bridge.ErrFlow
import IceModel.Bridge.Events
import IceModel.Bridge.Footer
import IceModel.Bridge.Funcs1Hit
import IceModel.Bridge.FuncsChunk
import IceModel.Bridge.FuncsFreq
import IceModel.Bridge.FuncsVarint
import IceModel.Bridge.LayoutBuild
import IceModel.Bridge.LayoutCodec
import IceModel.Bridge.LayoutCommon
import IceModel.Bridge.LayoutIO
import IceModel.Bridge.LayoutMerge
import IceModel.Bridge.Locks
import IceModel.Bridge.Mutations
import IceModel.Bridge.PoolReset
import IceModel.Bridge.Reuse
import IceModel.Bridge.ReuseBuilder
import IceModel.Bridge.ReusePools
import IceModel.Bridge.ReuseReader
import IceModel.Bridge.Shared
import IceModel.Bridge.WriteSites
import IceModel.Driver.Layout
import IceModel.Driver.ModelAns
import IceModel.Driver.Parse
import IceModel.Driver.Run
import IceModel.Gen.Appends
import IceModel.Gen.Consts
import IceModel.Gen.ErrFlow
import IceModel.Gen.Events
import IceModel.Gen.Footer
import IceModel.Gen.Funcs1Hit
import IceModel.Gen.FuncsChunk
import IceModel.Gen.FuncsFreq
import IceModel.Gen.FuncsVarint
import IceModel.Gen.Layout
import IceModel.Gen.Locks
import IceModel.Gen.Mutations
import IceModel.Gen.PoolReset
import IceModel.Gen.Prelude
import IceModel.Gen.Reuse
import IceModel.Gen.Shared
import IceModel.Gen.WriteSites
import IceModel.Lemmas.Bits
import IceModel.Lemmas.Build
import IceModel.Lemmas.Builder.Base
import IceModel.Lemmas.Builder.Emits
import IceModel.Lemmas.Builder.Fields
import IceModel.Lemmas.Builder.OfSpec
import IceModel.Lemmas.Builder.Pass1
import IceModel.Lemmas.Builder.Pass2
import IceModel.Lemmas.Builder.Roll
import IceModel.Lemmas.Builder.Run
import IceModel.Lemmas.Builder.Spec
import IceModel.Lemmas.Builder.View
import IceModel.Lemmas.Builder.Windows
import IceModel.Lemmas.Builder.Write
import IceModel.Lemmas.CacheFaultDv
import IceModel.Lemmas.CacheFaultDvFix
import IceModel.Lemmas.CacheFaultDvLoad
import IceModel.Lemmas.CacheFaultDvRun
import IceModel.Lemmas.CacheFaultIter
import IceModel.Lemmas.CacheFaultIterRun
import IceModel.Lemmas.ChunkBytes
import IceModel.Lemmas.Conc
import IceModel.Lemmas.Dict
import IceModel.Lemmas.DocValues
import IceModel.Lemmas.DvLoop
import IceModel.Lemmas.E2EDefs
import IceModel.Lemmas.Ends
import IceModel.Lemmas.E2EMBuild
import IceModel.Lemmas.E2EMDefs
import IceModel.Lemmas.E2EMFile
import IceModel.Lemmas.E2EMLays
import IceModel.Lemmas.E2EMRead
import IceModel.Lemmas.E2EMValid
import IceModel.Lemmas.E2EReadsAs
import IceModel.Lemmas.E2ESpec
import IceModel.Lemmas.E2EValid
import IceModel.Lemmas.ErrFlowArea
import IceModel.Lemmas.ErrFlowCheck
import IceModel.Lemmas.ErrFlowRun
import IceModel.Lemmas.ErrFlowSem
import IceModel.Lemmas.ErrFlowSyntax
import IceModel.Lemmas.Format
import IceModel.Lemmas.FormatLoad
import IceModel.Lemmas.FormatTotalBacking
import IceModel.Lemmas.FormatTotalBackingDV
import IceModel.Lemmas.FormatTotalNew
import IceModel.Lemmas.Iter
import IceModel.Lemmas.IterBytesAbs
import IceModel.Lemmas.IterBytesMk
import IceModel.Lemmas.IterBytesReuse
import IceModel.Lemmas.IterBytesSim
import IceModel.Lemmas.IterBytesStep
import IceModel.Lemmas.IterReplace
import IceModel.Lemmas.Lists
import IceModel.Lemmas.Merge
import IceModel.Lemmas.MergeLoop
import IceModel.Lemmas.MergeLoopEnum
import IceModel.Lemmas.MergeLoopGroups
import IceModel.Lemmas.MergeLoopSpec
import IceModel.Lemmas.MergeLoopStats
import IceModel.Lemmas.MergeRestCopy
import IceModel.Lemmas.MergeRestDv
import IceModel.Lemmas.MergeRestDvSpec
import IceModel.Lemmas.MergeRestFields
import IceModel.Lemmas.MergeRestMerge
import IceModel.Lemmas.MergeRestRemap
import IceModel.Lemmas.MergeRestSpec
import IceModel.Lemmas.MergeRestStored
import IceModel.Lemmas.Pool
import IceModel.Lemmas.Pool.Clean
import IceModel.Lemmas.Pool.Reuse
import IceModel.Lemmas.Search
import IceModel.Lemmas.Sort
import IceModel.Lemmas.Stored
import IceModel.Lemmas.Varint
import IceModel.Lemmas.Writer
import IceModel.Model.Bits
import IceModel.Model.Builder
import IceModel.Model.CacheFault
import IceModel.Model.ChunkBytes
import IceModel.Model.Conc
import IceModel.Model.Dict
import IceModel.Model.DocValues
import IceModel.Model.DvLoop
import IceModel.Model.Format
import IceModel.Model.Iter
import IceModel.Model.Iter1Hit
import IceModel.Model.IterBytes
import IceModel.Model.MergeLoop
import IceModel.Model.MergeRest
import IceModel.Model.Pool
import IceModel.Model.Stored
import IceModel.Model.Varint
import IceModel.Model.Writer
import IceModel.Props.C01
import IceModel.Props.C02
import IceModel.Props.C02Model
import IceModel.Props.C02Stored
import IceModel.Props.C03
import IceModel.Props.C04
import IceModel.Props.C04Total
import IceModel.Props.C05
import IceModel.Props.C05Bytes
import IceModel.Props.C05OneHit
import IceModel.Props.C05Replace
import IceModel.Props.C06
import IceModel.Props.C07
import IceModel.Props.C07Multi
import IceModel.Props.C08
import IceModel.Props.C09
import IceModel.Props.C11
import IceModel.Props.C12
import IceModel.Props.C14
import IceModel.Props.C15
import IceModel.Props.C16
import IceModel.Props.C17
import IceModel.Props.C19Cache
import IceModel.Props.ChunkBytes
import IceModel.Props.E2EBuild
import IceModel.Props.E2EMerge
import IceModel.Props.E2ENew
import IceModel.Props.ErrFlow
import IceModel.Props.ErrFlowAll
import IceModel.Props.ErrFlowPersist
import IceModel.Props.ErrFlowRead
import IceModel.Props.ErrFlowWrite
import IceModel.Spec.Iter
import IceModel.Spec.Seg
