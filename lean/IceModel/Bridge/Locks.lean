import IceModel.Gen.Locks
/-
  Bridge between facts regenerated from /repo (`Ice.Gen.*`) and what the model / property theorems
  assume. Decided by evaluation of the generated tables; see DESIGN.md section 2.4.
-/
namespace Ice.Bridge
open Ice.Gen

/-! ### the segment mutex (C19, C09) -/

/-- every exit of every function that takes the mutex releases it -/
theorem locks_released : ∀ e ∈ Locks.exits, e.2.2 = false := by decide +kernel

theorem locks_unambiguous : Locks.ambiguousJoins = [] := by decide +kernel

/-- no callback (function-typed value) is invoked while the mutex is held -/
theorem no_callback_under_lock : Locks.callbacksUnderLock = [] := by decide +kernel

end Ice.Bridge
