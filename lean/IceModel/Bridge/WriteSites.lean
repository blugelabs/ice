import IceModel.Gen.WriteSites
/-
  Bridge between facts regenerated from /repo (`Ice.Gen.*`) and what the model / property theorems
  assume. Decided by evaluation of the generated tables; see DESIGN.md section 2.4.
-/
namespace Ice.Bridge
open Ice.Gen

/-! ### write path (C12) -/

/-- calls whose error result may be discarded: none of them reaches the destination writer
    (`Close` of the chunk coders only compresses into memory; doc-value visiting is a read) -/
def allowedDropped : List (String × String) :=
  [("Segment.visitDocumentFieldTerms", "dvr.visitDocValues"), ("chunkedIntCoder.Add", "c.Close"),
   ("finishTerm", "locEncoder.Close"), ("finishTerm", "tfEncoder.Close"),
   ("interim.writeDictsTermField", "locEncoder.Close"), ("interim.writeDictsTermField", "tfEncoder.Close")]

theorem dropped_errors_allowed : ∀ d ∈ WriteSites.droppedErrors, d ∈ allowedDropped := by decide +kernel

theorem unchecked_errors_allowed :
    ∀ d ∈ WriteSites.uncheckedErrors, d ∈ [("enumerator.Close", "itr.Close")] := by decide +kernel

/-- every cancellation poll answers a closed channel with `segment.ErrClosed` -/
theorem polls_return_errclosed : ∀ p ∈ WriteSites.closePolls, p.2.2 = true := by decide +kernel

/-- both `WriteTo`s flush their bufio writer (and the result is examined: it is neither in
    `droppedErrors` nor in `uncheckedErrors`) -/
theorem flush_examined :
    "Merger.WriteTo" ∈ WriteSites.flushCalls.map (·.1) ∧ "Segment.WriteTo" ∈ WriteSites.flushCalls.map (·.1) ∧
    (∀ d ∈ WriteSites.droppedErrors ++ WriteSites.uncheckedErrors, d.2 ≠ "bw.Flush") := by decide +kernel

end Ice.Bridge
