import IceModel.Gen.Shared
/-
  Bridge between facts regenerated from /repo (`Ice.Gen.*`) and what the model / property theorems
  assume. Decided by evaluation of the generated tables; see DESIGN.md section 2.4.
-/
namespace Ice.Bridge
open Ice.Gen

/-! ### shared state of a segment (C09) -/

/-- functions that run only while the segment is being constructed (not yet shared) -/
def ctorFuncs : List String :=
  ["load", "initSegmentBase", "Segment.loadFields", "Segment.loadStoredFieldChunk",
   "Segment.loadDvReaders", "Segment.updateSize"]

/-- every store into a Segment field is under the mutex or happens during construction -/
theorem segment_writes_disciplined :
    ∀ w ∈ Shared.segmentWrites, w.2.2 = true ∨ w.1 ∈ ctorFuncs := by decide +kernel

/-- the only store under the mutex is the FST cache fill the concurrency model describes -/
theorem segment_locked_writes :
    Shared.segmentWrites.filter (fun w => w.2.2) = [("Segment.dictionary", "fieldFSTs", true)] := by
  decide +kernel

/-- the constructor-only functions are called from constructors only -/
theorem ctor_callers :
    ∀ p ∈ Shared.unlockedWriterCallers, p.1 ∈ ctorFuncs ∧ ∀ c ∈ p.2, c ∈ ctorFuncs := by decide +kernel

/-- package-level variables are written only by `init` or inside a `sync.Once.Do` body -/
theorem package_vars_once :
    ∀ w ∈ Shared.packageVarWrites, w.2.2 = true ∨ w.1 = "init" := by decide +kernel

/-- state-changing doc-value reader methods are only ever invoked on per-call clones -/
theorem dv_readers_cloned : ∀ c ∈ Shared.dvReaderMutatorCalls, c.2.2 = "clone" := by decide +kernel

/-- the readers a `DocumentValueReader` works on are clones, never the segment's own -/
theorem dv_reader_map_clones : ∀ s ∈ Shared.dvReaderMapStores, s.2 = "clone" := by decide +kernel

end Ice.Bridge
