import IceModel.Bridge.LayoutCommon
/-
  Bridge: how the zstd encoder and decoder are set up (`zstd.go`).  The frame parameters a writer
  chooses (level only, default window) and the limits a reader imposes (none) are part of what
  "a version-2 file written by any ice version is readable by any other" (C10) depends on: an
  added decoder limit or a changed encoder option still round-trips within one version.  The FULL
  call lists (including the calls inside the `sync.Once` bodies) are pinned.
-/
namespace Ice.Bridge
open Ice.Gen

def allCallsOf (fn : String) : List String :=
  match Layout.calls.find? (fun p => p.1 == fn) with
  | some p => p.2
  | none => ["<function not found>"]

theorem layout_zstdCompress :
    allCallsOf "ZSTDCompress"
      = ["Do", "zstd.EncoderLevelFromZstd", "zstd.NewWriter", "zstd.WithEncoderLevel", "log.Panicf", "EncodeAll"] := by
  decide +kernel

theorem layout_zstdDecompress :
    allCallsOf "ZSTDDecompress" = ["Do", "zstd.NewReader", "log.Panicf", "DecodeAll"] := by decide +kernel

end Ice.Bridge
