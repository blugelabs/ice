import IceModel.Gen.Consts
import IceModel.Gen.Footer
/-
  Bridge between facts regenerated from /repo (`Ice.Gen.*`) and what the model / property theorems
  assume. Decided by evaluation of the generated tables; see DESIGN.md section 2.4.
-/
namespace Ice.Bridge
open Ice.Gen

/-! ### footer layout (C10, C11) -/

/-- the pinned footer: field, width, byte order, in file order -/
def footerLayout : List (String × Nat × String) :=
  [("numDocs", 8, "BigEndian"), ("storedIndexOffset", 8, "BigEndian"),
   ("fieldsIndexOffset", 8, "BigEndian"), ("docValueOffset", 8, "BigEndian"),
   ("chunkMode", 4, "BigEndian"), ("Version", 4, "BigEndian"), ("crc", 4, "BigEndian")]

theorem footer_written : Footer.written = footerLayout := by decide +kernel

/-- the reader walks the same fields backwards (its struct field is `version`) -/
theorem footer_read :
    Footer.read.reverse.map (fun f => (if f.1 = "version" then "Version" else f.1, f.2)) = footerLayout := by
  decide +kernel

theorem footer_read_widths :
    Footer.readWidths = ["crcWidth", "verWidth", "chunkWidth", "fdvOffsetWidth", "fieldsOffsetWidth",
      "storedOffsetWidth", "numDocsWidth"] := by decide +kernel

theorem footer_total : (footerLayout.map (·.2.1)).sum = Consts.footerLen := by decide +kernel

end Ice.Bridge
