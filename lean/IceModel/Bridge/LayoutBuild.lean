import IceModel.Bridge.LayoutCommon
/-
  Bridge: call order of the container-layout functions (see Bridge/LayoutCommon).
-/
namespace Ice.Bridge
open Ice.Gen

/-- builder: stored section, dictionaries (+ doc values), fields section -/
theorem layout_convert :
    callsOf "interim.convert" ["prepareDicts", "processDocuments", "writeStoredFields", "writeDicts", "persistFields"]
      = ["prepareDicts", "processDocuments", "writeStoredFields", "writeDicts", "persistFields"] := by decide +kernel

theorem layout_new :
    callsOf "newWithChunkMode" ["Get", "convert", "Sum32", "initSegmentBase", "reset", "Put"]
      = ["Get", "convert", "Sum32", "initSegmentBase", "reset", "Put"] := by decide +kernel

/-- per field: terms, then the dictionary, then the doc values -/
theorem layout_writeDictsField :
    callsOf "interim.writeDictsField" ["writeDictsTermField", "newChunkedContentCoder", "Add"]
      = ["writeDictsTermField", "newChunkedContentCoder", "Add"] := by decide +kernel

/-- per term: chunk size, entries, both streams closed, postings record, FST insert, coder reset -/
theorem layout_writeDictsTermField :
    callsOf "interim.writeDictsTermField"
      ["getChunkSize", "SetChunkSize", "encodeFreqHasLocs", "totalUvarintBytes", "Close", "writePostings", "Insert", "Reset"]
      = ["getChunkSize", "SetChunkSize", "SetChunkSize", "encodeFreqHasLocs", "totalUvarintBytes", "Close", "Close",
         "writePostings", "Insert", "Reset", "Reset"] := by decide +kernel

/-- postings record: freq/norm stream, location stream, then the record with the bitmap -/
theorem layout_writePostings :
    callsOf "writePostings" ["use1HitEncoding", "fSTValEncode1Hit", "writeAt", "binary.PutUvarint", "writeRoaringWithLen"]
      = ["use1HitEncoding", "fSTValEncode1Hit", "writeAt", "writeAt", "binary.PutUvarint", "binary.PutUvarint",
         "binary.PutUvarint", "writeRoaringWithLen"] := by decide +kernel

theorem layout_persistFields :
    callsOf "persistFields" ["writeUvarints", "Write", "binary.Write"]
      = ["writeUvarints", "Write", "writeUvarints", "binary.Write"] := by decide +kernel

end Ice.Bridge
