import IceModel.Gen.Events
/-
  Bridge for the reader-side cache model (`Model/CacheFault.lean`, property C19): the ordered
  cache-relevant events of the storage-reading loaders, as extracted from the Go source by the
  translator (`Ice.Gen.Events.events`), are pinned here.  The loaders of the model perform their
  field updates and fallible steps in exactly these orders (each model definition quotes its list);
  a source change that reorders, adds or removes an assignment or a fallible call breaks the
  corresponding theorem below.

  `F:<callee>` a call that can fail, `A:<field>` assignment to a receiver field, `M:<field.method>`
  mutating method call on a field, `R:nil` / `R:err` returns, `{` `}` conditional / loop bodies.
-/
namespace Ice.Bridge
open Ice.Gen

/-- the event list of a function (empty when the function is not in the table) -/
def eventsOf (fn : String) : List String :=
  match Events.events.find? (fun p => p.1 == fn) with
  | some p => p.2
  | none => []

/-- `chunkedIntDecoder.loadChunk`: not-encoded shortcut (only `r` is set); missing chunk = error
    before any read; then read, decompress (the temp buffer is assigned even on error), and only
    after both succeeded `curChunkBytes` and the reader `r` -/
theorem events_decoderLoadChunk : eventsOf "chunkedIntDecoder.loadChunk" =
    ["{", "A:r", "R:nil", "}", "{", "F:Errorf", "R:err", "}", "F:Read", "{", "R:err", "}",
     "F:ZSTDDecompress", "A:uncompressed", "{", "R:err", "}", "A:curChunkBytes",
     "{", "A:r", "}", "{", "M:r.Reset", "}", "R:nil"] := by decide +kernel

/-- `PostingsIterator.loadChunk`: freq/norm load, return on error; location load, on error
    invalidate the freq/norm bytes (repair 0ab4d30) and return; only then `currChunk` -/
theorem events_postingsLoadChunk : eventsOf "PostingsIterator.loadChunk" =
    ["{", "F:loadChunk", "{", "R:err", "}", "}",
     "{", "F:loadChunk", "{", "{", "A:freqNormReader.curChunkBytes", "}", "R:err", "}", "}",
     "A:currChunk", "R:nil"] := by decide +kernel

/-- `docValueReader.loadDvChunk`: empty-chunk shortcut; INVALIDATION of the key (repair
    F-C19-dvheader) before anything fallible; read of numDocs; resize of the header
    (fresh or resliced) BEFORE the per-entry reads; per entry: read, DocNum (twice: raw, then plus
    the running sum), read, DocDvOffset (twice); the data read; only then data, key, and the
    invalidation of the decompressed copy -/
theorem events_loadDvChunk : eventsOf "docValueReader.loadDvChunk" =
    ["{", "A:curChunkHeader", "A:curChunkData", "A:curChunkNum", "A:uncompressed", "R:nil", "}",
     "A:curChunkNum", "F:Read", "{", "R:err", "}", "{", "F:Errorf", "R:err", "}",
     "{", "A:curChunkHeader", "}", "{", "A:curChunkHeader", "}",
     "{", "F:Read", "{", "R:err", "}", "A:curChunkHeader.DocNum", "A:curChunkHeader.DocNum",
          "F:Read", "{", "R:err", "}", "A:curChunkHeader.DocDvOffset", "A:curChunkHeader.DocDvOffset", "}",
     "F:Read", "{", "R:err", "}", "A:curChunkData", "A:curChunkNum", "A:uncompressed", "R:nil"] := by decide +kernel

/-- `docValueReader.visitDocValues`: not found / empty range = nothing; decompress only when no
    decompressed copy is cached, and cache it only on success; no storage read -/
theorem events_visitDocValues : eventsOf "docValueReader.visitDocValues" =
    ["{", "R:nil", "}", "{", "F:ZSTDDecompress", "{", "R:err", "}", "A:uncompressed", "}", "R:nil"] := by decide +kernel

/-- `Segment.getDocStoredOffsets` (after fix f904785): three fallible steps, NO assignment to any
    receiver field - there is no cache to leave half filled -/
theorem events_getDocStoredOffsets : eventsOf "Segment.getDocStoredOffsets" =
    ["F:getDocStoredOffsetsOnly", "{", "R:err", "}", "F:Read", "{", "R:err", "}",
     "F:ZSTDDecompress", "{", "R:err", "}", "R:nil"] := by decide +kernel

/-- every event of `getDocStoredOffsets` is a fallible call, a brace or a return: nothing is cached -/
theorem getDocStoredOffsets_no_cache :
    ∀ e ∈ eventsOf "Segment.getDocStoredOffsets",
      e ∈ ["F:getDocStoredOffsetsOnly", "F:Read", "F:ZSTDDecompress", "{", "}", "R:err", "R:nil"] := by
  rw [events_getDocStoredOffsets]; decide +kernel

end Ice.Bridge
