import IceModel.Gen.Mutations
/-
  Bridge between facts regenerated from /repo (`Ice.Gen.*`) and what the model / property theorems
  assume. Decided by evaluation of the generated tables; see DESIGN.md section 2.4.
-/
namespace Ice.Bridge
open Ice.Gen

/-! ### bitmap mutation sites (C15) -/

/-- bitmaps ice may modify: ones it allocated, the builder's own, a postings list's own, and the
    documented output parameter of `OrInto` -/
def ownedOrigins : List (String × String) :=
  [("fresh", ""), ("field", "interim.Postings"), ("field", "PostingsList.postings"),
   ("entry-param", "PostingsList.OrInto#0")]

theorem mutations_owned : ∀ m ∈ Mutations.mutatedRoots, (m.2.2.1, m.2.2.2) ∈ ownedOrigins := by decide +kernel

end Ice.Bridge
