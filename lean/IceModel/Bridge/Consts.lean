import IceModel.Gen.Consts
/-
  Bridge between facts regenerated from /repo (`Ice.Gen.*`) and what the model / property theorems
  assume. Decided by evaluation of the generated tables; see DESIGN.md section 2.4.
-/
namespace Ice.Bridge
open Ice.Gen

/-! ### format constants (C10; also C01, C05, C06, C07) -/

theorem consts_pinned :
    Consts.Version = 2 ∧ Consts.footerLen = 44 ∧
    Consts.crcWidth = 4 ∧ Consts.verWidth = 4 ∧ Consts.chunkWidth = 4 ∧ Consts.fdvOffsetWidth = 8 ∧
    Consts.fieldsOffsetWidth = 8 ∧ Consts.storedOffsetWidth = 8 ∧ Consts.numDocsWidth = 8 ∧
    Consts.legacyChunkMode = 1024 ∧ Consts.chunkModeV1 = 1025 ∧ Consts.defaultChunkMode = 1025 ∧
    Consts.maxDocsToScanSequentially = 1024 ∧ Consts.defaultDocumentChunkSize = 128 ∧
    Consts.fileAddrWidth = 8 ∧ Consts.termNotEncoded = 0 ∧ Consts.termSeparator = 255 ∧
    Consts.fieldNotUninverted = 2 ^ 64 - 1 ∧ Consts.docDropped = 2 ^ 63 - 1 ∧
    Consts.docNum1HitFinished = 2 ^ 64 - 1 ∧
    Consts.fSTValEncodingMask = 2 ^ 63 + 2 ^ 62 ∧ Consts.fSTValEncoding1Hit = 2 ^ 63 ∧
    Consts.mask31Bits = 2 ^ 31 - 1 ∧
    Consts.fieldDvStartWidth = 8 ∧ Consts.fieldDvEndWidth = 8 ∧ Consts.fieldDvStartEndWidth = 16 ∧
    Consts.lastByte = 128 ∧ Consts.significantBits = 127 ∧ Consts.sevenTimesNine = 63 := by
  decide +kernel

/-- the compression level is a valid zstd level; its value is deliberately not pinned (a file
    written with another level is still read identically) -/
theorem zstd_level_valid : 1 ≤ Consts.ZSTDCompressionLevel ∧ Consts.ZSTDCompressionLevel ≤ 22 := by
  decide +kernel

end Ice.Bridge
