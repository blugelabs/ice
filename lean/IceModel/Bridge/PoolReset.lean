import IceModel.Gen.PoolReset
/-
  Bridge between facts regenerated from /repo (`Ice.Gen.*`) and what the model / property theorems
  assume. Decided by evaluation of the generated tables; see DESIGN.md section 2.4.
-/
namespace Ice.Bridge
open Ice.Gen

/-! ### builder pool (C14) -/

/-- the reset plan the pool invariant is proved about -/
def resetPlan : List (String × List String) :=
  [("results", ["nil"]), ("chunkMode", ["zero"]), ("w", ["nil"]), ("FieldsMap", ["nil"]),
   ("FieldsInv", ["nil"]), ("Dicts", ["zero-elems", "trunc"]), ("DictKeys", ["trunc-elems", "trunc"]),
   ("IncludeDocValues", ["zero-elems", "trunc"]), ("Postings", ["call-elems:Clear", "trunc"]),
   ("FreqNorms", ["trunc"]), ("freqNormsBacking", ["zero-elems", "trunc"]), ("Locs", ["trunc"]),
   ("locsBacking", ["zero-elems", "trunc"]), ("numTermsPerPostingsList", ["trunc"]),
   ("numLocsPerPostingsList", ["trunc"]), ("builderBuf", ["call:Reset"]), ("builder", ["call:Reset"]),
   ("metaBuf", ["call:Reset"]), ("tmp0", ["trunc"]), ("tmp1", ["trunc"]), ("lastNumDocs", ["zero"]),
   ("lastOutSize", ["zero"])]

theorem reset_plan_pinned : PoolReset.resetPlan = resetPlan := by decide +kernel

/-- every field of the pooled object is reset, or unconditionally re-made before use -/
theorem reset_covers_all_fields :
    ∀ f ∈ PoolReset.interimFields, f ∈ PoolReset.resetPlan.map (·.1) ∨ f ∈ PoolReset.remade := by decide +kernel


end Ice.Bridge
