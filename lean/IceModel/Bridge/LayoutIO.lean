import IceModel.Bridge.LayoutCommon
/-
  Bridge: call order of the container-layout functions (see Bridge/LayoutCommon).
-/
namespace Ice.Bridge
open Ice.Gen

/-- persist: data through the hashing writer, footer from the fresh checksum, flush -/
theorem layout_segmentWriteTo :
    callsOf "Segment.WriteTo" ["newCountHashWriter", "WriteTo", "Sum32", "persistFooter", "Flush"]
      = ["newCountHashWriter", "WriteTo", "Sum32", "persistFooter", "Flush"] := by decide +kernel

theorem layout_load :
    callsOf "load" ["parseFooter", "Slice", "loadFields", "loadStoredFieldChunk", "loadDvReaders"]
      = ["parseFooter", "Slice", "loadFields", "loadStoredFieldChunk", "loadDvReaders"] := by decide +kernel

end Ice.Bridge
