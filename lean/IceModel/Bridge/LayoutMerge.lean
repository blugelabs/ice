import IceModel.Bridge.LayoutCommon
/-
  Bridge: call order of the container-layout functions (see Bridge/LayoutCommon).
-/
namespace Ice.Bridge
open Ice.Gen

/-- merger: field list, document count, stored section + maps, dictionaries, fields section -/
theorem layout_mergeToWriter :
    callsOf "mergeToWriter" ["mergeFields", "computeNewDocCount", "mergeStoredAndRemap", "persistMergedRest", "persistFields"]
      = ["mergeFields", "computeNewDocCount", "mergeStoredAndRemap", "persistMergedRest", "persistFields"] := by decide +kernel

theorem layout_mergeBases :
    callsOf "mergeSegmentBasesWriter" ["newCountHashWriter", "mergeToWriter", "Sum32", "persistFooter", "Count"]
      = ["newCountHashWriter", "mergeToWriter", "Sum32", "persistFooter", "Count"] := by decide +kernel

/-- the visit context is taken from its pool once and returned once -/
theorem layout_mergeStored :
    callsOf "mergeStoredAndRemap" ["Get", "Put", "newChunkedDocumentCoder", "copyStoredDocs", "mergeStoredAndRemapSegment", "Write", "binary.Write"]
      = ["Get", "Put", "newChunkedDocumentCoder", "copyStoredDocs", "mergeStoredAndRemapSegment", "Write", "binary.Write"] := by decide +kernel

theorem layout_mergeRestField :
    callsOf "persistMergedRestField"
      ["setupActiveForField", "newEnumerator", "finishTerm", "prepareNewTerm", "postingsListFromOffset", "iterator",
       "mergeTermFreqNormLocs", "writeMergedDict", "buildMergedDocVals"]
      = ["setupActiveForField", "newEnumerator", "finishTerm", "prepareNewTerm", "postingsListFromOffset", "iterator",
         "mergeTermFreqNormLocs", "finishTerm", "writeMergedDict", "buildMergedDocVals"] := by decide +kernel

theorem layout_finishTerm :
    callsOf "finishTerm" ["Close", "writePostings", "Insert", "Clear", "Reset"]
      = ["Close", "Close", "writePostings", "Insert", "Clear", "Reset", "Reset"] := by decide +kernel

end Ice.Bridge
