import IceModel.Lemmas.CacheFaultIterRun
import IceModel.Lemmas.CacheFaultDvFix
/-
  Property C19, reader-side caches (model: `Model/CacheFault.lean`; event orders pinned by
  `Bridge/Events.lean`).  "If the underlying storage returns an error during any read API call, that
  call reports an error or an empty result, and the segment stays usable": here, for every reader
  object with a cache filled from storage, every later call on the SAME object returns the healthy
  answer or an error - no panic that the healthy call does not have, never another entry's data.
-/
namespace Ice.Props.C19Cache
open Ice.Model.CacheFault

/-- **C19, postings iterator.**  Storage starts failing at read `f` (any `f`, also in the middle of
    a call, between the two sub-loads of a chunk); iterator new or reused (`currChunk = 0`), any
    flags, any script whose chunk numbers never decrease: every outcome is the outcome of the same
    call on a healthy storage, or an error. -/
theorem C19_iterator (st : IStore) (f clk : Nat) (it : PIter) (as : List IAcc)
    (h0 : it.currChunk = 0) (hE : it.freq.encoded = true) (hmono : Monotone as) :
    Pointwise SameOrError (PIter.run ifixed st (failFrom f) clk it as)
      (PIter.run ifixed st healthy clk it as) :=
  PIter.run_failFrom st f as hmono clk it hE fun _ _ => h0 ▸ Nat.zero_le _

/-- `C19_iterator` spelled out by position -/
theorem C19_iterator_pointwise (st : IStore) (f clk : Nat) (it : PIter) (as : List IAcc)
    (h0 : it.currChunk = 0) (hE : it.freq.encoded = true) (hmono : Monotone as)
    (i : Nat) (hi : i < as.length) :
    (PIter.run ifixed st (failFrom f) clk it as)[i]'(by rw [PIter.run_length]; exact hi) =
      (PIter.run ifixed st healthy clk it as)[i]'(by rw [PIter.run_length]; exact hi) ∨
    (PIter.run ifixed st (failFrom f) clk it as)[i]'(by rw [PIter.run_length]; exact hi) = .error :=
  (C19_iterator st f clk it as h0 hE hmono).get i _ _

theorem C19_iterator_no_panic (st : IStore) (f clk : Nat) (it : PIter) (as : List IAcc)
    (h0 : it.currChunk = 0) (hE : it.freq.encoded = true) (hmono : Monotone as)
    (hh : ∀ x ∈ PIter.run ifixed st healthy clk it as, x ≠ .panic) :
    ∀ x ∈ PIter.run ifixed st (failFrom f) clk it as, x ≠ .panic := by
  intro x hx
  obtain ⟨i, hi, rfl⟩ := List.getElem_of_mem hx
  have hi' : i < as.length := by rwa [PIter.run_length] at hi
  rcases C19_iterator_pointwise st f clk it as h0 hE hmono i hi' with h | h
  · rw [h]; exact hh _ (List.getElem_mem _)
  · rw [h]; simp

/-- **Key invariant, ANY oracle (transient faults included), any script**: after every call,
    "guard false ⇒ the freq/norm reader and (if wanted) the location reader hold chunk `currChunk`".
    In particular a false guard never meets a nil reader. -/
theorem C19_iterator_invariant (st : IStore) (o : Oracle) (clk : Nat) (it : PIter) (as : List IAcc)
    (hfresh : it.Fresh) :
    PIter.CacheInv st (PIter.exec ifixed st o clk it as).1 :=
  PIter.exec_inv st o as clk it hfresh.2.2 (PIter.Fresh.cacheInv st hfresh)

/-! ### concrete storage: three chunks of three postings; ids make staleness visible -/

def fs3 : Store FItem := fun n =>
  if n < 3 then some [⟨100 * n, true⟩, ⟨100 * n + 1, false⟩, ⟨100 * n + 2, true⟩] else none
def ls3 : Store Nat := fun n => if n < 3 then some [1000 * n, 1000 * n + 2] else none
def st3 : IStore := ⟨fs3, ls3⟩

/-- first posting, second posting, then an Advance that leaves chunk 0 from its middle and skips
    the first posting of chunk 1, then Next, then an Advance to the last posting of chunk 2 -/
def script3 : List IAcc := [⟨0, 0⟩, ⟨0, 0⟩, ⟨1, 1⟩, ⟨1, 0⟩, ⟨2, 2⟩]

theorem script3_monotone : Monotone script3 := by unfold Monotone script3; decide +kernel

/-- non-vacuity: the healthy answers, the faulty ones for a failure in the middle of the load of
    chunk 1 (freq/norm part read, location part fails), and the run continues with errors -/
theorem C19_iterator_example_healthy :
    PIter.run ifixed st3 healthy 0 (PIter.new true true) script3 =
      [.ok (some (0, some 0)), .ok (some (1, none)), .ok (some (101, none)),
       .ok (some (102, some 1002)), .ok (some (202, some 2002))] := by decide +kernel

theorem C19_iterator_example_faulty :
    PIter.run ifixed st3 (failFrom 3) 0 (PIter.new true true) script3 =
      [.ok (some (0, some 0)), .ok (some (1, none)), .error, .error, .error] := by decide +kernel

example : Pointwise SameOrError (PIter.run ifixed st3 (failFrom 3) 0 (PIter.new true true) script3)
    (PIter.run ifixed st3 healthy 0 (PIter.new true true) script3) :=
  C19_iterator st3 3 0 _ script3 rfl rfl script3_monotone

/-- **transient faults: FALSE.**  Schedule: only read 2 (the freq/norm read of chunk 1) fails.  The
    failed call has already consumed its posting from the bitmap; the next call loads chunk 1 and
    delivers the FIRST entry of the chunk (100, locations 1000) for the third posting (healthy:
    102, locations 1002): a wrong answer without an error.  Outside C19's quantifier (storage that
    recovers), but a caller that retries after an error gets another posting's data. -/
theorem C19_iterator_transient_counterexample :
    ¬ Pointwise SameOrError (PIter.run ifixed st3 (fun k => k == 2) 0 (PIter.new true true) script3)
        (PIter.run ifixed st3 healthy 0 (PIter.new true true) script3) := by
  intro h
  have := h.get 3 (by decide) (by decide)
  revert this
  decide

/-- defect F-C19-halfchunk, code before 0ab4d30: location part of chunk 0 fails on a NEW iterator
    (`currChunk = 0`), the freq/norm part stays: the next call passes the guard and reads
    locations from a nil reader -/
theorem C19_iterator_v0_counterexample :
    PIter.run iv0 st3 (failFrom 1) 0 (PIter.new true true) [⟨0, 0⟩, ⟨0, 0⟩] = [.error, .panic] := by decide +kernel

/-- the same calls on the repaired code -/
theorem C19_iterator_v0_repaired :
    PIter.run ifixed st3 (failFrom 1) 0 (PIter.new true true) [⟨0, 0⟩, ⟨0, 0⟩] = [.error, .error] := by decide +kernel

/-- seeded change, `currChunk` assigned first: the load of chunk 1 fails, the key already says 1;
    the next call passes the guard and decodes chunk 0's third entry (2 / 2) where the healthy
    answer is chunk 1's (102 / 1002): wrong data, no error -/
theorem C19_iterator_keyfirst_counterexample :
    PIter.run ikeyFirst st3 (failFrom 2) 0 (PIter.new true true) script3 =
      [.ok (some (0, some 0)), .ok (some (1, none)), .error, .ok (some (2, some 2)), .error] := by decide +kernel

/-- the invariant is what the pre-repair variant breaks -/
theorem C19_iterator_v0_breaks_invariant :
    ¬ PIter.CacheInv st3 (PIter.exec iv0 st3 (failFrom 1) 0 (PIter.new true true) [⟨0, 0⟩]).1 := by
  intro h
  have h2 := (h (by decide +kernel)).2 (by decide +kernel)
  unfold PIter.DHolds at h2
  rw [if_pos (by decide +kernel)] at h2
  obtain ⟨c, pos, _, _, h3⟩ := h2
  -- the location reader is still the nil pointer
  have : (PIter.exec iv0 st3 (failFrom 1) 0 (PIter.new true true) [⟨0, 0⟩]).1.loc.rdr = none := by
    decide +kernel
  rw [this] at h3
  cases h3

/-- chunks of 4 documents; chunk 0 = docs 0,1,2 (end offsets 2,4,6), chunk 1 = docs 4,5,6,7 (end
    offsets 3,5,9,10, data 100..109), chunk 2 = docs 8,10, chunk 3 and later empty -/
def dv3 : DvStore := fun n =>
  if n = 0 then some ⟨[⟨0, 2⟩, ⟨1, 4⟩, ⟨2, 6⟩], [0, 1, 2, 3, 4, 5]⟩
  else if n = 1 then some ⟨[⟨4, 3⟩, ⟨5, 5⟩, ⟨6, 9⟩, ⟨7, 10⟩], [100, 101, 102, 103, 104, 105, 106, 107, 108, 109]⟩
  else if n = 2 then some ⟨[⟨8, 1⟩, ⟨10, 2⟩], [200, 201]⟩
  else none

def chunkOf4 (d : Nat) : Nat := d / 4

theorem dv3_wf : DvWF chunkOf4 dv3 := by
  refine ⟨fun d d' h => Nat.div_le_div_right h, ?_, ?_⟩
  · intro n c h
    match n, h with
    | 0, h | 1, h | 2, h => cases h; decide +kernel
    | n + 3, h => cases h
  · intro n c h
    match n, h with
    | 0, h | 1, h | 2, h => cases h; decide +kernel
    | n + 3, h => cases h

/-! ### the code as it is (repair F-C19-dvheader: key invalidated before the first read) -/

/-- **C19, doc values, full strength.**  Storage of one field with chunks holding disjoint
    ascending doc-number ranges (`DvWF`); new reader; visits in ANY order; ANY oracle (`failFrom`,
    transient faults, anything): every outcome is EXACTLY what the specification says for the
    document (its values; nothing when it has none) or an error - never values of another document,
    never a spurious "nothing", and a panic only where the specification has one (`DvWF` does not
    say that the offsets of a chunk ascend and stay inside its data: corrupt content is outside C19). -/
theorem C19_docvalues (chunkOf : Nat → Nat) (st : DvStore) (wf : DvWF chunkOf st) (o : Oracle)
    (clk : Nat) (ds : List Nat) (hd : ∀ d ∈ ds, chunkOf d ≠ noChunk) :
    Pointwise (DvExact chunkOf st) (DvReader.run dfixed chunkOf st o clk {} ds) ds :=
  run_fixed wf.sorted o ds clk {} (Or.inl rfl) hd

/-- one visit, from any reader that holds nothing or exactly the chunk its key names: the values,
    or an error together with a read that failed DURING THIS CALL; the reader keeps that property -/
theorem C19_docvalues_visit (chunkOf : Nat → Nat) (st : DvStore) (wf : DvWF chunkOf st) (o : Oracle)
    (clk : Nat) (r : DvReader) (d : Nat) (h : Holds st r) (hd : chunkOf d ≠ noChunk) :
    ((r.visit dfixed chunkOf st o clk d).2.2 = specValues chunkOf st d ∨
      ((r.visit dfixed chunkOf st o clk d).2.2 = .error ∧
        ∃ k, clk ≤ k ∧ k < (r.visit dfixed chunkOf st o clk d).2.1 ∧ o k = true)) ∧
    Holds st (r.visit dfixed chunkOf st o clk d).1 :=
  visit_fixed wf.sorted h hd rfl

/-- the cache is transparent: on a healthy storage every visit (any order) returns exactly the
    document's values -/
theorem C19_docvalues_healthy (chunkOf : Nat → Nat) (st : DvStore) (wf : DvWF chunkOf st) (clk : Nat)
    (ds : List Nat) (hd : ∀ d ∈ ds, chunkOf d ≠ noChunk) :
    DvReader.run dfixed chunkOf st healthy clk {} ds = ds.map (specValues chunkOf st) :=
  run_fixed_healthy wf.sorted ds clk {} (Or.inl rfl) hd

/-- non-vacuity, and the schedules of the pre-repair counterexamples on the current code: a load
    of chunk 0 cut short while chunk 1 is cached (downward), then chunk 1 again - error, not
    another document's values; a transient fault in the middle of the header of chunk 1, then
    documents of chunk 0 - the chunk is loaded again, the values are right -/
theorem C19_docvalues_example :
    DvReader.run dfixed chunkOf4 dv3 (failFrom 13) 0 {} [5, 1, 5] = [.ok [103, 104], .error, .error] ∧
    DvReader.run dfixed chunkOf4 dv3 (failFrom 11) 0 {} [1, 5, 2, 1, 6, 13] =
      [.ok [2, 3], .error, .error, .error, .error, .ok []] ∧
    DvReader.run dfixed chunkOf4 dv3 (fun k => k == 11) 0 {} [1, 5, 2, 1, 6] =
      [.ok [2, 3], .error, .ok [4, 5], .ok [2, 3], .ok [105, 106, 107, 108]] ∧
    [1, 5, 2, 1, 6, 13].map (specValues chunkOf4 dv3) =
      [.ok [2, 3], .ok [103, 104], .ok [4, 5], .ok [2, 3], .ok [105, 106, 107, 108], .ok []] := by decide +kernel

example : Pointwise (DvExact chunkOf4 dv3)
    (DvReader.run dfixed chunkOf4 dv3 (fun k => k == 11) 0 {} [1, 5, 2, 1, 6]) [1, 5, 2, 1, 6] :=
  C19_docvalues chunkOf4 dv3 dv3_wf _ 0 _ (by decide +kernel)

/-- seeded change, `curChunkNum` assigned before the read of the data (on the current code): that
    read fails (read 17), the key says chunk 1, the header is chunk 1's, data and decompressed copy
    are chunk 0's: the next visits are cache hits that slice chunk 0's data with
    chunk 1's offsets - stale values ([3,4] for document 5, healthy [103,104]) and a slice beyond
    the data (panic) -/
theorem C19_docvalues_keyfirst_counterexample :
    DvReader.run dkeyFirst chunkOf4 dv3 (failFrom 17) 0 {} [1, 5, 5, 6] =
      [.ok [2, 3], .error, .ok [3, 4], .panic] := by decide +kernel

/-- the same seeded change on the pre-repair loader -/
theorem C19_docvalues_keyfirst_v0_counterexample :
    DvReader.run dkeyFirstV0 chunkOf4 dv3 (failFrom 17) 0 {} [1, 5, 5, 6] =
      [.ok [2, 3], .error, .ok [3, 4], .panic] := by decide +kernel

/-- the same calls on the code as it is -/
theorem C19_docvalues_keyfirst_fixed :
    DvReader.run dfixed chunkOf4 dv3 (failFrom 17) 0 {} [1, 5, 5, 6] =
      [.ok [2, 3], .error, .error, .error] := by decide +kernel

/-! ### the loader before repair F-C19-dvheader (`dV0`): the defect and what did hold -/

/-- **defect F-C19-dvheader: for the pre-repair loader the statement is FALSE, also under
    `failFrom`.**  Visits may come in any order, and a load that fails half-way while moving
    DOWNWARDS leaves the entries of the earlier chunk in FRONT of the surviving entries of the
    cached chunk, with `curChunkNum` still naming the cached chunk.  The binary search for a document
    of the cached chunk then lands on a surviving entry whose predecessor is an entry of the
    other chunk, and the start offset is taken from that one.

    Visit doc 5 (chunk 1 loaded with reads 0..9: healthy answer [103,104]); visit doc 1: the load
    of chunk 0 reads numDocs (read 10) and entry 0 (reads 11,12), then read 13 fails;
    `curChunkNum` is still 1, the header is [⟨0,2⟩, ⟨5,5⟩, ⟨6,9⟩].  Visit doc 5 again: cache hit, no
    storage read, found at index 1, start = 2 (chunk 0's offset) instead of 3: the answer
    [102,103,104] contains a value of document 4 - no error, not empty, not healthy.
    Reproduced on the Go code (known_findings.json, F-C19-dvheader). -/
theorem C19_docvalues_v0_counterexample :
    DvReader.run dV0 chunkOf4 dv3 (failFrom 13) 0 {} [5, 1, 5] =
      [.ok [103, 104], .error, .ok [102, 103, 104]] ∧
    specValues chunkOf4 dv3 5 = .ok [103, 104] := by decide +kernel

/-- the same schedule with offsets that cross: slice bounds out of range = panic -/
def dv3p : DvStore := fun n =>
  if n = 0 then some ⟨[⟨0, 7⟩, ⟨1, 8⟩, ⟨2, 9⟩], [0, 1, 2, 3, 4, 5, 6, 7, 8]⟩ else dv3 n

theorem C19_docvalues_v0_counterexample_panic :
    DvReader.run dV0 chunkOf4 dv3p (failFrom 13) 0 {} [5, 1, 5] = [.ok [103, 104], .error, .panic] := by decide +kernel

/-- **pre-repair loader, upward faults.**  Under `failFrom`, visits in ANY order: IF the load that is
    cut short by the failure (there is at most one) moves to a later chunk than the cached one,
    or nothing is cached (`UpwardFaults`), THEN every visit returns what the
    specification says for the document (its values; a panic only where the specification has
    one), an error, or nothing - never values of another document. -/
theorem C19_docvalues_v0_partial (chunkOf : Nat → Nat) (st : DvStore) (wf : DvWF chunkOf st) (f clk : Nat)
    (r : DvReader) (ds : List Nat) (hr : Clean st r) (hd : ∀ d ∈ ds, chunkOf d ≠ noChunk)
    (hup : UpwardFaults dV0 chunkOf st (failFrom f) clk r ds) :
    Pointwise (DvAllowed chunkOf st) (DvReader.run dV0 chunkOf st (failFrom f) clk r ds) ds := by
  -- until a load is cut short the reader is clean; from then on the storage fails and it is safe
  refine run_pointwise
    (I := fun clk r ds => (Clean st r ∧ UpwardFaults dV0 chunkOf st (failFrom f) clk r ds) ∨
      (f ≤ clk ∧ Safe chunkOf st r))
    (fun h hd hv => ?_) ds clk r (Or.inl ⟨hr, hup⟩) hd
  rcases h with ⟨hcl, hup1, hup2⟩ | ⟨hf, hs⟩
  · rw [hv] at hup2
    obtain ⟨h1, _, h3⟩ := visit_clean wf hcl hd hup1 hv
    exact ⟨h1, h3.imp (fun h => ⟨h, hup2⟩) fun ⟨h3, k, hk1, hk2⟩ =>
      ⟨Nat.le_trans (of_decide_eq_true hk2) (Nat.le_of_lt hk1), h3⟩⟩
  · obtain ⟨h1, h2, h3⟩ := visit_dead wf (failFrom_ge hf) hs hd hv
    exact ⟨h1, Or.inr ⟨Nat.le_trans hf h2, h3⟩⟩

/-- pre-repair loader, ascending visits (the order in which a collector walks a segment): no
    further hypothesis -/
theorem C19_docvalues_v0_ascending (chunkOf : Nat → Nat) (st : DvStore) (wf : DvWF chunkOf st) (f clk : Nat)
    (ds : List Nat) (hd : ∀ d ∈ ds, chunkOf d ≠ noChunk) (hasc : Ascending chunkOf ds) :
    Pointwise (DvAllowed chunkOf st) (DvReader.run dV0 chunkOf st (failFrom f) clk {} ds) ds :=
  C19_docvalues_v0_partial chunkOf st wf f clk {} ds (fresh_clean st) hd
    (upward_of_ascending st (failFrom f) ds clk {} (Or.inl rfl) hasc)

theorem C19_docvalues_v0_healthy (chunkOf : Nat → Nat) (st : DvStore) (wf : DvWF chunkOf st) (clk : Nat)
    (ds : List Nat) (hd : ∀ d ∈ ds, chunkOf d ≠ noChunk) :
    DvReader.run dV0 chunkOf st healthy clk {} ds = ds.map (specValues chunkOf st) :=
  run_healthy wf.sorted ds clk {} (Or.inl rfl) hd

/-- pre-repair loader: as long as no load has been cut short, a visit (any oracle) returns EXACTLY
    the values or an error caused by a read failing in that very call -/
theorem C19_docvalues_v0_clean_exact (chunkOf : Nat → Nat) (st : DvStore) (wf : DvWF chunkOf st) (o : Oracle)
    (clk : Nat) (r : DvReader) (d : Nat) (hcl : Clean st r) (hd : chunkOf d ≠ noChunk) :
    (r.visit dV0 chunkOf st o clk d).2.2 = specValues chunkOf st d ∨
    ((r.visit dV0 chunkOf st o clk d).2.2 = .error ∧
      ∃ k, clk ≤ k ∧ k < (r.visit dV0 chunkOf st o clk d).2.1 ∧ o k = true) :=
  (visit_v0 wf.sorted hcl.holds hd rfl).imp (fun h => h.1) (fun h => ⟨h.1, h.2.1⟩)

/-- pre-repair loader, non-vacuity: an upward fault in the middle of the header of chunk 1 (read 11);
    the run continues on the damaged reader: documents 2 and 1 of the still-cached chunk 0 now
    answer "nothing" (they have values), chunk 3 is empty -/
theorem C19_docvalues_v0_example :
    DvReader.run dV0 chunkOf4 dv3 (failFrom 11) 0 {} [1, 5, 2, 1, 6, 13] =
      [.ok [2, 3], .error, .ok [], .ok [], .error, .ok []] := by decide +kernel

theorem C19_docvalues_v0_example_upward :
    UpwardFaults dV0 chunkOf4 dv3 (failFrom 11) 0 {} [1, 5, 2, 1, 6, 13] := by
  simp only [UpwardFaults, and_true]
  refine ⟨?_, ?_, ?_, ?_, ?_, ?_⟩ <;> (unfold partialFail; decide)

example : Pointwise (DvAllowed chunkOf4 dv3)
    (DvReader.run dV0 chunkOf4 dv3 (failFrom 11) 0 {} [1, 5, 2, 1, 6, 13]) [1, 5, 2, 1, 6, 13] :=
  C19_docvalues_v0_partial chunkOf4 dv3 dv3_wf 11 0 {} _ (fresh_clean dv3) (by decide +kernel) C19_docvalues_v0_example_upward

/-- pre-repair loader, transient faults: only read 11 fails.  Storage is healthy again, but
    documents 2 and 1 - visited WITHOUT any failing read (cache hits) - answer "nothing" although
    they have values.  With the repair this cannot happen (`C19_docvalues` holds for every oracle;
    third run of `C19_docvalues_example`). -/
theorem C19_docvalues_v0_transient_counterexample :
    DvReader.run dV0 chunkOf4 dv3 (fun k => k == 11) 0 {} [1, 5, 2, 1, 6] =
      [.ok [2, 3], .error, .ok [], .ok [], .ok [105, 106, 107, 108]] ∧
    specValues chunkOf4 dv3 2 = .ok [4, 5] ∧ specValues chunkOf4 dv3 1 = .ok [2, 3] := by decide +kernel

/-- **C19, decoder: loads are atomic.**  Any oracle, any access: the step is the healthy step
    (same state, same counter, same outcome), or it is a load whose read failed - an error that
    leaves the decoder exactly as it was. -/
theorem C19_decoder {α : Type} (st : Store α) (o : Oracle) (clk : Nat) (d : Dec α) (a : DAcc) :
    d.step st o clk a = d.step st healthy clk a ∨
    ((d.step st o clk a).2.2 = .error ∧ (d.step st o clk a).1 = d ∧ o clk = true ∧ ∃ n, a = .load n) := by
  cases a with
  | read => left; rfl
  | isNil => left; rfl
  | load n =>
    simp only [Dec.step]
    rcases Dec.loadChunk_oracle st o clk d n with e | ⟨e, ho⟩ <;> rw [e]
    · exact Or.inl rfl
    · exact Or.inr ⟨rfl, rfl, ho, n, rfl⟩

/-- no storage fault makes the decoder panic or deliver another item: a panic or an item is the
    healthy step's -/
theorem C19_decoder_no_new_panic {α : Type} (st : Store α) (o : Oracle) (clk : Nat) (d : Dec α) (a : DAcc)
    (h : (d.step st o clk a).2.2 ≠ .error) :
    (d.step st o clk a).2.2 = (d.step st healthy clk a).2.2 := by
  rcases C19_decoder st o clk d a with h1 | ⟨h1, _⟩
  · rw [h1]
  · exact absurd h1 h

end Ice.Props.C19Cache
