import IceModel.Props.E2EBuild
import IceModel.Props.C04Total
/-
  END TO END, builder path, without "the writer succeeded", and for the segment `New` RETURNS.

  `Props/E2EBuild.lean` proves: for a batch inside the contract and the bounds, IF `serialize`
  succeeds, the file loads and the loaded segment reads as `Spec.build nc mode b` (`ReadsAs`).
  `Props/C04Total.lean` proves: `serialize` never fails on a valid description, and the segment
  `New` hands back through `initSegmentBase` (`initSegment`, no file involved) IS the segment
  loaded memory-backed from the persisted file (since commit 6ad80a3; before it - `initSegmentV0`
  - up to the checksum slot of the footer).  Here the two are combined:

    E2E_total          no hypothesis `hs`: the writer succeeds, the file loads on BOTH backings, and
                       each loaded segment reads as the specification
    readsAs_withCrc    `ReadsAs` does not look at the checksum slot of the footer
    E2E_new            `initSegment K (r.toLSeg mode) = .ok nw` and `ReadsAs K (build nc mode b) nw`:
                       the segment `New` returns, read directly, answers as the specification
    SameReads          "`ld` answers every read API of `ReadsAs` as `nw` does", observation by
                       observation (same FST values, same postings records, same transcripts, …)
    E2E_new_eq_loaded  the segment `New` returns and the segment loaded from the persisted file
                       (memory- or file-backed) are `SameReads`, both read as the specification,
                       and have the same footer (`Segment.CRC()` included)
    E2E_new_eq_loaded_mem   memory-backed: `ld = nw`
    crc_same           `Segment.CRC()` of the segment `New` returns = checksum the file ends with =
                       `CRC()` of the loaded segment (both backings)      [code after commit 6ad80a3]
    E2E_new_v0         the pre-fix `New` (`initSegmentV0`) also read as the specification …
    crc_v0_differs     … but reported another checksum than the loaded segment (alias, registered
                       name: `crc_not_an_observation`) - the defect 6ad80a3 repaired
    exn_*              the example batch `exB` of `Props/E2EBuild.lean`

  HYPOTHESES: those of `E2E_read` minus `hs`; nothing added.
-/
namespace Ice.Props.E2E
open Ice Ice.Spec Ice.Model Ice.Model.Builder Ice.Model.Format
open Ice.Model.IterBytes (PLB mkB runB toP)
open Ice.Model.Iter (RFlags)
open Ice.Model.Writer (Footer footerFields)

/-- **`ReadsAs` does not mention the checksum.**  Every observation of `ReadsAs` (`fieldsInv`,
    `fieldDocs`, `fieldFreqs`, `numDocs`, `chunkMode`, `loadedStats`, `dictionaryOf`,
    `readPostings`, `plbOf`, `storedSeg`, `dvReaders`, `data`) is the same function of a segment
    and of the segment with another value in `footer.crc` - by unfolding. -/
theorem readsAs_withCrc (K : Codecs) (S : AbsSeg) (ld : Loaded) (c : Nat) :
    ReadsAs K S (ld.withCrc c) ↔ ReadsAs K S ld :=
  ⟨fun h => ⟨h.fields, h.stats, h.dict, h.dictNone, h.iter, h.stored, h.dv⟩,
   fun h => ⟨h.fields, h.stats, h.dict, h.dictNone, h.iter, h.stored, h.dv⟩⟩

/-- **before commit 6ad80a3** `Segment.CRC()` was an observable on which the segment `New`
    returned and the loaded one disagreed (so it could not have been part of `ReadsAs`): on the
    example segment of `Props/C04.lean` the pre-fix `New` (`initSegmentV0`) and `load` report
    different checksums. -/
theorem crc_v0_differs :
    ∃ nw ld, initSegmentV0 C04.exK C04.exL = .ok nw ∧
      load true (fileOf C04.exK C04.exData C04.exFooter) = .ok ld ∧
      nw.footer.crc ≠ ld.footer.crc :=
  ⟨_, _, C04.C04_new_crc_v0_counterexample.1, C04.C04_new_crc_v0_counterexample.2.1, by decide⟩

/-- registered name; refers to the PRE-FIX code (`initSegmentV0`; commit 6ad80a3 repaired
    `newWithChunkMode`).  Alias of `crc_v0_differs`.  For the repaired `initSegment` the checksum
    is the same on both segments: `crc_same`. -/
theorem crc_not_an_observation :
    ∃ nw ld, initSegmentV0 C04.exK C04.exL = .ok nw ∧
      load true (fileOf C04.exK C04.exData C04.exFooter) = .ok ld ∧
      nw.footer.crc ≠ ld.footer.crc :=
  crc_v0_differs

/-- **`ld` answers every read API as `nw` does** - the observations of `ReadsAs K S`, one by one,
    compared between two segments (`S` only delimits the arguments: field ids / terms / documents
    of the segment).
    * `fields`, `stats`   tables, document count, chunk mode, `CollectionStats` of every name
    * `dict`     `Segment.dictionary` of EVERY field id gives the same result (same FST: same keys
                 AND the same values, i.e. postings offsets)
    * `postings` for every term of every field: `PostingsList.read` at the FST value gives the
                 same postings list (offsets, document numbers, chunk size) …
    * `iter`     … and iterators over it - any exclusion bitmap, flags, script, fresh or built over
                 any used iterator - are created without error on both and give the same
                 transcript (seen through the flags the caller asked for)
    * `stored`   `VisitStoredFields` gives the same result for every document number, buffer, stop
    * `dv`       the same doc-value readers; every sequence of visits of documents of the segment
                 from such a reader succeeds on both with the same terms and the same reader after -/
structure SameReads (K : Codecs) (S : AbsSeg) (nw ld : Loaded) : Prop where
  fields : ld.fieldsInv = nw.fieldsInv ∧ ld.fieldDocs = nw.fieldDocs ∧ ld.fieldFreqs = nw.fieldFreqs ∧
    ld.footer.numDocs = nw.footer.numDocs ∧ ld.footer.chunkMode = nw.footer.chunkMode
  stats : ∀ f, loadedStats ld f = loadedStats nw f
  dict : ∀ i : Nat, dictionaryOf K ld i = dictionaryOf K nw i
  postings : ∀ (i : Nat) (f : Bytes), S.fields[i]? = some f →
    ∀ (j : Nat) (t : Bytes), (terms S f)[j]? = some t →
    ∃ fst v fo lo docs cs, dictionaryOf K nw i = .ok (some fst) ∧ fst[j]? = some (t, v) ∧
      readPostings K nw v = .ok (.general fo lo docs cs) ∧
      readPostings K ld v = .ok (.general fo lo docs cs) ∧
      ∀ (ex : Option (List Nat)) (fl : Flags) (ops : List IterOp),
        (∃ i0 i0', mkB (plbOf nw fo lo cs docs ex) (RFlags.of fl) = .ok i0 ∧
          mkB (plbOf ld fo lo cs docs ex) (RFlags.of fl) = .ok i0' ∧
          (runB K.chunk i0' ops).map (C05Bytes.viewRes fl) =
            (runB K.chunk i0 ops).map (C05Bytes.viewRes fl)) ∧
        ∀ used used' : Ice.Model.IterBytes.ItB,
          ∃ i1 i1', Ice.Model.IterBytes.mkBReuse used (plbOf nw fo lo cs docs ex) (RFlags.of fl) = .ok i1 ∧
            Ice.Model.IterBytes.mkBReuse used' (plbOf ld fo lo cs docs ex) (RFlags.of fl) = .ok i1' ∧
            (runB K.chunk i1' ops).map (C05Bytes.viewRes fl) =
              (runB K.chunk i1 ops).map (C05Bytes.viewRes fl)
  stored : ∀ (n : Nat) (buf : Stored.Buf) (stop : Option Nat),
    Stored.visit K.stored ld.storedSeg buf n stop = Stored.visit K.stored nw.storedSeg buf n stop
  dv : ld.dvReaders = nw.dvReaders ∧
    ∀ (i : Nat) (r0 : DocValues.Reader), nw.dvReaders[i]? = some (some r0) → i < S.fields.length →
      ∀ ds : List Nat, (∀ d ∈ ds, d < S.docs.length) →
        ∃ out, DocValues.Reader.visitAll K.dv nw.data dvChunk r0 ds = .ok out ∧
          DocValues.Reader.visitAll K.dv ld.data dvChunk r0 ds = .ok out

/-- **transfer.**  Two segments that both read as `S`, with the same tables, the same
    dictionaries, the same stored-fields reader, the same doc-value readers, and on which
    `readPostings` / doc-value visits of the second succeed with the first's result whenever the
    first's succeed, answer every read API identically. -/
theorem sameReads_of {K : Codecs} {S : AbsSeg} {nw ld : Loaded}
    (hn : ReadsAs K S nw) (hl : ReadsAs K S ld)
    (hdict : ∀ i : Nat, dictionaryOf K ld i = dictionaryOf K nw i)
    (hpost : ∀ v, DocValues.OkLe (readPostings K nw v) (readPostings K ld v))
    (hst : ld.storedSeg = nw.storedSeg)
    (hdvr : ld.dvReaders = nw.dvReaders)
    (hvis : ∀ (r0 : DocValues.Reader) (ds : List Nat),
      DocValues.OkLe (DocValues.Reader.visitAll K.dv nw.data dvChunk r0 ds)
        (DocValues.Reader.visitAll K.dv ld.data dvChunk r0 ds)) :
    SameReads K S nw ld := by
  obtain ⟨n1, n2, n3, n4, n5⟩ := hn.fields
  obtain ⟨l1, l2, l3, l4, l5⟩ := hl.fields
  refine ⟨⟨by rw [l1, n1], by rw [l2, n2], by rw [l3, n3], by rw [l4, n4], by rw [l5, n5]⟩,
    fun f => by rw [hl.stats, hn.stats], hdict, ?_, fun n buf stop => by rw [hst], hdvr, ?_⟩
  · intro i f hf j t ht
    obtain ⟨fst, v, fo, lo, cs, hd, hj, hr, hit⟩ := hn.iter i f hf j t ht
    obtain ⟨fst', v', fo', lo', cs', hd', hj', hr', hit'⟩ := hl.iter i f hf j t ht
    -- the same dictionary, hence the same FST value; the same record, hence the same offsets
    rw [hdict, hd] at hd'
    cases hd'
    rw [hj] at hj'
    cases hj'
    have hr2 := hpost v _ hr
    rw [hr2] at hr'
    cases hr'
    refine ⟨fst, v, fo, lo, _, cs, hd, hj, hr, hr2, ?_⟩
    intro ex fl ops
    obtain ⟨i0, hmk, hrun⟩ := hit ex fl ops
    obtain ⟨i0', hmk', hrun'⟩ := hit' ex fl ops
    refine ⟨⟨i0, i0', hmk, hmk', by rw [hrun, hrun']⟩, ?_⟩
    intro used used'
    obtain ⟨i1, hre, h1⟩ := reuse_answers K (hit ex fl ops) used
    obtain ⟨i1', hre', h1'⟩ := reuse_answers K (hit' ex fl ops) used'
    exact ⟨i1, i1', hre, hre', h1'.trans h1.symm⟩
  · intro i r0 hr0 hi ds hds
    have hf : S.fields[i]? = some S.fields[i] := List.getElem?_eq_getElem hi
    obtain ⟨ro, hro, hm⟩ := hn.dv i _ hf
    cases hr0.symm.trans hro
    obtain ⟨r', hr'⟩ := hm ds hds
    exact ⟨_, hr', hvis r0 ds _ hr'⟩

section
variable {nc : Bytes → Nat → Nat} {π : Order} {b : Batch} {r : Built}
  (hv : ValidBatch b) (hπ : PermOK π) (hrun : run nc π b = .ok r)
  (mode : Nat) (hmode : 1 ≤ mode ∧ mode ≤ 1025) (hB : Bounds nc b)
  (K : Codecs) (hsz : Sizes K (r.toLSeg mode))

include hv hπ hrun hmode hB hsz in
/-- **E2E_total.**  For every batch inside the contract of `New` and the numeric bounds, every map
    order and every codec triple with the round-trip laws: `convert` / `WriteTo` SUCCEED
    (`C04_total`), the file loads - memory- and file-backed - and every read API of the loaded
    segment, executed on the bytes, returns what `Spec.build nc mode b` says. -/
theorem E2E_total :
    ∃ data ft, serialize K (r.toLSeg mode) = .ok (data, ft) ∧
      ∀ mem : Bool, ∃ ld, load mem (fileOf K data ft) = .ok ld ∧ ld.data.mem = mem ∧
        ReadsAs K (build nc mode b) ld := by
  have hV := E2E_valid hv hπ hrun mode hmode hB K hsz
  obtain ⟨data, ft, hs⟩ := C04.C04_total K _ hV.toValid'
  exact ⟨data, ft, hs, fun mem => E2E_read hv hπ hrun mode hmode hB K hsz hs mem⟩

include hv hπ hrun hmode hB hsz in
/-- the writer succeeds, and `New` returns the very segment the persisted file loads to,
    memory-backed (`C04_new_eq_load`); by `E2E_read` it reads as the specification -/
theorem new_loaded :
    ∃ data ft nw, serialize K (r.toLSeg mode) = .ok (data, ft) ∧
      initSegment K (r.toLSeg mode) = .ok nw ∧ load true (fileOf K data ft) = .ok nw ∧
      nw.footer = { ft with crc := K.crc.upd 0 (data ++ footerFields ft) } ∧
      nw.data = { bytes := data, mem := true } ∧ ReadsAs K (build nc mode b) nw := by
  have hV := E2E_valid hv hπ hrun mode hmode hB K hsz
  obtain ⟨data, ft, hs⟩ := C04.C04_total K _ hV.toValid'
  obtain ⟨nw, ld, hn, hl, rfl, hf, hd⟩ := C04.C04_new_eq_load K _ hV data ft hs
  obtain ⟨ld', hl', -, hR⟩ := E2E_read hv hπ hrun mode hmode hB K hsz hs true
  cases hl.symm.trans hl'
  exact ⟨data, ft, ld, hs, hn, hl, hf, hd, hR⟩

include hv hπ hrun hmode hB hsz in
/-- **E2E_new.**  `New` succeeds, and the segment it returns - assembled by `initSegmentBase` from
    the builder's tables and the data section, no file, nothing parsed - answers every read API,
    executed on its bytes, as `Spec.build nc mode b` says: field tables and statistics,
    dictionaries, postings iterators (fresh; reused: `ReadsAs.iter_reuse`), stored fields, doc values.
    It is memory-backed. -/
theorem E2E_new :
    ∃ nw, initSegment K (r.toLSeg mode) = .ok nw ∧ nw.data.mem = true ∧
      ReadsAs K (build nc mode b) nw := by
  obtain ⟨_, _, nw, _, hn, _, _, hd, hR⟩ := new_loaded hv hπ hrun mode hmode hB K hsz
  exact ⟨nw, hn, by rw [hd], hR⟩

include hv hπ hrun hmode hB hsz in
/-- **E2E_new_v0.**  The segment the PRE-FIX `New` returned (`initSegmentV0`, before commit
    6ad80a3) read as the specification too: it is the repaired one with another value in the
    checksum slot (`C04_new_eq_v0`), which `ReadsAs` does not look at (`readsAs_withCrc`). -/
theorem E2E_new_v0 :
    ∃ nw0, initSegmentV0 K (r.toLSeg mode) = .ok nw0 ∧ nw0.data.mem = true ∧
      ReadsAs K (build nc mode b) nw0 := by
  obtain ⟨data, ft, nw, hs, _, hl, _, _, hR⟩ := new_loaded hv hπ hrun mode hmode hB K hsz
  obtain ⟨nw0, ld, hn, hl', he, _, hd, _⟩ := C04.C04_new_v0_eq_load K _
    (E2E_valid hv hπ hrun mode hmode hB K hsz) data ft hs
  cases hl.symm.trans hl'
  rw [he] at hR
  exact ⟨nw0, hn, by rw [hd], (readsAs_withCrc K _ nw0 _).1 hR⟩

include hv hπ hrun hmode hB hsz in
/-- **E2E_new_eq_loaded** (property C04: "the loaded segment answers every read API identically to
    the original").  The writer succeeds; `New` returns `nw`; for both backings the persisted file
    loads to some `ld`; `nw` and `ld` both read as the specification, and `ld` gives the same
    answer as `nw` to every observation of `ReadsAs` (`SameReads`): tables and statistics, the
    dictionary of every field id, the postings list of every term, every iterator transcript,
    every stored-fields visit, every doc-value visit sequence.  Their footers are equal
    (`Segment.CRC()` included; code after commit 6ad80a3). -/
theorem E2E_new_eq_loaded :
    ∃ data ft nw, serialize K (r.toLSeg mode) = .ok (data, ft) ∧
      initSegment K (r.toLSeg mode) = .ok nw ∧ ReadsAs K (build nc mode b) nw ∧
      ∀ mem : Bool, ∃ ld, load mem (fileOf K data ft) = .ok ld ∧ ld.data.mem = mem ∧
        ReadsAs K (build nc mode b) ld ∧ SameReads K (build nc mode b) nw ld ∧
        ld.footer = nw.footer := by
  obtain ⟨data, ft, ld, hs, hn, hl, _, hm, hR⟩ := new_loaded hv hπ hrun mode hmode hB K hsz
  refine ⟨data, ft, ld, hs, hn, hR, ?_⟩
  intro mem
  cases mem with
  | true =>
    exact ⟨ld, hl, by rw [hm], hR, sameReads_of hR hR (fun _ => rfl) (fun _ => DocValues.OkLe.refl _) rfl rfl
      (fun _ _ => DocValues.OkLe.refl _), rfl⟩
  | false =>
    have hlf := load_toFile _ _ hl
    obtain ⟨ld2, hl2, hm2, hR2⟩ := E2E_read hv hπ hrun mode hmode hB K hsz hs false
    cases hlf.symm.trans hl2
    refine ⟨_, hlf, hm2, hR2, ?_, rfl⟩
    refine sameReads_of hR hR2 ?_ (fun v => readPostings_toFile K _ v) rfl rfl
      (fun r0 ds => DocValues.visitAll_toFile K.dv _ dvChunk ds r0)
    intro i
    -- `dictionaryOf` succeeds on `nw` for every field id (`ReadsAs.dict` / `dictNone`)
    obtain ⟨o, ho⟩ : ∃ o, dictionaryOf K ld i = .ok o := by
      cases hf : (build nc mode b).fields[i]? with
      | some f => obtain ⟨o, ho, _⟩ := hR.dict i f hf; exact ⟨o, ho⟩
      | none => exact ⟨none, hR.dictNone i hf⟩
    rw [ho]
    exact dictionaryOf_toFile K _ i o ho

include hv hπ hrun hmode hB hsz in
/-- **E2E_new_eq_loaded_mem** (code after commit 6ad80a3).  Memory-backed load: the loaded
    segment IS the segment `New` returned - every component, the checksum slot included - so
    every function of a segment gives the same result on both. -/
theorem E2E_new_eq_loaded_mem :
    ∃ data ft nw ld, serialize K (r.toLSeg mode) = .ok (data, ft) ∧
      initSegment K (r.toLSeg mode) = .ok nw ∧ load true (fileOf K data ft) = .ok ld ∧
      ld = nw ∧
      nw.footer.crc = K.crc.upd 0 (data ++ footerFields ft) ∧
      ReadsAs K (build nc mode b) nw := by
  obtain ⟨data, ft, nw, hs, hn, hl, hf, _, hR⟩ := new_loaded hv hπ hrun mode hmode hB K hsz
  exact ⟨data, ft, nw, nw, hs, hn, hl, rfl, by rw [hf], hR⟩

include hv hπ hrun hmode hB hsz in
/-- **crc_same** (code after commit 6ad80a3).  `Segment.CRC()` of the segment `New` returns is
    the checksum its persisted file ends with (the last four bytes, big-endian: CRC-32 of the
    data section followed by the 40 footer-field bytes), which is what a segment loaded from that
    file - either backing - reports. -/
theorem crc_same :
    ∃ data ft nw, serialize K (r.toLSeg mode) = .ok (data, ft) ∧
      initSegment K (r.toLSeg mode) = .ok nw ∧
      nw.footer.crc = K.crc.upd 0 (data ++ footerFields ft) ∧
      Ice.Model.Writer.unbe ((fileOf K data ft).drop ((fileOf K data ft).length - 4)) = nw.footer.crc ∧
      ∀ mem : Bool, ∃ ld, load mem (fileOf K data ft) = .ok ld ∧ ld.footer.crc = nw.footer.crc := by
  obtain ⟨data, ft, ld, hs, hn, hl, hf, _, _⟩ := new_loaded hv hπ hrun mode hmode hB K hsz
  have hcrc : ld.footer.crc = K.crc.upd 0 (data ++ footerFields ft) := by rw [hf]
  refine ⟨data, ft, ld, hs, hn, hcrc, ?_, ?_⟩
  · have h40 : (footerFields { ft with crc := K.crc.upd 0 data }).length = 40 := by
      simp [footerFields, C11.be_length]
    have hfile : fileOf K data ft = (data ++ footerFields { ft with crc := K.crc.upd 0 data }) ++
        Ice.Model.Writer.be 4 (K.crc.upd (K.crc.upd 0 data)
          (footerFields { ft with crc := K.crc.upd 0 data })) := by
      unfold fileOf Ice.Model.Writer.persistFooter
      rw [List.append_assoc]
    have hlen : (fileOf K data ft).length - 4 =
        (data ++ footerFields { ft with crc := K.crc.upd 0 data }).length := by
      rw [(C04.C04_count K data ft).1, List.length_append, h40]
      omega
    rw [hcrc, hlen, hfile, List.drop_left, C11.unbe_be 4 _ (K.crc_lt _ _), K.crc.upd_append]
    rfl
  · intro mem
    cases mem with
    | true => exact ⟨ld, hl, rfl⟩
    | false => exact ⟨_, load_toFile _ _ hl, rfl⟩

end

/-! ## 4. the example batch `exB` of `Props/E2EBuild.lean`

  Hypotheses: `ex_validBatch`, `E2EM.idPerm`, `ex_run`, `ex_bounds`, `ex_sizes`; chunk mode 2, the
  codecs `C04.exK`.  `exL = (builtOf C01.nc0 exB).toLSeg 2`. -/

/-- `E2E_total` on `exB` -/
theorem exn_total :
    ∃ data ft, serialize C04.exK exL = .ok (data, ft) ∧
      ∀ mem : Bool, ∃ ld, load mem (fileOf C04.exK data ft) = .ok ld ∧ ld.data.mem = mem ∧
        ReadsAs C04.exK (build C01.nc0 2 exB) ld :=
  E2E_total ex_validBatch E2EM.idPerm ex_run 2 (by decide) ex_bounds C04.exK ex_sizes

/-- `E2E_new` on `exB`: `New` returns a segment that reads as the specification -/
theorem exn_new :
    ∃ nw, initSegment C04.exK exL = .ok nw ∧ nw.data.mem = true ∧
      ReadsAs C04.exK (build C01.nc0 2 exB) nw :=
  E2E_new ex_validBatch E2EM.idPerm ex_run 2 (by decide) ex_bounds C04.exK ex_sizes

/-- `E2E_new_eq_loaded` on `exB`, with the bytes of `ex_serialize` -/
theorem exn_new_eq_loaded :
    ∃ nw, initSegment C04.exK exL = .ok nw ∧ ReadsAs C04.exK (build C01.nc0 2 exB) nw ∧
      ∀ mem : Bool, ∃ ld, load mem (fileOf C04.exK exData exFooter) = .ok ld ∧ ld.data.mem = mem ∧
        ReadsAs C04.exK (build C01.nc0 2 exB) ld ∧ SameReads C04.exK (build C01.nc0 2 exB) nw ld ∧
        ld.footer = nw.footer := by
  obtain ⟨data, ft, nw, hs, hn, hR, h⟩ :=
    E2E_new_eq_loaded ex_validBatch E2EM.idPerm ex_run 2 (by decide) ex_bounds C04.exK ex_sizes
  cases (show serialize C04.exK exL = .ok (data, ft) from hs).symm.trans ex_serialize
  exact ⟨nw, hn, hR, h⟩

/-- the left-hand side of `ReadsAs.iter`, evaluated on the bytes of the segment `New` returns (no
    file): the term `a` (key 0) of field `f` (id 1) looked up in its dictionary, its record read, an
    iterator with all flags and document 1 excluded run over `Next, Next, Advance 0` -/
def exNewTranscript : List (Res (Option Posting)) :=
  match initSegment C04.exK exL with
  | .ok nw =>
    (match dictionaryOf C04.exK nw 1 with
     | .ok (some fst) =>
       (match fst[0]? with
        | some (_, v) =>
          (match readPostings C04.exK nw v with
           | .ok (.general fo lo docs cs) =>
             C05Bytes.runRes C04.exK.chunk
               (mkB (plbOf nw fo lo cs docs (some [1])) (RFlags.of ⟨true, true, true⟩))
               [.next, .next, .advance 0]
           | _ => [])
        | none => [])
     | _ => [])
  | _ => []

/-- `New` on `exL` returns the segment the example file loads to -/
theorem exn_init : initSegment C04.exK exL = .ok (exLd true) := by
  obtain ⟨nw, ld, hn, hl, he, _⟩ := C04.C04_new_eq_load C04.exK exL ex_valid exData exFooter ex_serialize
  rw [ex_load] at hl
  cases hl
  rw [hn, he]

/-- … the answers of `ex_transcript` (loaded file) and `ex_spec_transcript` (specification) -/
theorem exn_transcript : exNewTranscript =
    [ .ok (some { doc := 0, freq := 2, norm := 524,
                  locs := [⟨fF, 1, 0, 1⟩, ⟨fF, 3, 4, 5⟩] }), .ok none, .ok none ] := by
  rw [exNewTranscript]
  simp only [exn_init, ex_iter, List.getElem?_cons_zero]

/-- checksum slot, dictionary locations and stored chunk offsets of the segment `New` returns and
    of the loaded one -/
def exCrcObs : Option ((Nat × List Nat × List Nat) × (Nat × List Nat × List Nat)) :=
  match initSegment C04.exK exL, load true (fileOf C04.exK exData exFooter) with
  | .ok nw, .ok ld => some ((nw.footer.crc, nw.dictLocs, nw.storedChunkOffsets),
                            (ld.footer.crc, ld.dictLocs, ld.storedChunkOffsets))
  | _, _ => none

/-- … `Segment.CRC()` on this example (code after commit 6ad80a3): 10873 on the segment `New`
    returns and on the loaded one; the tables are the same -/
theorem exn_crc : exCrcObs = some ((10873, [87, 163], [0, 23]), (10873, [87, 163], [0, 23])) := by
  rw [exCrcObs, exn_init, ex_load]
  rfl

/-- the same for the pre-fix `New` -/
def exCrcObsV0 : Option ((Nat × List Nat × List Nat) × (Nat × List Nat × List Nat)) :=
  match initSegmentV0 C04.exK exL, load true (fileOf C04.exK exData exFooter) with
  | .ok nw, .ok ld => some ((nw.footer.crc, nw.dictLocs, nw.storedChunkOffsets),
                            (ld.footer.crc, ld.dictLocs, ld.storedChunkOffsets))
  | _, _ => none

/-- … before commit 6ad80a3 `Segment.CRC()` was the one observable that differed on this example:
    10372 on the segment `New` returned (checksum of the data section), 10873 on the loaded one -/
theorem exn_crc_v0 : exCrcObsV0 = some ((10372, [87, 163], [0, 23]), (10873, [87, 163], [0, 23])) := by
  obtain ⟨nw, ld, hn, hl, _, hf, _, _, _, _, _, _, _, _, _, _, _, hdl, hso, _⟩ :=
    C04.C04_new_v0_eq_load C04.exK exL ex_valid exData exFooter ex_serialize
  rw [ex_load] at hl
  cases hl
  have hcrc : C04.exK.crc.upd 0 exData = 10372 := by decide +kernel
  rw [exCrcObsV0, hn, ex_load]
  simp only [hf, hcrc, ← hdl, ← hso]
  rfl

/-- `crc_same` on `exB` -/
theorem exn_crc_same :
    ∃ nw, initSegment C04.exK exL = .ok nw ∧
      nw.footer.crc = C04.exK.crc.upd 0 (exData ++ footerFields exFooter) ∧
      ∀ mem : Bool, ∃ ld, load mem (fileOf C04.exK exData exFooter) = .ok ld ∧
        ld.footer.crc = nw.footer.crc := by
  obtain ⟨data, ft, nw, hs, hn, hc, _, h⟩ :=
    crc_same ex_validBatch E2EM.idPerm ex_run 2 (by decide) ex_bounds C04.exK ex_sizes
  cases (show serialize C04.exK exL = .ok (data, ft) from hs).symm.trans ex_serialize
  exact ⟨nw, hn, hc, h⟩

end Ice.Props.E2E

/-! axiom audit (expected: a subset of propext, Classical.choice, Quot.sound) -/
section Audit
open Ice.Props.E2E
#print axioms readsAs_withCrc
#print axioms crc_v0_differs
#print axioms crc_not_an_observation
#print axioms crc_same
#print axioms E2E_new_v0
#print axioms sameReads_of
#print axioms E2E_total
#print axioms E2E_new
#print axioms ReadsAs.iter_reuse
#print axioms E2E_new_eq_loaded
#print axioms E2E_new_eq_loaded_mem
#print axioms exn_total
#print axioms exn_new
#print axioms exn_new_eq_loaded
#print axioms exn_transcript
#print axioms exn_crc
#print axioms exn_crc_v0
#print axioms exn_crc_same
end Audit
