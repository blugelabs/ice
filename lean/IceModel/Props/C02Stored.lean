import IceModel.Model.MergeRest
import IceModel.Lemmas.MergeRestFields
import IceModel.Lemmas.MergeRestRemap
import IceModel.Lemmas.MergeRestStored
import IceModel.Lemmas.MergeRestCopy
import IceModel.Lemmas.MergeRestMerge
import IceModel.Lemmas.MergeRestSpec
import IceModel.Lemmas.MergeRestDv
import IceModel.Lemmas.MergeRestDvSpec
import IceModel.Props.C03
import IceModel.Props.C06
import IceModel.Props.C07
/-
  Properties C02 / C03 / C06 / C07 / C17 on the level of the model of the parts of merge.go
  around the dictionary loop (`IceModel/Model/MergeRest.lean`):

    (F)  mergeFields / mapFields        the merged field list is `Spec.fieldList` of the union
    (N)  computeNewDocCount, newDocNums `Spec.remapAll`, `numDocs (Spec.merge …)`
    (S)  mergeStoredAndRemap            both paths; the merged stored section is
                                        `Stored.writeStoredFields` of the survivors' documents in
                                        merged field ids; every visit delivers `Spec.stored`
    (D)  buildMergedDocVals             `DocValues.mergeField` of the merged column, which holds
                                        `Spec.dvOf` of the merged segment

  C17 on this level is the closure statement `S_output_is_input`: what a merge writes satisfies
  the hypotheses under which it may be merged again, and means `Spec.merge` of its inputs - so
  the specification-level theorems `C17_flatten`, `C17_translate`, `C17_identity` apply to chains
  of model merges.

  Hypotheses that are not part of the input contract of properties.jsonl but are needed:
    * `NonemptyFrames cd`: a zstd frame of a non-empty block is non-empty (third-party law; the
      copy path skips a block whose two chunk offsets coincide, merge.go:778).
    * copy path: `(recs docs).length + 10 < 2^63` (`storedOffset + MaxVarintLen64` in `int`).
    * fewer than 65535 merged fields (`uint16` field ids), at most 2^32 documents per input
      (`uint32(docNum)`), fewer than 2^63 - 1 merged documents (`docDropped` is a sentinel).
    * `ClosedDoc`: an abstract document stores values only under names its segment lists
      (`AbsSeg` does not enforce it; `Spec.build` does, `S_output_is_input` preserves it).
    * doc values: an input that is not in focus, or has no reader for the field, has no doc values
      in the field (`DvInputOK.rel`).

  -- UNPROVED: nothing in the stages (F), (N), (S) re-encode, (S) copy, (D).  Restrictions of what
  -- IS proved:
  --   * `S_copy_eq_reencode`, `S_copy_parser`, `S_copy_offsets` start from a destination state
  --     reachable in a merge (`Tracks`: a fresh coder after any documents `D`, with
  --     `docNumOffsets` zero beyond them), not from an arbitrary coder state.
  --   * the source of the stored part is memory-backed (`Stored.dataRead`), as in C06; a failing
  --     `Data.Read` of a file-backed source is not modelled.
  --   * (D) is proved for a column given as bytes per document (`ValidVals`); the passage to
  --     terms is the hypothesis `DvInputOK.rel` on the inputs (for built segments it is
  --     `DocValues.splitSep_bytesOf_encVals`) and the conclusion `D_merged_dvOf` on the output.
  --   * `mergeToWriter` beyond the stored section (persistFields, footer) is not part of this
  --     model; `closeCh` is not modelled.
-/
namespace Ice.Props.C02Stored
open Ice Ice.Model Ice.Model.MergeRest
open Ice.Props.C03 (ValidDrops)

/-- **F_fields.**  Whatever order the map `fieldsExist` is iterated in, the merged field list is
    `_id` followed by all other names of all inputs in ascending order, each once. -/
theorem F_fields {order : List Bytes} {segs : List (List Bytes)} (h : MapOrder order segs) :
    (mergeFieldsWith order segs).2 = Spec.fieldList segs.flatten :=
  mergeFieldsWith_fields h

/-- … in particular the result does not depend on the iteration order -/
theorem F_order_irrelevant {o₁ o₂ : List Bytes} {segs : List (List Bytes)}
    (h₁ : MapOrder o₁ segs) (h₂ : MapOrder o₂ segs) :
    mergeFieldsWith o₁ segs = mergeFieldsWith o₂ segs := by
  have e1 := mergeFieldsWith_fields h₁
  have e2 := mergeFieldsWith_fields h₂
  exact Prod.ext rfl (by rw [e1, e2])

theorem F_fields_default (segs : List (List Bytes)) :
    (mergeFields segs).2 = Spec.fieldList segs.flatten :=
  mergeFieldsWith_fields (mapOrder_keysOf segs)

/-- the merged field list is the field list of `Spec.merge` -/
theorem F_fields_merge (m : Nat) (ins : List (Spec.AbsSeg × List Nat)) :
    (mergeFields (ins.map (·.1.fields))).2 = (Spec.merge m ins).1.fields := by
  rw [F_fields_default, Spec.merge_fields, List.flatMap_def]

/-- **F_same_iff.**  `same` is true iff every input's list equals the first input's list
    (lists are non-empty: every ice field list starts with `_id`). -/
theorem F_same_iff (segs : List (List Bytes)) (hne : ∀ l ∈ segs, l ≠ []) :
    (mergeFields segs).1 = true ↔ ∀ l ∈ segs, l = segs.headD [] :=
  fieldsSame_iff segs hne

/-- **F_same_ids.**  When `same` holds and the inputs' lists are `_id`-first ascending, the
    merged list IS each input's list: all field ids and all field maps coincide.  This is what the
    byte-copy path of `mergeStoredAndRemap` relies on. -/
theorem F_same_ids {order : List Bytes} {segs : List (List Bytes)} (ho : MapOrder order segs)
    (hs : (mergeFieldsWith order segs).1 = true) (hw : ∀ l ∈ segs, IdFirstAsc l) :
    ∀ l ∈ segs, (mergeFieldsWith order segs).2 = l ∧
      ∀ name, fieldsMapGet (mapFields (mergeFieldsWith order segs).2) name =
        fieldsMapGet (mapFields l) name := by
  intro l hl
  have := mergeFieldsWith_same ho hs hw l hl
  exact ⟨this, fun name => by rw [this]⟩

/-- `fieldsMap[name]` is the position of the name plus one, 0 for an unknown name -/
theorem F_mapFields (l : List Bytes) (hn : l.Nodup) (hlen : l.length < 65535) (name : Bytes) :
    fieldsMapGet (mapFields l) name =
      match l.idxOf? name with
      | some i => i + 1
      | none => 0 :=
  fieldsMapGet_mapFields l hn hlen name

/-- segment 0's list is a strict prefix of segment 1's: `same` must be false (the length test of
    merge.go:838 is what detects it) -/
example : (mergeFields [[idField, [97]], [idField, [97], [98]]]).1 = false := by decide +kernel
/-- … and the other way round -/
example : (mergeFields [[idField, [97], [98]], [idField, [97]]]).1 = false := by decide +kernel
example : (mergeFields [[idField, [97], [98]], [idField, [97], [98]]]) =
    (true, [idField, [97], [98]]) := by decide +kernel
/-- different lists, same length -/
example : (mergeFields [[idField, [97]], [idField, [98]]]) =
    (false, [idField, [97], [98]]) := by decide +kernel
/-- outside the contract (a list without `_id`): an EMPTY later list does not reset `same` - the
    loop body never runs for it -/
example : (mergeFields [[idField, [97]], []]).1 = true := by decide +kernel
/-- the iteration order of the map does not matter -/
example : mergeFieldsWith [[99], [97], idField, [98]] [[idField, [99]], [idField, [97], [98]]] =
    mergeFields [[idField, [99]], [idField, [97], [98]]] := by decide +kernel

/-- **N_count.**  `computeNewDocCount` is the number of documents of the merged segment. -/
theorem N_count (m : Nat) (ins : List (Spec.AbsSeg × List Nat))
    (hv : ∀ p ∈ ins, ValidDrops p.1.docs.length p.2)
    (hb : (ins.map fun p => p.1.docs.length).sum < 2 ^ 64) :
    computeNewDocCount (ins.map fun p => (p.1.docs.length, p.2)) =
      Spec.numDocs (Spec.merge m ins).1 := by
  rw [Spec.numDocs_merge, computeNewDocCount_eq _ (List.forall_mem_map.2 hv)
      (by simpa [List.map_map, Function.comp_def] using hb), List.map_map]
  rfl

/-- … which is Σ (numDocs_i − |drops_i|) -/
theorem N_count_sum (m : Nat) (ins : List (Spec.AbsSeg × List Nat))
    (hv : ∀ p ∈ ins, ValidDrops p.1.docs.length p.2)
    (hb : (ins.map fun p => p.1.docs.length).sum < 2 ^ 64) :
    computeNewDocCount (ins.map fun p => (p.1.docs.length, p.2)) =
      (ins.map fun p => p.1.docs.length - p.2.length).sum := by
  rw [N_count m ins hv hb, Ice.Props.C03.C03_count m ins hv]

/-- **N_newDocNums.**  Whatever the stored bytes of the inputs are and whichever path each input
    takes: IF `mergeStoredAndRemap` returns, the maps it returns are those of `Spec.merge`, with
    `docDropped` for a deleted document - one map per input segment. -/
theorem N_newDocNums (cd : Stored.Codec) (bs : Nat) (srcs : List Src) (fieldsInv : List Bytes)
    (same : Bool) (n : Nat) (vdc : Stored.Buf) (m : Nat) (ins : List (Spec.AbsSeg × List Nat))
    (hlen : srcs.map (·.seg.numDocs) = ins.map (·.1.docs.length))
    (hsmall : ∀ s ∈ srcs, s.seg.numDocs ≤ 2 ^ 32)
    (out : Stored.StoredOut) (nums : List (List Nat)) (buf : Stored.Buf)
    (h : mergeStoredAndRemap cd bs srcs (ins.map (·.2)) fieldsInv same n vdc = .ok (out, nums, buf)) :
    nums = (Spec.merge m ins).2.map (·.map encNum) := by
  unfold mergeStoredAndRemap at h
  obtain ⟨⟨st', acc'⟩, hs, h⟩ := DocValues.bind_eq_ok h
  simp only [Res.ok.injEq, Prod.mk.injEq] at h
  have := (segLoop_nums cd _ _ _ same srcs 0 _ [] st' acc' hsmall hs).1
  have hpairs : ins.map (fun p => (p.1.docs.length, p.2)) =
      (ins.map (·.1.docs.length)).zip (ins.map (·.2)) := List.zip_map'.symm
  rw [← h.2.1, this, List.nil_append, List.drop_zero, Spec.merge_maps, hpairs, ← hlen,
    List.zip_map_left]
  rfl

/-- **N_every_segment.**  EVERY input segment gets a map of its own length - also segments after
    the last survivor, segments without documents, and when no document survives at all. -/
theorem N_every_segment (m : Nat) (ins : List (Spec.AbsSeg × List Nat)) :
    ((Spec.merge m ins).2.map (·.map encNum)).map List.length =
      ins.map (·.1.docs.length) := by
  have := Ice.Props.C03.C03_shape m ins
  simpa [List.map_map, Function.comp_def] using this

/-- the sentinel is not a document number (fewer than 2^63 - 1 documents) -/
theorem N_sentinel (k : Nat) (h : k < 2 ^ 63 - 1) : encNum (some k) ≠ encNum none := by
  simp only [encNum, docDropped]; omega

section S
open Ice.Model.Stored

/-- **S_reencode_doc.**  Re-encode path, one document (merge.go:722-749): if the stored document
    `d` (field ids of the source list) holds what the abstract document `a` stores, then the
    document the merge writes - the delivered values regrouped by MERGED field id
    (`fieldsMap[name] - 1`), ascending id, input order within a field - holds what `a` stores
    under the merged field list.  (The source lists a field for everything `a` stores.) -/
theorem S_reencode_doc (srcF mF : List Bytes) (hns : srcF.Nodup) (hn : mF.Nodup)
    (hlen : mF.length < 65535) (hsub : ∀ f ∈ srcF, f ∈ mF) (d : Doc) (a : Spec.ADoc)
    (hr : DocRel srcF d a) (hc : ClosedDoc srcF a) :
    collectVals srcF (mapFields mF) (flat d) (List.replicate mF.length []) =
      .ok (regroup (toMerged srcF (mapFields mF)) mF.length (flat d)) ∧
    DocRel mF (reDoc (toMerged srcF (mapFields mF)) mF.length d) a :=
  ⟨collectVals_ok _ _ _ _ (fieldsMapped_of_subset srcF mF hn hlen hsub) hr.1,
    reDoc_rel srcF mF hns hn hlen hsub d a hr hc⟩

/-- **S_copy_parser.**  Copy path, one decompressed block (merge.go:789-815): for ANY block the
    stored writer produces - the concatenated records of the documents `R`, records `00 00` of
    documents without stored fields and the record at the very end of the block included -
    followed by whatever the reused buffer holds up to its capacity (`X`, also nothing), the loop
    with its clamped look-ahead windows neither panics nor fails (no slice leaves the buffer) and
    re-adds exactly the documents `R`: the destination ends in the state `writeDocs` reaches. -/
theorem S_copy_parser (cd : Codec) (c0 : Coder) (total : Nat) (R : List Doc) (X : Bytes)
    (slots : Nat) (st : CS) (D : List Doc)
    (hb : (recs R).length + 10 < 2 ^ 63) (ht : Tracks cd c0 total st.ms D)
    (hroom : D.length + R.length ≤ total) (hslots : R.length ≤ slots) :
    ∃ st', copyLoop cd ⟨recs R ++ X, (recs R).length⟩ slots 0 st = .ok st' ∧
      st'.coder = (writeDocs cd (D ++ R) c0 []).1 ∧
      st'.dno = (writeDocs cd (D ++ R) c0 []).2 ++ List.replicate (total - (D ++ R).length) 0 ∧
      st'.newDocNum = (D ++ R).length := by
  obtain ⟨st', h1, h2⟩ := copyLoop_records cd ⟨recs R ++ X, (recs R).length⟩ c0 total R 0 X slots
    st D rfl (by simp) (by simpa using hb) ht hroom hslots
  exact ⟨st', h1, h2.coder, h2.dno, h2.num⟩

/-- the hypothesis of `S_copy_parser` on the destination holds initially -/
theorem S_tracks_init (cd : Codec) (c0 : Coder) (total : Nat) :
    Tracks cd c0 total (CS.ms ⟨0, List.replicate total 0, c0⟩) [] :=
  Tracks.init cd c0 total Buf.empty

/-- **S_copy_segment.**  Copy path, one segment (merge.go:768-819): all blocks, empty last block
    skipped. -/
theorem S_copy_segment (cd : Codec) (hZ : NonemptyFrames cd) (bs nf : Nat) (hbs : 0 < bs)
    (docs : List Doc) (tail : Bytes) (c0 : Coder) (total : Nat)
    (hsz : (recs docs).length + 10 < 2 ^ 63) (st : CS) (D : List Doc)
    (ht : Tracks cd c0 total st.ms D) (hroom : D.length + docs.length ≤ total) :
    ∃ st', copyStoredDocs cd (segOfNew cd bs nf docs tail) st = .ok st' ∧
      Tracks cd c0 total st'.ms (D ++ docs) :=
  copyStoredDocs_stored cd hZ bs nf hbs docs tail c0 total hsz st D ht hroom

/-- **S_copy_offsets.**  After any documents `D` (so: wherever the destination stands inside its
    own block - block boundaries of source and destination need not align) the copy of the
    documents `docs` sets `docNumOffsets[|D| + j]` to the size of the destination's block buffer
    just before record `j` is added; when the destination flushed its block in the middle of a
    source block this is the offset inside the NEW destination block (0 for its first record). -/
theorem S_copy_offsets (cd : Codec) (hZ : NonemptyFrames cd) (bs nf : Nat) (hbs : 0 < bs)
    (docs : List Doc) (tail : Bytes) (c0 : Coder) (total : Nat)
    (hsz : (recs docs).length + 10 < 2 ^ 63) (st : CS) (D : List Doc)
    (ht : Tracks cd c0 total st.ms D) (hroom : D.length + docs.length ≤ total) :
    ∃ st', copyStoredDocs cd (segOfNew cd bs nf docs tail) st = .ok st' ∧
      ∀ j, j < docs.length →
        st'.dno[D.length + j]? = some (writeDocs cd (D ++ docs.take j) c0 []).1.buf.length := by
  obtain ⟨st', h1, h2⟩ := copyStoredDocs_stored cd hZ bs nf hbs docs tail c0 total hsz st D ht hroom
  refine ⟨st', h1, fun j hj => ?_⟩
  have hd : st'.dno = (writeDocs cd (D ++ docs) c0 []).2 ++
      List.replicate (total - (D ++ docs).length) 0 := h2.dno
  have hl : (writeDocs cd (D ++ docs) c0 []).2.length = (D ++ docs).length := by
    rw [writeDocs_dso_length]; simp
  have htk : (D ++ docs).take (D.length + j) = D ++ docs.take j := by
    rw [List.take_append, List.take_of_length_le (by omega)]; simp
  rw [hd, List.getElem?_append_left (by rw [hl]; simp; omega),
    writeDocs_snd_getElem? cd c0 _ _ (by simp; omega), htk]

/-- one input of a merge on all levels: what it means, its deletions, the stored documents (in
    its own field ids) its stored section was written from, and the bytes behind that section -/
structure Input where
  abs : Spec.AbsSeg
  drops : List Nat
  docs : List Doc
  tail : Bytes

/-- the input as `mergeStoredAndRemap` sees it -/
def Input.src (cd : Codec) (bs : Nat) (i : Input) : Src :=
  { fields := i.abs.fields, seg := segOfNew cd bs i.abs.fields.length i.docs i.tail }

def Input.spec (cd : Codec) (bs : Nat) (i : Input) : SegSpec :=
  { src := i.src cd bs, docs := i.docs, tail := i.tail, drops := i.drops }

/-- the inputs of `Spec.merge` -/
def absIns (ins : List Input) : List (Spec.AbsSeg × List Nat) := ins.map fun i => (i.abs, i.drops)

/-- `fieldsInv` of the merge -/
def mergedFields (ins : List Input) : List Bytes := (mergeFields (ins.map (·.abs.fields))).2

/-- the survivors' stored documents in merged field ids -/
def mergedDocs (ins : List Input) : List Doc :=
  ins.flatMap fun i =>
    (Spec.keepP (fun n => !i.drops.contains n) 0 i.docs).map
      (reDoc (toMerged i.abs.fields (mapFields (mergedFields ins))) (mergedFields ins).length)

/-- the input contract of the stored part of a merge -/
structure InputOK (cd : Codec) (bs : Nat) (i : Input) : Prop where
  /-- `_id`, then the other names ascending -/
  fields : IdFirstAsc i.abs.fields
  /-- the contract of C06 for the input's stored section -/
  valid : Ice.Props.C06.Valid cd bs i.abs.fields.length i.docs
  small : i.docs.length ≤ 2 ^ 32
  /-- document by document the section holds what the abstract segment stores -/
  rel : Rel₂ (DocRel i.abs.fields) i.docs i.abs.docs
  /-- a document stores values only in fields its segment lists -/
  closed : ∀ a ∈ i.abs.docs, ClosedDoc i.abs.fields a
  drops : ValidDrops i.abs.docs.length i.drops

/-- additionally for an input that takes the byte-copy path -/
structure InputCopyOK (i : Input) : Prop where
  size : (recs i.docs).length + 10 < 2 ^ 63
  asc : ∀ d ∈ i.docs, DocAsc d

theorem idFirstAsc_nodup {l : List Bytes} (h : IdFirstAsc l) : l.Nodup := by
  obtain ⟨r, rfl, hasc, hid⟩ := h
  exact List.nodup_cons.2 ⟨hid, Ice.asc_nodup hasc⟩

theorem fieldList_idFirstAsc (names : List Bytes) : IdFirstAsc (Spec.fieldList names) := by
  refine ⟨_, rfl, List.Pairwise.filter _ (asc_sortDedup names), ?_⟩
  intro h
  simpa using (List.mem_filter.1 h).2

theorem mergedFields_eq (ins : List Input) :
    mergedFields ins = Spec.fieldList (ins.map (·.abs.fields)).flatten := F_fields_default _

theorem mergedFields_spec (m : Nat) (ins : List Input) :
    mergedFields ins = (Spec.merge m (absIns ins)).1.fields := by
  rw [mergedFields_eq, Spec.merge_fields, absIns, List.flatMap_map, List.flatMap_def]

theorem mergedFields_sup (ins : List Input) (i : Input) (hi : i ∈ ins) :
    ∀ f ∈ i.abs.fields, f ∈ mergedFields ins := by
  intro f hf
  rw [mergedFields_eq, Spec.mem_fieldList]
  exact .inr (List.mem_flatten.2 ⟨_, List.mem_map.2 ⟨i, hi, rfl⟩, hf⟩)

theorem mergedDocs_eq (cd : Codec) (bs : Nat) (ins : List Input) :
    mergedDocs ins = (ins.map (Input.spec cd bs)).flatMap
      (segDocs (mapFields (mergedFields ins)) (mergedFields ins).length) := by
  rw [List.flatMap_map]; rfl

theorem segOK_of_inputOK (cd : Codec) (bs : Nat) (ins : List Input)
    (hlen : (mergedFields ins).length < 65535) (i : Input) (hi : i ∈ ins)
    (hok : InputOK cd bs i) :
    SegOK cd bs (mapFields (mergedFields ins)) (mergedFields ins).length (i.spec cd bs) :=
  { seg := rfl
    valid := hok.valid
    mapped := fieldsMapped_of_subset _ _
      (idFirstAsc_nodup (by rw [mergedFields_eq]; exact fieldList_idFirstAsc _)) hlen
      (mergedFields_sup ins i hi)
    small := hok.small }

/-- when `same` holds the regrouping is the identity on every input's documents -/
theorem copyOK_of_same (cd : Codec) (bs : Nat) (ins : List Input)
    (hlen : (mergedFields ins).length < 65535) (hok : ∀ i ∈ ins, InputOK cd bs i)
    (hsame : (mergeFields (ins.map (·.abs.fields))).1 = true) (i : Input) (hi : i ∈ ins)
    (hc : InputCopyOK i) :
    CopyOK (mapFields (mergedFields ins)) (mergedFields ins).length (i.spec cd bs) := by
  have hF : mergedFields ins = i.abs.fields :=
    mergeFieldsWith_same (mapOrder_keysOf _) hsame
      (List.forall_mem_map.2 fun j hj => (hok j hj).fields) _ (List.mem_map.2 ⟨i, hi, rfl⟩)
  refine ⟨hc.size, ?_⟩
  intro d hd
  show flat (reDoc (toMerged i.abs.fields (mapFields (mergedFields ins)))
    (mergedFields ins).length d) = flat d
  rw [hF]
  rw [hF] at hlen
  exact flat_reDoc_same _ (idFirstAsc_nodup (hok i hi).fields) hlen d (hc.asc d hd)
    (flat_lt ((hok i hi).valid.2.2.1 d hd))

/-- **S_merged.**  The stored section and the document-number maps of a merge
    (merge.go:117-132, 627-706): for inputs inside the contract, whichever path each of them
    takes (`copyStoredDocs` when `fieldsSame` and the input has no deletions, re-encoding
    otherwise - also mixed within one merge), the bytes written are exactly the stored section
    `writeStoredFields` writes for the survivors' documents in merged field ids, and the maps are
    those of `Spec.merge`. -/
theorem S_merged (cd : Codec) (hZ : NonemptyFrames cd) (bs : Nat) (hbs : 0 < bs) (m : Nat)
    (ins : List Input) (vdc : Buf) (hok : ∀ i ∈ ins, InputOK cd bs i)
    (hlen : (mergedFields ins).length < 65535)
    (hcopy : (mergeFields (ins.map (·.abs.fields))).1 = true →
      ∀ i ∈ ins, i.drops = [] → InputCopyOK i)
    (hb : (ins.map fun i => i.docs.length).sum < 2 ^ 64) :
    ∃ buf', mergeStored cd bs (ins.map (Input.src cd bs)) (ins.map (·.drops)) vdc =
      .ok (writeStoredFields cd bs (mergedDocs ins),
           (Spec.merge m (absIns ins)).2.map (·.map encNum), buf') := by
  have hdl : ∀ i ∈ ins, i.docs.length = i.abs.docs.length := fun i hi => (hok i hi).rel.length_eq
  have hpairs : ((ins.map (Input.src cd bs)).zipIdx.map fun p =>
        (p.1.seg.numDocs, (ins.map (·.drops)).getD p.2 [])) =
      ins.map fun i => (i.docs.length, i.drops) :=
    zipIdx_map_numDocs_getD ins (Input.src cd bs) (·.drops)
  have hcount := computeNewDocCount_eq (ins.map fun i => (i.docs.length, i.drops))
    (List.forall_mem_map.2 fun i hi => hdl i hi ▸ (hok i hi).drops)
    (by simpa [List.map_map, Function.comp_def] using hb)
  obtain ⟨buf', h⟩ := mergeStoredAndRemap_eq cd hZ bs hbs (ins.map (Input.spec cd bs))
    (mergedFields ins) (mergeFields (ins.map (·.abs.fields))).1 vdc
    (List.forall_mem_map.2 fun i hi => segOK_of_inputOK cd bs ins hlen i hi (hok i hi))
    (fun hsame => List.forall_mem_map.2 fun i hi hd =>
      copyOK_of_same cd bs ins hlen hok hsame i hi (hcopy hsame i hi hd))
  refine ⟨buf', ?_⟩
  have hmaps : (absIns ins).map (fun p => (p.1.docs.length, p.2)) =
      ins.map fun i => (i.docs.length, i.drops) := by
    rw [absIns, List.map_map]
    exact List.map_congr_left fun i hi => by simp [hdl i hi]
  simp only [List.map_map] at h hcount
  unfold mergeStored
  rw [if_neg (by simp)]
  simp only [List.map_map, hpairs, hcount]
  rw [Spec.merge_maps, hmaps, mergedDocs_eq cd bs]
  exact h

/-- **S_merged_rel.**  Document by document the merged section holds, under the merged field
    list, what `Spec.merge` says the merged segment stores. -/
theorem S_merged_rel (cd : Codec) (bs : Nat) (m : Nat) (ins : List Input)
    (hok : ∀ i ∈ ins, InputOK cd bs i) (hlen : (mergedFields ins).length < 65535) :
    Rel₂ (DocRel (mergedFields ins)) (mergedDocs ins) (Spec.merge m (absIns ins)).1.docs := by
  rw [Spec.merge_docs, absIns, List.flatMap_map]
  unfold mergedDocs
  have hmn : (mergedFields ins).Nodup :=
    idFirstAsc_nodup (by rw [mergedFields_eq]; exact fieldList_idFirstAsc _)
  apply Rel₂.flatMap
  intro i hi
  have hio := hok i hi
  have hR : Rel₂ (fun d a => DocRel i.abs.fields d a ∧ ClosedDoc i.abs.fields a)
      i.docs i.abs.docs := by
    apply Rel₂.of_get _ _ hio.rel.length_eq
    intro k d a h1 h2
    exact ⟨hio.rel.get k d a h1 h2, hio.closed a (List.mem_of_getElem? h2)⟩
  rw [Spec.survivors_eq]
  apply (hR.keepP _ 0).map_left
  rintro d a ⟨h1, h2⟩
  exact reDoc_rel _ _ (idFirstAsc_nodup hio.fields) hmn hlen (mergedFields_sup ins i hi) d a h1 h2

theorem mergedDocs_shape (ins : List Input) :
    ∀ d ∈ mergedDocs ins, DocAsc d ∧ ∀ fv ∈ d, fv.1 < (mergedFields ins).length := by
  intro d hd
  simp only [mergedDocs, List.mem_flatMap, List.mem_map] at hd
  obtain ⟨i, _, d0, _, rfl⟩ := hd
  exact ⟨reDoc_asc _ _ _, reDoc_fields_lt _ _ _⟩

/-- the contract of C06 for the merged section: field ids are merged ids; the sizes of the
    output are the caller's obligation -/
theorem S_merged_valid (cd : Codec) (bs : Nat) (hbs : 0 < bs) (ins : List Input)
    (hlen : (mergedFields ins).length < 65535)
    (h1 : (recs (mergedDocs ins)).length < 2 ^ 63)
    (h2 : (writeStoredFields cd bs (mergedDocs ins)).bytes.length < 2 ^ 63) :
    Ice.Props.C06.Valid cd bs (mergedFields ins).length (mergedDocs ins) := by
  exact ⟨hbs, by omega, fun d hd => (mergedDocs_shape ins d hd).2, h1, h2⟩

/-- **S_merged_visit.**  On the merged segment (the written section, followed by whatever the
    rest of the merge writes) `VisitStoredFields(k)` delivers, for every merged document and
    whatever the pooled context held, exactly `Spec.stored (Spec.merge …) k` - field names through
    the merged `fieldsInv`, up to and including the value at which the visitor stops. -/
theorem S_merged_visit (cd : Codec) (bs : Nat) (hbs : 0 < bs) (m : Nat) (ins : List Input)
    (hok : ∀ i ∈ ins, InputOK cd bs i) (hlen : (mergedFields ins).length < 65535)
    (h1 : (recs (mergedDocs ins)).length < 2 ^ 63)
    (h2 : (writeStoredFields cd bs (mergedDocs ins)).bytes.length < 2 ^ 63)
    (tail : Bytes) (k : Nat) (hk : k < Spec.numDocs (Spec.merge m (absIns ins)).1) (buf : Buf)
    (stop : Option Nat) :
    ∃ vals buf', visit cd (segOfNew cd bs (mergedFields ins).length (mergedDocs ins) tail) buf k
        stop = .ok (takeStop stop vals, buf') ∧
      vals.map (nameOf (mergedFields ins)) = Spec.stored (Spec.merge m (absIns ins)).1 k := by
  have hrel := S_merged_rel cd bs m ins hok hlen
  have hkl : k < (mergedDocs ins).length := by rw [hrel.length_eq]; exact hk
  obtain ⟨buf', hv⟩ := Ice.Props.C06.C06_visit cd bs _ (mergedDocs ins) tail
    (S_merged_valid cd bs hbs ins hlen h1 h2) k hkl buf stop
  refine ⟨_, buf', hv, ?_⟩
  have hk' : k < (Spec.merge m (absIns ins)).1.docs.length := hk
  have := hrel.get k _ _ (List.getElem?_eq_getElem hkl) (List.getElem?_eq_getElem hk')
  rw [stored_eq, List.getElem?_eq_getElem hk', ← mergedFields_spec]
  exact this.2

/-- **S_copy_eq_reencode.**  For an input without deletions of a merge whose field lists are all
    the same, from every destination state reachable in a merge (the state after merging any
    documents `D` into a fresh coder), `copyStoredDocs` and `mergeStoredAndRemapSegment` both
    succeed and leave THE SAME destination: the same coder - block buffer, byte count, chunk
    offsets, bytes written - and the same `docNumOffsets`; the re-encode path advances `newDocNum`
    by `footer.numDocs`, which is what the caller of the copy path does (merge.go:670-673). -/
theorem S_copy_eq_reencode (cd : Codec) (hZ : NonemptyFrames cd) (bs : Nat) (hbs : 0 < bs)
    (ins : List Input) (hok : ∀ i ∈ ins, InputOK cd bs i)
    (hlen : (mergedFields ins).length < 65535)
    (hsame : (mergeFields (ins.map (·.abs.fields))).1 = true)
    (i : Input) (hi : i ∈ ins) (hd : i.drops = []) (hc : InputCopyOK i)
    (c0 : Coder) (total : Nat) (st : MS) (D : List Doc) (ht : Tracks cd c0 total st D)
    (hroom : D.length + i.docs.length ≤ total) :
    ∃ cs st' seen',
      copyStoredDocs cd (i.src cd bs).seg ⟨st.newDocNum, st.dno, st.coder⟩ = .ok cs ∧
      remapSegment cd (i.src cd bs) i.drops (mapFields (mergedFields ins))
        (mergedFields ins).length st = .ok (st', seen') ∧
      cs.coder = st'.coder ∧ cs.dno = st'.dno ∧
      st'.newDocNum = st.newDocNum + (i.src cd bs).seg.numDocs :=
  copy_eq_reencode cd hZ bs hbs _ _ c0 total (i.spec cd bs)
    (segOK_of_inputOK cd bs ins hlen i hi (hok i hi))
    (copyOK_of_same cd bs ins hlen hok hsame i hi hc) hd st D ht hroom

/-! ### C17 on this level: the output of a merge is an input of a merge -/

theorem closedDoc_mono {F G : List Bytes} (h : ∀ f ∈ F, f ∈ G) {a : Spec.ADoc}
    (hc : ClosedDoc F a) : ClosedDoc G a :=
  fun f hf => hc f (fun hF => hf (h f hF))

/-- **S_output_is_input.**  The merged segment - `Spec.merge` of the inputs, with the section
    `S_merged` says was written - satisfies the input contract again (its sizes permitting, and
    for any valid deletions), including the extra condition of the copy path.  Hence chains of
    merges stay inside the contract, and by `S_merged_visit` each of them means `Spec.merge`:
    the specification-level C17 theorems apply to them. -/
theorem S_output_is_input (cd : Codec) (bs : Nat) (hbs : 0 < bs) (m : Nat) (ins : List Input)
    (hok : ∀ i ∈ ins, InputOK cd bs i) (hlen : (mergedFields ins).length < 65535)
    (h1 : (recs (mergedDocs ins)).length + 10 < 2 ^ 63)
    (h2 : (writeStoredFields cd bs (mergedDocs ins)).bytes.length < 2 ^ 63)
    (h3 : (mergedDocs ins).length ≤ 2 ^ 32)
    (drops : List Nat) (hd : ValidDrops (Spec.merge m (absIns ins)).1.docs.length drops)
    (tail : Bytes) :
    let out : Input :=
      { abs := (Spec.merge m (absIns ins)).1, drops := drops, docs := mergedDocs ins, tail := tail }
    InputOK cd bs out ∧ InputCopyOK out := by
  intro out
  have hF : out.abs.fields = mergedFields ins := (mergedFields_spec m ins).symm
  constructor
  · refine ⟨?_, ?_, h3, ?_, ?_, hd⟩
    · rw [hF, mergedFields_eq]; exact fieldList_idFirstAsc _
    · rw [hF]; exact S_merged_valid cd bs hbs ins hlen (by omega) h2
    · rw [hF]; exact S_merged_rel cd bs m ins hok hlen
    · intro a ha
      rw [hF]
      have ha' : a ∈ (absIns ins).flatMap (fun p => Spec.survivors p.1 p.2) := ha
      simp only [absIns, List.flatMap_map, List.mem_flatMap] at ha'
      obtain ⟨i, hi, hai⟩ := ha'
      exact closedDoc_mono (mergedFields_sup ins i hi)
        ((hok i hi).closed a (Spec.mem_keepP (p := fun j => !i.drops.contains j) (k := 0) hai))
  · exact ⟨h1, fun d hd' => (mergedDocs_shape ins d hd').1⟩

end S

section D
open Ice.Model.DocValues

/-- **D_iterate.**  `iterateAllDocValues` (docvalues.go:206-235) on the clone of the reader opened
    on a column written by the doc-value writer - the builder's or the merger's mode, anywhere in
    a file - hands the visitor every (docNum, bytes) the column holds, in ascending document
    order, chunk by chunk; empty chunks and chunks never flushed contribute nothing. -/
theorem D_iterate {σ : Type} (mode : Ice.Props.C07.Mode) (z : Codec) {cs maxDocNum : Nat}
    {vals : List (Nat × List Bytes)} (hv : Ice.Props.C07.Valid cs maxDocNum vals) (file : Data)
    (pre suf sec : Bytes) (dvStart dvEnd : Nat)
    (hw : Ice.Props.C07.writeField mode z cs maxDocNum pre.length vals = .ok (sec, dvStart, dvEnd))
    (hfile : file.bytes = pre ++ sec ++ suf) (hsuf : 10 ≤ suf.length)
    (hlen : file.bytes.length < 2 ^ 63)
    (r0 : Reader) (hload : loadFieldDocValueReader file dvStart dvEnd = .ok (some r0))
    (f : σ → Nat → Bytes → Res σ) (s : σ) :
    resFst (iterateAll z file f (List.range r0.clone.chunkOffsets.length) r0.clone s) =
      foldV f (Ice.Props.C07.fed mode vals) s ∧
    (Ice.Props.C07.fed mode vals).Pairwise (fun a b => a.1 < b.1) := by
  have hfed := (Ice.Props.C07.fed_valid mode hv).1
  obtain ⟨_, _, L, ⟨r0', hload', -, -, hinv⟩, -⟩ :=
    (Ice.Props.C07.Placed.of_at hv hw (.of_append hfile hsuf) hlen).spec
  cases hload.symm.trans hload'
  exact ⟨iterateAll_spec z hfed L f r0.clone s hinv.1 hinv.2.1, hfed.asc⟩

/-- The merged column of any inputs, on the level of columns alone (no file, no reader): if the
    column `colIn i` of every input holds the doc values of its segment `abs i` in field `f` (an
    input without a column has none there), then for every document number `k` the merged column
    holds `Spec.dvOf` of the merged segment: column and segment are the inputs' survivors in the same
    order. -/
theorem mergedColFrom_dvOf {α : Type} (f : Bytes) (m : Nat) (ins : List α) (abs : α → Spec.AbsSeg)
    (colIn : α → ColIn) (hn : ∀ i, (colIn i).n = (abs i).docs.length)
    (hok : ∀ i ∈ ins, (colIn i).OK)
    (hrel : ∀ i ∈ ins, match (colIn i).col with
      | some vals => ∀ d, splitSep (bytesOf vals d) [] = Spec.dvOf (abs i) d f
      | none => ∀ d, Spec.dvOf (abs i) d f = []) (k : Nat) :
    splitSep (bytesOf (mergedColFrom (ins.map colIn) 0) k) [] =
      Spec.dvOf (Spec.merge m (ins.map fun i => (abs i, (colIn i).drops))).1 k f := by
  have hcok : ∀ c ∈ ins.map colIn, c.OK := List.forall_mem_map.2 hok
  -- document by document, an input's column holds the doc values of its segment
  have hin : ∀ i ∈ ins, ((List.range (colIn i).n).map (lookup ((colIn i).col.getD []))).map
      (fun o => splitSep (o.getD []) []) = (abs i).docs.map (Spec.dvDoc f) := by
    intro i hi
    rw [hn i, List.map_map]
    apply List.ext_getElem (by simp)
    intro d h1 h2
    have hd : d < (abs i).docs.length := by simpa using h2
    have hdv : Spec.dvOf (abs i) d f = Spec.dvDoc f (abs i).docs[d] := by
      rw [Spec.dvOf_eq, List.getElem?_eq_getElem hd]; rfl
    simp only [List.getElem_map, List.getElem_range, Function.comp]
    rw [← hdv]
    have hr := hrel i hi
    cases hc : (colIn i).col with
    | none => rw [hc] at hr; exact (hr d).symm
    | some vals => rw [hc] at hr; exact hr d
  -- the merged column and the merged segment take the same survivors in the same order
  have hM : ((ins.map colIn).flatMap ColIn.surv).map (fun o => splitSep (o.getD []) []) =
      (Spec.merge m (ins.map fun i => (abs i, (colIn i).drops))).1.docs.map (Spec.dvDoc f) := by
    rw [Spec.merge_docs, List.flatMap_map, List.flatMap_map, List.map_flatMap, List.map_flatMap]
    apply flatMap_congr'
    intro i hi
    rw [ColIn.surv, ← Spec.keepP_map, hin i hi, Spec.keepP_map]
    rfl
  have hk := congrArg (·[k]?) hM
  have hl := lookup_sparse ((ins.map colIn).flatMap ColIn.surv) 0 k
  rw [Nat.zero_add] at hl
  simp only [List.getElem?_map] at hk
  rw [mergedColFrom_eq _ 0 hcok, bytesOf, hl, Spec.dvOf_eq, ← hk]
  cases ((ins.map colIn).flatMap ColIn.surv)[k]? <;> rfl

/-- one input of a merge as the doc-value part sees it for one field -/
structure DvInput where
  abs : Spec.AbsSeg
  drops : List Nat
  /-- `setupActiveForField`: the segment has a dictionary for the field with at least one key -/
  inFocus : Bool
  /-- its file, its reader for the field (if any), and the column that reader reads -/
  spec : DvSpec

/-- the inputs of `Spec.merge` -/
def dvAbsIns (ins : List DvInput) : List (Spec.AbsSeg × List Nat) :=
  ins.map fun i => (i.abs, i.drops)

/-- the column of the input the merge uses: none when the segment is not in focus or has no
    reader for the field -/
def DvInput.colIn (i : DvInput) : ColIn :=
  { n := i.abs.docs.length, drops := i.drops, col := if i.inFocus then i.spec.col else none }

/-- the merged column: for every input taking part, in input order, the survivors'
    (newDocNum, bytes) -/
def mergedCol (ins : List DvInput) : List (Nat × Bytes) := mergedColFrom (ins.map (·.colIn)) 0

/-- the input contract of the doc-value part for field `f` -/
structure DvInputOK (z : Codec) (cs : Nat) (f : Bytes) (i : DvInput) : Prop where
  /-- a reader, if there is one, reads a column written by the doc-value writer -/
  spec : i.spec.OK z cs
  /-- … for the documents of the segment -/
  docs : ∀ vals, i.spec.col = some vals → i.spec.maxDocNum < i.abs.docs.length
  /-- the column the merge uses holds the abstract doc values; a segment that does not take part
      has none in this field -/
  rel : match i.colIn.col with
    | some vals => ∀ d, splitSep (bytesOf vals d) [] = Spec.dvOf i.abs d f
    | none => ∀ d, Spec.dvOf i.abs d f = []

theorem colIn_ok (z : Codec) (cs : Nat) (f : Bytes) (i : DvInput) (h : DvInputOK z cs f i) :
    i.colIn.OK := by
  intro vals hvals
  have hcol : i.spec.col = some vals := by
    unfold DvInput.colIn at hvals
    cases hf : i.inFocus <;> simp_all
  have hv := h.spec.valid hcol
  refine ⟨hv.asc, fun p hp => ?_⟩
  have := hv.max p hp
  have := h.docs vals hcol
  show p.1 < i.abs.docs.length
  omega

theorem length_getD_maps (m : Nat) (ins : List (Spec.AbsSeg × List Nat)) (j : Nat)
    (p : Spec.AbsSeg × List Nat) (hj : ins[j]? = some p) :
    (((Spec.merge m ins).2.map (·.map encNum)).getD j []).length = p.1.docs.length := by
  have h := congrArg (fun l => l[j]?) (Ice.Props.C03.C03_shape m ins)
  simp only [List.getElem?_map, hj, Option.map_some] at h
  rw [List.getD_eq_getElem?_getD, List.getElem?_map]
  cases hm : (Spec.merge m ins).2[j]? with
  | none => rw [hm] at h; cases h
  | some nums => rw [hm] at h; simpa using h

theorem merge_maps_colIn (m : Nat) (ins : List DvInput) :
    (Spec.merge m (dvAbsIns ins)).2 =
      Spec.remapAll ((ins.map (·.colIn)).map fun c => (c.n, c.drops)) 0 := by
  rw [Spec.merge_maps, dvAbsIns, List.map_map, List.map_map]; rfl

theorem numDocs_colIn (m : Nat) (ins : List DvInput) :
    Spec.numDocs (Spec.merge m (dvAbsIns ins)).1 =
      ((ins.map (·.colIn)).map fun c => Spec.liveCount c.drops c.n).sum := by
  rw [Spec.numDocs_merge, dvAbsIns, List.map_map, List.map_map]; rfl

/-- **D_merged.**  The doc-value part of `persistMergedRestField` for one field
    (merge.go:251-252, 336-337, 371-433) with the maps of the merge: `DocValues.mergeField`
    applied to the merged column; the field gets a column iff some input IN FOCUS has a reader for
    it (otherwise both offsets are `fieldNotUninverted` and nothing is written). -/
theorem D_merged (z : Codec) (cs : Nat) (hcs : 0 < cs) (f : Bytes) (m count : Nat)
    (ins : List DvInput) (hok : ∀ i ∈ ins, DvInputOK z cs f i)
    (hsmall : Spec.numDocs (Spec.merge m (dvAbsIns ins)).1 < 2 ^ 63 - 1) :
    dvField z cs (Spec.numDocs (Spec.merge m (dvAbsIns ins)).1) count ins (·.inFocus)
        (fun i => i.spec.seg) ((Spec.merge m (dvAbsIns ins)).2.map (·.map encNum)) =
      if ins.any (fun i => i.inFocus && i.spec.col.isSome) then
        mergeField z cs (sub64 (Spec.numDocs (Spec.merge m (dvAbsIns ins)).1) 1) count
          (mergedCol ins)
      else .ok ([], fieldNotUninverted, fieldNotUninverted) := by
  have hlen : ((Spec.merge m (dvAbsIns ins)).2.map (·.map encNum)).length = ins.length := by
    simpa [dvAbsIns] using congrArg List.length (Ice.Props.C03.C03_shape m (dvAbsIns ins))
  rw [dvField_eq z cs _ count hcs ins (·.inFocus) (·.spec) _ (by omega)
    (fun i hi _ => (hok i hi).spec) ?_]
  · congr 2
    -- the column: the part of an input under its own map is the part of its `ColIn`
    rw [merge_maps_colIn, mergedCol,
      ← parts_remapAll (ins.map (·.colIn)) 0
        (List.forall_mem_map.2 fun i hi => colIn_ok z cs f i (hok i hi))
        (by rw [← numDocs_colIn m ins]; simp only [docDropped]; omega),
      List.zip_map_left, List.flatMap_map]
    apply flatMap_congr'
    rintro ⟨i, nums⟩ _
    cases hf : i.inFocus
    · simp [DvInput.colIn, hf]
    · simp only [DvInput.colIn, Prod.map_fst, Prod.map_snd, hf, if_true]
      rfl
  · intro j i hj hf vals hcol p hp
    have h1 := ((hok i (List.mem_of_getElem? hj)).spec.valid hcol).max p hp
    have h2 := (hok i (List.mem_of_getElem? hj)).docs vals hcol
    rw [length_getD_maps m (dvAbsIns ins) j (i.abs, i.drops)
      (by rw [dvAbsIns, List.getElem?_map, hj]; rfl)]
    show p.1 < i.abs.docs.length
    omega

/-- **D_merged_valid.**  The merged column satisfies the contract of the chunked content coder
    and of the reader (C07): document numbers ascend - so chunk indices never decrease - and lie
    below the merged count. -/
theorem D_merged_valid (z : Codec) (cs : Nat) (hcs : 0 < cs) (f : Bytes) (m : Nat)
    (ins : List DvInput) (hok : ∀ i ∈ ins, DvInputOK z cs f i)
    (hpos : 0 < Spec.numDocs (Spec.merge m (dvAbsIns ins)).1)
    (hsmall : Spec.numDocs (Spec.merge m (dvAbsIns ins)).1 < 2 ^ 63)
    (hraw : (dataOf (mergedCol ins)).length < 2 ^ 64 - 1) :
    ValidVals cs (Spec.numDocs (Spec.merge m (dvAbsIns ins)).1 - 1) (mergedCol ins) := by
  have hcok : ∀ c ∈ ins.map (·.colIn), c.OK :=
    List.forall_mem_map.2 fun i hi => colIn_ok z cs f i (hok i hi)
  refine ⟨hcs, mergedColFrom_asc _ 0 hcok, ?_, by omega, hraw⟩
  intro q hq
  have := (mergedColFrom_range _ 0 hcok q hq).2
  rw [← numDocs_colIn m ins] at this
  omega

/-- **D_merged_dvOf.**  For every merged document `k` the merged column holds the doc values of
    the survivor that became `k`: cut at the separators they are `Spec.dvOf (Spec.merge …) k f`;
    documents of inputs that take no part (not in focus, or no reader) have none. -/
theorem D_merged_dvOf (z : Codec) (cs : Nat) (f : Bytes) (m : Nat) (ins : List DvInput)
    (hok : ∀ i ∈ ins, DvInputOK z cs f i) (k : Nat)
    (hk : k < Spec.numDocs (Spec.merge m (dvAbsIns ins)).1) :
    splitSep (bytesOf (mergedCol ins) k) [] = Spec.dvOf (Spec.merge m (dvAbsIns ins)).1 k f :=
  mergedColFrom_dvOf f m ins (·.abs) (·.colIn) (fun _ => rfl) (fun i hi => colIn_ok z cs f i (hok i hi))
    (fun i hi => (hok i hi).rel) k

/-- **D_merged_read.**  Hence a `DocumentValueReader` on the merged segment delivers, for every
    sequence of visits of merged documents, `Spec.dvOf (Spec.merge …)`: compose `D_merged` with the
    reader theorems of C07. -/
theorem D_merged_read (z : Codec) (cs : Nat) (hcs : 0 < cs) (f : Bytes) (m : Nat)
    (ins : List DvInput) (hok : ∀ i ∈ ins, DvInputOK z cs f i)
    (hpos : 0 < Spec.numDocs (Spec.merge m (dvAbsIns ins)).1)
    (hsmall : Spec.numDocs (Spec.merge m (dvAbsIns ins)).1 < 2 ^ 63 - 1)
    (hraw : (dataOf (mergedCol ins)).length < 2 ^ 64 - 1)
    (hany : ins.any (fun i => i.inFocus && i.spec.col.isSome) = true)
    (file : Data) (pre suf : Bytes) (hsuf : 10 ≤ suf.length) (hlen : file.bytes.length < 2 ^ 63) :
    ∃ sec dvStart dvEnd,
      dvField z cs (Spec.numDocs (Spec.merge m (dvAbsIns ins)).1) pre.length ins (·.inFocus)
        (fun i => i.spec.seg) ((Spec.merge m (dvAbsIns ins)).2.map (·.map encNum)) =
        .ok (sec, dvStart, dvEnd) ∧
      (file.bytes = pre ++ sec ++ suf →
        ∃ r0, loadFieldDocValueReader file dvStart dvEnd = .ok (some r0) ∧
        ∀ ds : List Nat, (∀ d ∈ ds, d < Spec.numDocs (Spec.merge m (dvAbsIns ins)).1) →
          ∃ r', Reader.visitAll z file cs r0 ds =
            .ok (ds.map fun d => Spec.dvOf (Spec.merge m (dvAbsIns ins)).1 d f, r')) := by
  have hvalid := D_merged_valid z cs hcs f m ins hok hpos (by omega) hraw
  have hn : (Spec.numDocs (Spec.merge m (dvAbsIns ins)).1 - 1) / cs + 1 < 2 ^ 64 :=
    Nat.lt_of_le_of_lt (Nat.succ_le_succ (Nat.div_le_self _ _)) (by omega)
  have hsub : sub64 (Spec.numDocs (Spec.merge m (dvAbsIns ins)).1) 1 =
      Spec.numDocs (Spec.merge m (dvAbsIns ins)).1 - 1 := sub64_small (by omega) (by omega)
  have hD := D_merged z cs hcs f m pre.length ins hok hsmall
  rw [if_pos hany, hsub, mergeField_eq z cs _ _ hcs hn _ hvalid.asc hvalid.max] at hD
  refine ⟨_, _, _, hD, ?_⟩
  intro hfile
  obtain ⟨L, r0, hload, _, _, hinv⟩ := reader_opens z hvalid file pre suf hfile hsuf hlen
  refine ⟨r0, hload, ?_⟩
  intro ds hds
  obtain ⟨r', hvis, _⟩ := visitAll_spec z hvalid L ds _ hinv (fun d hd => by have := hds d hd; omega)
  refine ⟨r', ?_⟩
  have hmap : (ds.map fun d => splitSep (bytesOf (mergedCol ins) d) []) =
      ds.map fun d => Spec.dvOf (Spec.merge m (dvAbsIns ins)).1 d f :=
    List.map_congr_left (fun d hd => D_merged_dvOf z cs f m ins hok d (hds d hd))
  rw [hvis, hmap]

/-- **D_written_ok.**  Non-vacuity of `DvSpec.OK`, in general: a column written by the doc-value
    writer (either mode writes `sectionOf (chunksOf …)`, `C07.writeField_eq`) anywhere in a file,
    together with the reader `loadFieldDocValueReader` returns for it, is a `DvSpec` that is OK. -/
theorem D_written_ok (z : Codec) {cs maxDocNum : Nat} {vals : List (Nat × Bytes)}
    (hv : ValidVals cs maxDocNum vals) (pre suf : Bytes) (mem : Bool) (hsuf : 10 ≤ suf.length)
    (hlen : (pre ++ sectionOf (chunksOf z cs (maxDocNum / cs + 1) vals) ++ suf).length < 2 ^ 63) :
    ∃ r0, loadFieldDocValueReader
        ⟨pre ++ sectionOf (chunksOf z cs (maxDocNum / cs + 1) vals) ++ suf, mem⟩ pre.length
        (pre.length + (sectionOf (chunksOf z cs (maxDocNum / cs + 1) vals)).length) =
          .ok (some r0) ∧
      DvSpec.OK z cs
        { seg := { data := ⟨pre ++ sectionOf (chunksOf z cs (maxDocNum / cs + 1) vals) ++ suf, mem⟩,
                   reader := some r0 },
          cs := cs, maxDocNum := maxDocNum, pre := pre, suf := suf, col := some vals } := by
  obtain ⟨L, r0, hload, _, _, hinv⟩ := reader_opens z hv
    ⟨pre ++ sectionOf (chunksOf z cs (maxDocNum / cs + 1) vals) ++ suf, mem⟩ pre suf rfl hsuf hlen
  exact ⟨r0, hload, rfl, hv, L, r0, rfl, hinv.1, hinv.2.1⟩

end D

/-! ## examples (evaluated by the kernel)

  `decide +kernel`: `putUvarint` (in the doc-value and stored writers) is defined by well-founded
  recursion, which `decide` cannot unfold but the kernel can; no axiom is involved. -/

section Examples
open Ice.Model.Stored
open Ice.Props.C06 (idCodec putUvarint_small)

instance (fields : List Bytes) (d : Doc) (a : Spec.ADoc) : Decidable (DocRel fields d a) := by
  unfold DocRel; exact inferInstance

instance (d : Doc) : Decidable (DocAsc d) := by unfold DocAsc; exact inferInstance

/-- a document all of whose field names are in the field list is closed under it (every segment
    built by `Spec.build` is like that) -/
theorem closed_of_names (fields : List Bytes) (a : Spec.ADoc) (h : ∀ af ∈ a, af.name ∈ fields) :
    ClosedDoc fields a := by
  intro f hf
  unfold gOf Spec.ADoc.field?
  have : a.find? (fun af => af.name == f) = none := by
    rw [List.find?_eq_none]
    intro af haf
    have := h af haf
    simp only [beq_iff_eq]
    intro e; exact hf (e ▸ this)
  rw [this]

def fa : Bytes := [97]
def fb : Bytes := [98]
def fc : Bytes := [99]

/-! ### (N) every segment gets a map -/

/-- no document survives: two maps of dropped sentinels, the count is 0 -/
example : (Spec.merge 1 [(Ice.Props.C03.exSeg 2, [0, 1]), (Ice.Props.C03.exSeg 1, [0])]).2.map
    (·.map encNum) = [[docDropped, docDropped], [docDropped]] := by decide +kernel
example : computeNewDocCount [(2, [0, 1]), (1, [0])] = 0 := by decide +kernel
/-- a segment without documents in the middle and a fully deleted one at the end get their
    (empty / all-dropped) maps -/
example : (Spec.merge 1 [(Ice.Props.C03.exSeg 1, []), (Ice.Props.C03.exSeg 0, []),
      (Ice.Props.C03.exSeg 2, [0, 1])]).2.map (·.map encNum) =
    [[0], [], [docDropped, docDropped]] := by decide +kernel
/-- the model: a zero-survivor merge of two real segments still writes a (loadable) empty stored
    section and returns both maps -/
example : Res.map (fun r => (r.1, r.2.1))
      (mergeStored idCodec 2
        [{ fields := [idField], seg := segOfNew idCodec 2 1 [[(0, [[1]])], [(0, [[2]])]] [] },
         { fields := [idField], seg := segOfNew idCodec 2 1 [] [] }] [[0, 1], []] Buf.empty) =
    .ok (writeStoredFields idCodec 2 [], [[docDropped, docDropped], []]) := by decide +kernel

/-! ### (S) three segments, different field lists, a deletion -/

def exS0 : Src :=
  { fields := [idField, fa],
    seg := segOfNew idCodec 2 2 [[(0, [[1]]), (1, [[10, 11]])], [(0, [[2]])]] [7, 7] }
def exS1 : Src :=
  { fields := [idField, fb, fc], seg := segOfNew idCodec 2 3 [[(0, [[3]]), (2, [[30], [31]])]] [] }
def exS2 : Src :=
  { fields := [idField, fa, fc],
    seg := segOfNew idCodec 2 3 [[(0, [[4]]), (1, [[40]]), (2, [[41]])]] [9] }

/-- merged field ids: `_id` 0, `a` 1, `b` 2, `c` 3 -/
def exSDocs : List Doc :=
  [[(0, [[2]]), (1, []), (2, []), (3, [])],
   [(0, [[3]]), (1, []), (2, []), (3, [[30], [31]])],
   [(0, [[4]]), (1, [[40]]), (2, []), (3, [[41]])]]

example : mergeFields [exS0.fields, exS1.fields, exS2.fields] = (false, [idField, fa, fb, fc]) := by
  decide +kernel

/-- document 0 of segment 0 is deleted; field `c` (stored values `30`, `31`) exists in segments
    1 and 2 only, field `b` in segment 1 only -/
theorem S_example_three_segments :
    Res.map (fun r => (r.1, r.2.1))
      (mergeStored idCodec 2 [exS0, exS1, exS2] [[0], [], []] Buf.empty) =
    .ok (writeStoredFields idCodec 2 exSDocs, [[docDropped, 0], [1], [2]]) := by decide +kernel

/-- … and the merged document 1 (old document 0 of segment 1) is visited with merged field ids -/
example : Res.map (·.1) (visit idCodec (segOfNew idCodec 2 4 exSDocs [5, 5]) Buf.empty 1 none) =
    .ok [(0, [3]), (3, [30]), (3, [31])] := by decide +kernel

/-! ### (S) the copy path: 3 + 2 documents, destination blocks of 2

  Source blocks: `[d0 d1] [d2]` and `[e0 e1] []`; destination blocks: `[d0 d1] [d2 e0] [e1]` - the
  destination flushes between `e0` and `e1`, in the middle of a source block.  `d2` has no stored
  fields (record `00 00`, alone in its source block), `e0` has an empty value. -/

def exC0 : Src :=
  { fields := [idField, fa],
    seg := segOfNew idCodec 2 2 [[(0, [[1]])], [(0, [[2]]), (1, [[20]])], []] [7, 7] }
def exC1 : Src :=
  { fields := [idField, fa], seg := segOfNew idCodec 2 2 [[(1, [[], [5, 5]])], [(0, [[6]])]] [] }

example : (mergeFields [exC0.fields, exC1.fields]).1 = true := by decide +kernel

theorem S_example_copy :
    Res.map (fun r => (r.1, r.2.1)) (mergeStored idCodec 2 [exC0, exC1] [[], []] Buf.empty) =
    .ok (writeStoredFields idCodec 2
          [[(0, [[1]])], [(0, [[2]]), (1, [[20]])], [], [(1, [[], [5, 5]])], [(0, [[6]])]],
         [[0, 1, 2], [3, 4]]) := by decide +kernel

/-- the per-document offsets: `e0` (new number 3) lies at offset 2 of the destination's second
    block (behind the 2-byte record of `d2`), `e1` (new number 4) at offset 0 of its third block -/
example : (writeStoredFields idCodec 2
      [[(0, [[1]])], [(0, [[2]]), (1, [[20]])], [], [(1, [[], [5, 5]])], [(0, [[6]])]]).bytes.drop 46 =
    Writer.be 8 0 ++ Writer.be 8 6 ++ Writer.be 8 0 ++ Writer.be 8 2 ++ Writer.be 8 0 := by
  decide +kernel

/-- the same inputs through the re-encode path (`fieldsSame` forced to false) give the same
    section -/
example :
    Res.map (fun r => r.1)
      (mergeStoredAndRemap idCodec 2 [exC0, exC1] [[], []] [idField, fa] false 5 Buf.empty) =
    Res.map (fun r => r.1)
      (mergeStoredAndRemap idCodec 2 [exC0, exC1] [[], []] [idField, fa] true 5 Buf.empty) := by
  decide +kernel

/-! ### (S) the hypotheses of `S_merged` are satisfiable -/

def mkF (name : Bytes) (stored : List Bytes) : Spec.AField :=
  { name := name, length := 0, norm := 0, terms := [], stored := stored, dv := false }

def exI0 : Input :=
  { abs := { docs := [[mkF idField [[1]], mkF fa [[10, 11]]], [mkF idField [[2]]]],
             fields := [idField, fa], fieldDocs := [0, 0], fieldFreqs := [0, 0], chunkMode := 1 },
    drops := [0],
    docs := [[(0, [[1]]), (1, [[10, 11]])], [(0, [[2]])]],
    tail := [7, 7] }

def exI1 : Input :=
  { abs := { docs := [[mkF idField [[3]], mkF fb [[30], [31]]]],
             fields := [idField, fb], fieldDocs := [0, 0], fieldFreqs := [0, 0], chunkMode := 1 },
    drops := [],
    docs := [[(0, [[3]]), (1, [[30], [31]])]],
    tail := [] }

theorem exI0_ok : InputOK idCodec 2 exI0 where
  fields := ⟨[fa], rfl, by simp [Asc], by decide⟩
  valid := by decide +kernel
  small := by decide
  rel := .cons (by decide) (.cons (by decide) .nil)
  closed := by
    intro a ha
    apply closed_of_names
    revert a
    decide
  drops := ⟨by decide, by decide⟩

theorem exI1_ok : InputOK idCodec 2 exI1 where
  fields := ⟨[fb], rfl, by simp [Asc], by decide⟩
  valid := by decide +kernel
  small := by decide
  rel := .cons (by decide) .nil
  closed := by
    intro a ha
    apply closed_of_names
    revert a
    decide
  drops := ⟨by decide, by decide⟩

example : ∃ buf', mergeStored idCodec 2 [exI0.src idCodec 2, exI1.src idCodec 2] [[0], []] Buf.empty =
    .ok (writeStoredFields idCodec 2 (mergedDocs [exI0, exI1]),
         (Spec.merge 1 (absIns [exI0, exI1])).2.map (·.map encNum), buf') :=
  S_merged idCodec (fun _ h => h) 2 (by decide) 1 [exI0, exI1] Buf.empty
    (by intro i hi; simp at hi; rcases hi with rfl | rfl; exact exI0_ok; exact exI1_ok)
    (by decide) (by intro h; exact absurd h (by decide)) (by decide)

example : mergedDocs [exI0, exI1] =
    [[(0, [[2]]), (1, []), (2, [])], [(0, [[3]]), (1, []), (2, [[30], [31]])]] := by decide +kernel
example : Spec.stored (Spec.merge 1 (absIns [exI0, exI1])).1 1 =
    [(idField, [3]), (fb, [30]), (fb, [31])] := by decide +kernel

/-! ### (D) doc values: which table `buildMergedDocVals` indexes -/

open Ice.Model.DocValues
open Ice.Props.C07 (exCodec)

/-- an input for one field: in focus or not, its file and reader -/
structure ExSeg where
  inFocus : Bool
  dv : DvSeg

/-- a segment built by the builder with the given doc values (`none`: no reader) -/
def mkSeg (cs maxDoc : Nat) (pre : Bytes) (vals : Option (List (Nat × List Bytes)))
    (inFocus : Bool) : ExSeg :=
  match vals with
  | none => ⟨inFocus, ⟨⟨pre ++ List.replicate 10 99, false⟩, none⟩⟩
  | some v =>
    match buildField exCodec cs maxDoc pre.length (encVals v) with
    | .ok (sec, st, en) =>
      let data : Data := ⟨pre ++ sec ++ List.replicate 10 99, false⟩
      match loadFieldDocValueReader data st en with
      | .ok r => ⟨inFocus, ⟨data, r⟩⟩
      | _ => ⟨inFocus, ⟨data, none⟩⟩
    | _ => ⟨inFocus, ⟨⟨[], false⟩, none⟩⟩

/-- A: 2 documents, field absent, not in focus.  B: 3 documents, in focus, documents 0 and 2 have
    terms, document 0 is deleted.  C: 4 documents, in focus, documents 1 and 3 have terms, document
    3 is deleted.  E: 1 document, in focus (it has the term dictionary) but no doc values.
    Chunks of 2 documents. -/
def exA := mkSeg 2 1 [1] none false
def exB := mkSeg 2 2 [2, 2] (some [(0, [[5]]), (2, [[6], [7]])]) true
def exC := mkSeg 2 3 [] (some [(1, [[8]]), (3, [[9]])]) true
def exE := mkSeg 2 0 [4] none true

def exNums : List (List Nat) := [[0, 1], [docDropped, 2, 3], [4, 5, 6, docDropped], [7]]

/-- the surviving doc values land under the new numbers 3 (B's document 2) and 5 (C's document 1) -/
theorem D_example : dvField exCodec 2 8 100 [exA, exB, exC, exE] (·.inFocus) (·.dv) exNums =
    mergeField exCodec 2 7 100 (encVals [(3, [[6], [7]]), (5, [[8]])]) := by decide +kernel

/-- no input in focus has a reader: the field is not uninverted, nothing is written -/
example : dvField exCodec 2 8 100 [exA, exE] (·.inFocus) (·.dv) exNums =
    .ok ([], fieldNotUninverted, fieldNotUninverted) := by decide +kernel

/-- A': like A with 3 documents; B': 2 documents, both with terms, no deletions -/
def exA' := mkSeg 2 2 [1] none false
def exB' := mkSeg 2 1 [2, 2] (some [(0, [[5]]), (1, [[6]])]) true

/-- **D_unfiltered_counterexample.**  The table `buildMergedDocVals` indexes with the position
    among the segments in focus is the FILTERED list built by `setupActiveForField`.  Indexing the
    unfiltered per-input list instead (`dvFieldUnfiltered`) is wrong as soon as an earlier input is
    not in focus: B' is input 1 but segment-in-focus 0, so its documents would be renumbered with
    A's map (0, 1) instead of its own (3, 4). -/
theorem D_unfiltered_counterexample :
    dvField exCodec 2 5 100 [exA', exB'] (·.inFocus) (·.dv) [[0, 1, 2], [3, 4]] =
      mergeField exCodec 2 4 100 (encVals [(3, [[5]]), (4, [[6]])]) ∧
    dvFieldUnfiltered exCodec 2 5 100 [exA', exB'] (·.inFocus) (·.dv) [[0, 1, 2], [3, 4]] =
      mergeField exCodec 2 4 100 (encVals [(0, [[5]]), (1, [[6]])]) ∧
    mergeField exCodec 2 4 100 (encVals [(0, [[5]]), (1, [[6]])]) ≠
      mergeField exCodec 2 4 100 (encVals [(3, [[5]]), (4, [[6]])]) := by
  refine ⟨by decide +kernel, by decide +kernel, by decide +kernel⟩

/-- with a shorter earlier input the unfiltered table is even indexed out of range (Go panics) -/
example : dvFieldUnfiltered exCodec 2 8 100 [exA, exB, exC, exE] (·.inFocus) (·.dv) exNums =
    .panic := by decide +kernel

end Examples

end Ice.Props.C02Stored
