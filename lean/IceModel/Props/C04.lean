import IceModel.Model.Format
import IceModel.Lemmas.Format
import IceModel.Lemmas.FormatLoad
import IceModel.Lemmas.FormatTotalBacking
import IceModel.Props.C06
import IceModel.Props.C07
import IceModel.Props.C11
import IceModel.Props.ChunkBytes
/-
  Property C04 on the byte level: every segment ice writes can be loaded back and reads
  identically - the CONTAINER around the sections.

  `serialize K L = .ok (data, ft)` is a segment ice has written (builder or merger, see
  `Model/Format.lean`); `fileOf K data ft` is the file.  All theorems are for `Valid K L`
  (decidable) and for both backings `mem` of `segment.Data`.  Every read of the loader is strict
  (fails or panics outside the data section), so each "… = .ok …" below contains the in-bounds
  statement for the windows it opens (`read_inbounds`, `C04_tail`).

  `load_written` is the theorem behind C04_fields … C04_empty and what the end-to-end layers use:
  the file loads, and `Reads K L ld` says what every reader finds in the loaded segment.  `ex_*`:
  a two-field, three-document segment serialized and loaded back by the kernel.

  In `Props/C04Total.lean`: totality of the writer (`C04_total`; here every theorem takes the
  successful run `hs` as a hypothesis, which is the shape of C04: "every segment ice *writes*";
  `serialize_zero` proves totality for segments without documents, `ex_serialize` for the
  example), one loaded value for both backings (`C04_backing_irrelevant`), and the segment `New`
  returns without going through a file (`C04_new_eq_load`).
-/
namespace Ice.Props.C04
open Ice Ice.Model Ice.Model.Format
open Ice.Model.Writer (be unbe Footer footerFields persistFooter parseFooter CRC)
open Ice.Model.ChunkBytes (Entry Coder tfAdds locAdds uvarintU64 Fresh)
open Ice.Model.DocValues (add64 sub64 maxUint64 Data At)

/-- Valid descriptions: `_id` is field 0 (so there is at least one field), fewer than 2^16
    fields (field ids are `uint16`), `numDocs` is the number of stored documents and fits the
    `uint32` document numbers of roaring, a chunk mode `getChunkSize` knows and that does not
    divide by zero, valid fields (`FieldDesc.Valid`: numbers in `uint64`, term keys ascending,
    postings valid as in `ChunkBytes`, doc values valid as in C07), a description without
    documents has no terms, doc values or statistics (both writers then write zeros: the
    `fieldDocs` / `fieldFreqs` maps are empty resp. nil), stored content valid as in C06
    (incl. the `uint32` trailer fields), and the file is shorter than 2^62 bytes. -/
structure Valid (K : Codecs) (L : LSeg) : Prop where
  id_first : L.fields.head?.map (·.name) = some idField
  nfields : L.fields.length < 2 ^ 16
  numDocs_eq : L.numDocs = L.stored.length
  numDocs_lt : L.numDocs < 2 ^ 32
  mode : 1 ≤ L.chunkMode ∧ L.chunkMode ≤ 1025
  fields : ∀ f ∈ L.fields, f.Valid L.merger L.numDocs
  empty : L.numDocs = 0 → ∀ f ∈ L.fields,
    f.terms = [] ∧ f.dv = none ∧ f.fieldDocs = 0 ∧ f.fieldFreqs = 0
  stored : C06.Valid K.stored docBlock L.fields.length L.stored
  trailer : ((storedOut K L).chunkOffsets.flatMap putUvarint).length < 2 ^ 32 ∧
    (storedOut K L).chunkOffsets.length < 2 ^ 32
  size : match serialize K L with
    | .ok (data, _) => data.length + 44 < 2 ^ 62
    | _ => True

theorem Valid.size_lt {K : Codecs} {L : LSeg} (hv : Valid K L) {data : Bytes} {ft : Footer}
    (hs : serialize K L = .ok (data, ft)) : data.length + 44 < 2 ^ 62 := by
  have := hv.size
  rw [hs] at this
  exact this

theorem Valid.fields_ne {K : Codecs} {L : LSeg} (hv : Valid K L) : L.fields ≠ [] := by
  intro h
  have := hv.id_first
  rw [h] at this
  cases this

/-- everything the theorems below use about a written segment -/
structure Written (K : Codecs) (L : LSeg) (data : Bytes) (ft : Footer) (mid : Bytes)
    (dictLocs : List Nat) : Prop where
  shape : Shape K L data ft mid dictLocs
  zero : L.numDocs = 0 → mid = [] ∧ dictLocs = L.fields.map (fun _ => 0) ∧
    ft.docValueOffset = if L.merger then maxUint64 else 0
  pos : 0 < L.numDocs → ∃ fb outs, Middle K L ft mid dictLocs fb outs
  len : data.length + 44 < 2 ^ 62

theorem written {K : Codecs} {L : LSeg} (hv : Valid K L) {data : Bytes} {ft : Footer}
    (hs : serialize K L = .ok (data, ft)) : ∃ mid dictLocs, Written K L data ft mid dictLocs := by
  obtain ⟨mid, dictLocs, h1, h2, h3⟩ := serialize_inv K L data ft hv.numDocs_lt hs
  exact ⟨mid, dictLocs, h1, h2, h3, hv.size_lt hs⟩

theorem Written.data_lt {K : Codecs} {L : LSeg} {data : Bytes} {ft : Footer} {mid : Bytes}
    {dictLocs : List Nat} (hw : Written K L data ft mid dictLocs) : data.length < 2 ^ 62 :=
  Nat.lt_of_le_of_lt (Nat.le_add_right _ 44) hw.len

theorem Written.zip_length {K : Codecs} {L : LSeg} {data : Bytes} {ft : Footer} {mid : Bytes}
    {dictLocs : List Nat} (hw : Written K L data ft mid dictLocs) :
    (dictLocs.zip L.fields).length = L.fields.length := by
  rw [List.length_zip, hw.shape.dl_len, Nat.min_self]

/-- the fields section `F` has at least 12 bytes, there being at least one field -/
theorem written_split {K : Codecs} {L : LSeg} (hv : Valid K L) {data : Bytes} {ft : Footer}
    {mid : Bytes} {dictLocs : List Nat} (hw : Written K L data ft mid dictLocs) :
    ∃ F, data = (storedOut K L).bytes ++ (mid ++ F) ∧ 12 ≤ F.length := by
  refine ⟨_, by rw [hw.shape.data_eq, List.append_assoc], ?_⟩
  have h := persistFields_length_ge ((storedOut K L).bytes.length + mid.length) (dictLocs.zip L.fields)
  have hl := hw.zip_length
  have : 0 < L.fields.length := List.length_pos_iff.mpr hv.fields_ne
  omega

theorem stored_bytes_length_ge (K : Codecs) (L : LSeg) : 8 ≤ (storedOut K L).bytes.length := by
  obtain ⟨P, dso, hb, _⟩ := Stored.writeStoredFields_layout K.stored docBlock (by decide) L.stored
  unfold storedOut
  rw [hb]
  simp [Stored.be_length]
  omega

/-- **The layout of a segment with documents** (`outs`: what the writer recorded for each field).
    The bytes of every field lie at a positive offset of the data section, written as
    `FieldPost` says; the doc-value index lies at `docValueOffset`; the fields section follows,
    so no 10-byte window opened inside any of them leaves the data section. -/
structure Laid (K : Codecs) (L : LSeg) (data : Bytes) (ft : Footer) (dictLocs : List Nat)
    (outs : List FieldOut) : Prop where
  len : outs.length = L.fields.length
  dl_eq : dictLocs = outs.map (·.dictLoc)
  index : At data ft.docValueOffset (dvIndexBytes outs)
  field : ∀ (i : Nat) (f : FieldDesc), L.fields[i]? = some f →
    ∃ o c b, outs[i]? = some o ∧ At data c b ∧ 0 < c ∧
      FieldPost K L.merger L.chunkMode L.numDocs f c b o

theorem laid {K : Codecs} {L : LSeg} (hv : Valid K L) {data : Bytes} {ft : Footer}
    {mid : Bytes} {dictLocs : List Nat} (hw : Written K L data ft mid dictLocs)
    (hnd : 0 < L.numDocs) : ∃ outs, Laid K L data ft dictLocs outs := by
  obtain ⟨fb, outs, hm⟩ := hw.pos hnd
  -- the run that happened is the run `writeField_spec` describes
  obtain ⟨tf, lc, st', hf1, hf2, hrun⟩ := hm.run
  obtain ⟨_, _, _, hrun', -, hlen, hel⟩ := foldW_spec (writeField K L.merger L.chunkMode L.numDocs)
    (fun s => Fresh s.tf ∧ Fresh s.lc) (FieldPost K L.merger L.chunkMode L.numDocs) L.fields
    (fun s c x hI hx =>
      writeField_spec K L.merger L.chunkMode L.numDocs hv.mode hnd hv.numDocs_lt s c x hI
        (hv.fields x hx))
    { tf := tf, lc := lc } (storedOut K L).bytes.length ⟨hf1, hf2⟩
  cases hrun.symm.trans hrun'
  -- the fields' bytes and the index lie between the stored section and the fields section
  obtain ⟨F, hd, hF⟩ := written_split hv hw
  have hat : At data (storedOut K L).bytes.length (fb ++ dvIndexBytes outs) :=
    hm.mid_eq ▸ At.of_append (hd.trans (List.append_assoc _ _ _).symm) (Nat.le_trans (by decide) hF)
  refine ⟨outs, hlen, hm.dl_eq, ?_, fun i f hf => ?_⟩
  · rw [hm.dvo, u64_small (Nat.lt_trans (Nat.lt_of_le_of_lt hat.left.end_le hw.data_lt) (by decide))]
    exact hat.right
  · obtain ⟨Bpre, b, Bpost, o, hfb, ho, hp⟩ := hel i f hf
    exact ⟨o, _, b, ho, hat.left.sub hfb,
      Nat.add_pos_left (Nat.lt_of_lt_of_le (by decide) (stored_bytes_length_ge K L)) _, hp⟩

theorem dictLocs_lt {K : Codecs} {L : LSeg} (hv : Valid K L) {data : Bytes} {ft : Footer}
    {mid : Bytes} {dictLocs : List Nat} (hw : Written K L data ft mid dictLocs) :
    ∀ x ∈ dictLocs, x < 2 ^ 64 := by
  intro x hx
  by_cases hnd : 0 < L.numDocs
  · obtain ⟨outs, hl⟩ := laid hv hw hnd
    rw [hl.dl_eq] at hx
    obtain ⟨o, ho, rfl⟩ := List.mem_map.mp hx
    exact forall_mem_of_index (P := fun o => o.dictLoc < 2 ^ 64) hl.len
      (fun i f hf => by
        obtain ⟨o, _, _, ho, _, _, hp⟩ := hl.field i f hf
        exact ⟨o, ho, hp.dictLoc_lt⟩) o ho
  · obtain ⟨_, hd, _⟩ := hw.zero (by omega)
    rw [hd] at hx
    obtain ⟨_, _, rfl⟩ := List.mem_map.mp hx
    decide

theorem footer_fits {K : Codecs} {L : LSeg} (hv : Valid K L) {data : Bytes} {ft : Footer}
    {mid : Bytes} {dictLocs : List Nat} (hw : Written K L data ft mid dictLocs) (c : Nat) :
    C11.Footer.Fits { ft with crc := c } := by
  refine ⟨?_, ?_, ?_, ?_, ?_, hw.shape.version⟩
  · show ft.numDocs < 2 ^ 64
    rw [hw.shape.numDocs]; exact Nat.lt_trans hv.numDocs_lt (by decide)
  · show ft.storedIndexOffset < 2 ^ 64
    -- the stored section is a prefix of the data section
    rw [hw.shape.sio]
    exact Nat.lt_of_le_of_lt (Nat.le_trans (Stored.storedIndexOffset_le _ _ _)
      (length_le_of_eq_append (hw.shape.data_eq.trans (List.append_assoc _ _ _))))
      (Nat.lt_trans hw.data_lt (by decide))
  · show ft.fieldsIndexOffset < 2 ^ 64
    rw [hw.shape.fio]; exact u64_lt _
  · show ft.docValueOffset < 2 ^ 64
    by_cases hnd : 0 < L.numDocs
    · obtain ⟨fb, outs, hm⟩ := hw.pos hnd
      rw [hm.dvo]; exact u64_lt _
    · obtain ⟨_, _, h⟩ := hw.zero (Nat.eq_zero_of_not_pos hnd)
      rw [h]; split <;> decide
  · show ft.chunkMode < 2 ^ 32
    rw [hw.shape.mode]; exact Nat.lt_of_le_of_lt hv.mode.2 (by decide)

/-- **C04_footer.**  `load` finds the footer values `serialize` recorded: number of documents,
    the three section offsets, chunk mode, version 2; the checksum slot holds the CRC-32 of all
    preceding bytes. -/
theorem C04_footer (K : Codecs) (L : LSeg) (hv : Valid K L) (data : Bytes) (ft : Footer)
    (hs : serialize K L = .ok (data, ft)) :
    parseFooter (fileOf K data ft) =
      some { ft with crc := K.crc.upd 0 (data ++ footerFields ft) } := by
  obtain ⟨mid, dictLocs, hw⟩ := written hv hs
  unfold fileOf
  rw [C11.C11_parse_persist K.crc data _ (footer_fits hv hw _) K.crc_lt]
  simp only [K.crc.upd_append]
  rfl

/-- the data section of the file is what `serialize` produced (`data.Slice(0, len-footerLen)`) -/
theorem data_of_file (K : Codecs) (data : Bytes) (ft : Footer) :
    (fileOf K data ft).take ((fileOf K data ft).length - 44) = data := by
  unfold fileOf
  rw [List.length_append, C11.persistFooter_length, Nat.add_sub_cancel, List.take_left]

/-- **C04_count.**  The byte count `Segment.WriteTo` and the merger report is the file length;
    `New` reports the length of the data section (the footer is not part of a segment in memory). -/
theorem C04_count (K : Codecs) (data : Bytes) (ft : Footer) :
    (fileOf K data ft).length = data.length + 44 ∧
    Writer.segmentWriteTo C11.healthy K.crc data ft =
      (.ok (fileOf K data ft).length,
       { got := fileOf K data ft, calls := 2, erred := false }) := by
  have hl : (fileOf K data ft).length = data.length + 44 := by
    unfold fileOf; rw [List.length_append, C11.persistFooter_length]
  refine ⟨hl, ?_⟩
  rw [C11.C11_segment_file, hl]
  unfold fileOf persistFooter
  simp only [K.crc.upd_append, List.append_assoc]
  rfl

/-- **In-bounds lemma (writer side).**  The data section of every written segment ends with the
    fields section: the records and the table of their addresses, which `fieldsIndexOffset`
    points at and which reaches exactly to the end.  With `_id` as field 0 it has at least 15
    bytes (the `_id` record has 7 or more, its table entry 8).  Everything else the loader looks
    at through a 10-byte window (the chunk-offset trailer of the stored section, dictionaries,
    postings records, chunk streams, doc-value sections and the doc-value index) lies in front of
    it - so no window leaves the data section (`laid` gives the position of each
    piece; `Lemmas/FormatLoad.lean: read_inbounds` is the reader's side). -/
theorem C04_tail (K : Codecs) (L : LSeg) (hv : Valid K L) (data : Bytes) (ft : Footer)
    (hs : serialize K L = .ok (data, ft)) :
    ∃ head F, data = head ++ F ∧ 15 ≤ F.length ∧
      (storedOut K L).bytes.length ≤ head.length ∧
      ft.fieldsIndexOffset + 8 * L.fields.length = data.length := by
  obtain ⟨mid, dictLocs, hw⟩ := written hv hs
  have hlen := hw.len
  have hd := hw.shape.data_eq
  have hz := hw.zip_length
  have hdl := congrArg List.length hd
  rw [List.length_append, List.length_append, persistFields_length, hz] at hdl
  refine ⟨(storedOut K L).bytes ++ mid, _, hd, ?_, by simp, ?_⟩
  · -- the first record is `_id`'s
    obtain ⟨f0, hf0, hid⟩ : ∃ f0, L.fields[0]? = some f0 ∧ f0.name = idField := by
      have := hv.id_first
      cases hfs : L.fields with
      | nil => rw [hfs] at this; cases this
      | cons f0 r => rw [hfs] at this; exact ⟨f0, rfl, by simpa using this⟩
    have h0 : 0 < L.fields.length := (List.getElem?_eq_some_iff.mp hf0).1
    obtain ⟨pre, post, hrec, -⟩ := persistFieldsLoop_spec (dictLocs.zip L.fields)
      ((storedOut K L).bytes.length + mid.length) 0 (dictLocs[0]'(hw.shape.dl_len ▸ h0), f0)
      (List.getElem?_zip_eq_some.mpr ⟨List.getElem?_eq_getElem _, hf0⟩)
    have h7 := fieldRecord_length_ge (dictLocs[0]'(hw.shape.dl_len ▸ h0)) f0
    rw [hid, show idField.length = 3 from rfl] at h7
    rw [persistFields_length, hz, hrec]
    simp only [List.length_append]
    omega
  · rw [hw.shape.fio, persistFields_snd, u64_small (by omega)]
    omega

/-- **C04_fields** (component).  The field count is right: the walk over the address table stops
    exactly at the end of the data section. -/
theorem loadFields_written {K : Codecs} {L : LSeg} (hv : Valid K L) {data : Bytes} {ft : Footer}
    {mid : Bytes} {dictLocs : List Nat} (hw : Written K L data ft mid dictLocs) (mem : Bool) :
    loadFields { bytes := data, mem := mem } ft.fieldsIndexOffset =
      .ok { fieldsInv := L.fields.map (·.name), dictLocs := dictLocs,
            fieldDocs := L.fields.map (·.fieldDocs), fieldFreqs := L.fields.map (·.fieldFreqs) } := by
  have hval : ∀ p ∈ dictLocs.zip L.fields, p.1 < 2 ^ 64 ∧ p.2.name.length < 2 ^ 64 ∧
      p.2.fieldDocs < 2 ^ 64 ∧ p.2.fieldFreqs < 2 ^ 64 := by
    intro p hp
    obtain ⟨h1, h2⟩ := List.of_mem_zip hp
    obtain ⟨a, b, c, _⟩ := hv.fields p.2 h2
    exact ⟨dictLocs_lt hv hw p.1 h1, a, b, c⟩
  have key := loadFields_ok { bytes := data, mem := mem } ((storedOut K L).bytes ++ mid)
    (dictLocs.zip L.fields) (by rw [List.length_append]; exact hw.shape.data_eq)
    hw.data_lt hval
  rw [List.length_append, ← hw.shape.fio] at key
  have hz1 : (dictLocs.zip L.fields).map (·.1) = dictLocs :=
    List.map_fst_zip (Nat.le_of_eq hw.shape.dl_len)
  have hz2 : ∀ {α : Type} (g : FieldDesc → α),
      (dictLocs.zip L.fields).map (fun x => g x.2) = L.fields.map g := by
    intro α g
    have := congrArg (List.map g)
      (List.map_snd_zip (l₁ := dictLocs) (l₂ := L.fields) (Nat.le_of_eq hw.shape.dl_len.symm))
    rw [List.map_map] at this
    exact this
  rw [key, accOf, hz1, hz2, hz2, hz2]

theorem loadStored_written {K : Codecs} {L : LSeg} (hv : Valid K L) {data : Bytes} {ft : Footer}
    {mid : Bytes} {dictLocs : List Nat} (hw : Written K L data ft mid dictLocs) :
    Stored.loadStoredFieldChunk data ft.storedIndexOffset = .ok (storedOut K L).chunkOffsets := by
  obtain ⟨F, hd, hF⟩ := written_split hv hw
  rw [hw.shape.sio, hd]
  exact C06.loadChunk_written K.stored docBlock L.fields.length L.stored (mid ++ F)
    ⟨hv.stored, hv.trailer.1, hv.trailer.2, by simp only [List.length_append]; omega⟩

theorem dv_field {K : Codecs} {L : LSeg} (hv : Valid K L) {data : Bytes} {ft : Footer}
    {mid : Bytes} {dictLocs : List Nat} (hw : Written K L data ft mid dictLocs)
    {outs : List FieldOut} (hl : Laid K L data ft dictLocs outs) (mem : Bool) (i : Nat)
    (f : FieldDesc) (hf : L.fields[i]? = some f) :
    ∃ o r, outs[i]? = some o ∧ o.dvStart < 2 ^ 64 ∧ o.dvEnd < 2 ^ 64 ∧
      DocValues.loadFieldDocValueReader { bytes := data, mem := mem } o.dvStart o.dvEnd = .ok r ∧
      (f.dv = none → r = none) ∧
      (∀ vals, f.dv = some vals → ∃ r0, r = some r0 ∧
        C07.Placed (dvMode L.merger) K.dv dvChunk (L.numDocs - 1) vals { bytes := data, mem := mem }
          o.dvStart o.dvEnd) := by
  obtain ⟨o, c, b, ho, hat, -, hp⟩ := hl.field i f hf
  obtain ⟨h1, h2, r, h⟩ := field_dv K { bytes := data, mem := mem } hat hw.data_lt hp
    (fun _ h => (hv.fields f (List.mem_of_getElem? hf)).dv h)
  exact ⟨o, r, ho, h1, h2, h⟩

/-- **C04_dv** (loader part).  A segment without documents is loaded without touching the
    doc-value index; with documents every field with doc values gets the reader of C07, opened at
    the offsets found in the index. -/
theorem loadDv_written {K : Codecs} {L : LSeg} (hv : Valid K L) {data : Bytes} {ft : Footer}
    {mid : Bytes} {dictLocs : List Nat} (hw : Written K L data ft mid dictLocs) (mem : Bool) (c : Nat) :
    ∃ rs, loadDvReaders { bytes := data, mem := mem } { ft with crc := c } (L.fields.map (·.name))
        = .ok rs ∧ rs.length = L.fields.length ∧ (L.numDocs = 0 → ∀ r ∈ rs, r = none) ∧
      (0 < L.numDocs → ∀ (i : Nat) (f : FieldDesc), L.fields[i]? = some f →
        ∃ r, rs[i]? = some r ∧ (f.dv = none → r = none) ∧
          ∀ vals, f.dv = some vals → ∃ r0 s e, r = some r0 ∧
            C07.Placed (dvMode L.merger) K.dv dvChunk (L.numDocs - 1) vals
              { bytes := data, mem := mem } s e ∧
            DocValues.loadFieldDocValueReader { bytes := data, mem := mem } s e = .ok (some r0)) := by
  have hsz := hw.data_lt
  by_cases hnd : 0 < L.numDocs
  · obtain ⟨outs, hl⟩ := laid hv hw hnd
    have hol := hl.len
    have hat := hl.index
    have hlt62 := Nat.lt_of_le_of_lt (Nat.le_trans (Nat.le_add_right _ _) hat.end_le) hsz
    have hper := forall_mem_of_index
      (P := fun o => o.dvStart < 2 ^ 64 ∧ o.dvEnd < 2 ^ 64 ∧
        ∃ r, DocValues.loadFieldDocValueReader { bytes := data, mem := mem } o.dvStart o.dvEnd = .ok r)
      hol (fun i f hf => by
        obtain ⟨o, r, ho, h1, h2, hr, -⟩ := dv_field hv hw hl mem i f hf
        exact ⟨o, ho, h1, h2, r, hr⟩)
    obtain ⟨rs, hrs, hrl, hri⟩ := loadDvLoop_ok { bytes := data, mem := mem } ft.docValueOffset hsz
      outs (L.fields.map (·.name)) 0 (by rw [List.length_map, hol])
      (by rw [DocValues.add64_small (Nat.lt_trans hlt62 (by decide))]; exact hat) hper
    refine ⟨rs, ?_, by rw [hrl, hol], fun h0 => by omega, ?_⟩
    · have h1 : ¬ (ft.docValueOffset = maxUint64 ∨ ft.numDocs = 0) := by
        rw [hw.shape.numDocs]
        exact fun h => h.elim (fun h => absurd (h ▸ hlt62) (by decide)) (Nat.ne_of_gt hnd)
      exact (if_neg h1).trans hrs
    · intro _ i f hf
      obtain ⟨o, r, ho, -, -, hr, hnone, hsome⟩ := dv_field hv hw hl mem i f hf
      obtain ⟨r', hr1, hr2⟩ := hri i o ho
      rw [hr] at hr2
      cases hr2
      refine ⟨r, hr1, hnone, fun vals hv' => ?_⟩
      obtain ⟨r0, rfl, hP⟩ := hsome vals hv'
      exact ⟨r0, _, _, rfl, hP, hr⟩
  · refine ⟨(L.fields.map (·.name)).map fun _ => none, ?_, by simp, ?_, fun h => absurd h hnd⟩
    · exact if_pos (Or.inr (by show ft.numDocs = 0; rw [hw.shape.numDocs]; omega))
    · intro _ r hr
      simp only [List.map_map, List.mem_map] at hr
      obtain ⟨_, _, rfl⟩ := hr
      rfl

/-- the footer `load` parses from the file of a written segment -/
def loadedFooter (K : Codecs) (data : Bytes) (ft : Footer) : Footer :=
  { ft with crc := K.crc.upd 0 (data ++ footerFields ft) }

/-- the segment `load` builds from the file of a written segment, given the doc-value readers -/
def loadedSeg (K : Codecs) (L : LSeg) (data : Bytes) (ft : Footer) (mem : Bool)
    (dictLocs : List Nat) (rs : List (Option DocValues.Reader)) : Loaded :=
  { data := { bytes := data, mem := mem }, footer := loadedFooter K data ft,
    fieldsInv := L.fields.map (·.name), dictLocs := dictLocs,
    fieldDocs := L.fields.map (·.fieldDocs), fieldFreqs := L.fields.map (·.fieldFreqs),
    storedChunkOffsets := (storedOut K L).chunkOffsets, dvReaders := rs }

theorem load_of_written {K : Codecs} {L : LSeg} (hv : Valid K L) {data : Bytes} {ft : Footer}
    (hs : serialize K L = .ok (data, ft)) {mid : Bytes} {dictLocs : List Nat}
    (hw : Written K L data ft mid dictLocs) (mem : Bool) {rs : List (Option DocValues.Reader)}
    (hrs : loadDvReaders { bytes := data, mem := mem }
      { ft with crc := K.crc.upd 0 (data ++ footerFields ft) } (L.fields.map (·.name)) = .ok rs) :
    load mem (fileOf K data ft) = .ok (loadedSeg K L data ft mem dictLocs rs) := by
  unfold load
  rw [C04_footer K L hv data ft hs]
  simp only [data_of_file, loadFields_written hv hw mem, loadStored_written hv hw, hrs,
    ChunkBytes.ok_bind, ChunkBytes.pure_eq_ok]
  rfl

/-- **What the readers find in the segment loaded from a written file.**  The footer values and
    field tables of the description; one dictionary location per field (zeros without documents);
    with documents, per field its FST with a value for every term at which the term is read back
    (`TermReads`), and a doc-value reader opened on the written column (`C07.Placed`) or none; the
    stored section in front of the data, read by the reader of C06. -/
structure Reads (K : Codecs) (L : LSeg) (ld : Loaded) : Prop where
  numDocs : ld.footer.numDocs = L.numDocs
  mode : ld.footer.chunkMode = L.chunkMode
  names : ld.fieldsInv = L.fields.map (·.name)
  fieldDocs : ld.fieldDocs = L.fields.map (·.fieldDocs)
  fieldFreqs : ld.fieldFreqs = L.fields.map (·.fieldFreqs)
  len : ld.data.bytes.length + 44 < 2 ^ 62
  dl_len : ld.dictLocs.length = L.fields.length
  dl_zero : L.numDocs = 0 → ld.dictLocs = L.fields.map fun _ => 0
  dict : 0 < L.numDocs → ∀ (i : Nat) (f : FieldDesc), L.fields[i]? = some f →
    ∃ fst, dictionaryOf K ld i = .ok (some fst) ∧ fst.map (·.1) = f.terms.map (·.1) ∧
      ∀ (j : Nat) (key : Bytes) (td : TermDesc), f.terms[j]? = some (key, td) →
        ∃ v, fst[j]? = some (key, v) ∧ TermReads K ld L.chunkMode L.numDocs v td
  stored : ∃ tail, ld.data.bytes = (storedOut K L).bytes ++ tail ∧
    ld.storedSeg = Stored.segOfNew K.stored docBlock L.fields.length L.stored tail
  dv_len : ld.dvReaders.length = L.fields.length
  dv_zero : L.numDocs = 0 → ∀ r ∈ ld.dvReaders, r = none
  dv : 0 < L.numDocs → ∀ (i : Nat) (f : FieldDesc), L.fields[i]? = some f →
    ∃ r, ld.dvReaders[i]? = some r ∧ (f.dv = none → r = none) ∧
      ∀ vals, f.dv = some vals → ∃ r0 s e, r = some r0 ∧
        C07.Placed (dvMode L.merger) K.dv dvChunk (L.numDocs - 1) vals ld.data s e ∧
        DocValues.loadFieldDocValueReader ld.data s e = .ok (some r0)

theorem dictionaryOf_none (K : Codecs) (ld : Loaded) (i : Nat)
    (h : ∀ x, ld.dictLocs[i]? = some x → x = 0) : dictionaryOf K ld i = .ok none := by
  unfold dictionaryOf
  cases hd : ld.dictLocs[i]? with
  | none => rfl
  | some x => rw [h x hd]; rfl

theorem Reads.dict_none {K : Codecs} {L : LSeg} {ld : Loaded} (h : Reads K L ld) {i : Nat}
    (hi : L.numDocs = 0 ∨ L.fields[i]? = none) : dictionaryOf K ld i = .ok none := by
  refine dictionaryOf_none K ld i fun x hx => ?_
  rcases hi with h0 | hi
  · have : x ∈ L.fields.map fun _ => 0 := h.dl_zero h0 ▸ List.mem_of_getElem? hx
    obtain ⟨_, -, rfl⟩ := List.mem_map.mp this
    rfl
  · rw [List.getElem?_eq_none_iff, ← h.dl_len, ← List.getElem?_eq_none_iff] at hi
    rw [hi] at hx
    cases hx

/-- **`load` succeeds on every written file, for both backings**, and the segment it builds
    reads as the description says -/
theorem load_written {K : Codecs} {L : LSeg} (hv : Valid K L) {data : Bytes} {ft : Footer}
    (hs : serialize K L = .ok (data, ft)) (mem : Bool) :
    ∃ ld, load mem (fileOf K data ft) = .ok ld ∧ ld.data = { bytes := data, mem := mem } ∧
      ld.footer = loadedFooter K data ft ∧ Reads K L ld := by
  obtain ⟨mid, dictLocs, hw⟩ := written hv hs
  obtain ⟨rs, hrs, hrl, hz, hp⟩ := loadDv_written hv hw mem (K.crc.upd 0 (data ++ footerFields ft))
  obtain ⟨F, hd, -⟩ := written_split hv hw
  refine ⟨_, load_of_written hv hs hw mem hrs, rfl, rfl,
    { numDocs := hw.shape.numDocs, mode := hw.shape.mode, names := rfl, fieldDocs := rfl,
      fieldFreqs := rfl, len := hw.len, dl_len := hw.shape.dl_len,
      dl_zero := fun h => (hw.zero h).2.1, dict := fun hnd i f hf => ?_,
      stored := ⟨mid ++ F, hd, ?_⟩, dv_len := hrl, dv_zero := hz, dv := hp }⟩
  · obtain ⟨outs, hl⟩ := laid hv hw hnd
    obtain ⟨o, c, b, ho, hat, hc, hp⟩ := hl.field i f hf
    exact field_read K (loadedSeg K L data ft mem dictLocs rs) hat hc hw.data_lt hw.shape.mode
      hw.shape.numDocs hv.numDocs_lt (hv.fields f (List.mem_of_getElem? hf)).terms hp
      (by show dictLocs[i]? = _; rw [hl.dl_eq, List.getElem?_map, ho]; rfl)
  · unfold Loaded.storedSeg loadedSeg loadedFooter Stored.segOfNew
    simp only [List.length_map]
    rw [hw.shape.numDocs, hw.shape.sio, hv.numDocs_eq]
    congr 1

/-- **C04_fields.**  The loaded segment has the fields of the description, in order, with their
    names, `fieldDocs` and `fieldFreqs`; one dictionary location per field (all 0 without
    documents); and the footer values of `serialize`. -/
theorem C04_fields (K : Codecs) (L : LSeg) (hv : Valid K L) (data : Bytes) (ft : Footer)
    (hs : serialize K L = .ok (data, ft)) (mem : Bool) :
    ∃ ld, load mem (fileOf K data ft) = .ok ld ∧
      ld.data = { bytes := data, mem := mem } ∧
      ld.footer = { ft with crc := K.crc.upd 0 (data ++ footerFields ft) } ∧
      ld.footer.numDocs = L.numDocs ∧ ld.footer.chunkMode = L.chunkMode ∧
      ld.fieldsInv = L.fields.map (·.name) ∧
      ld.fieldDocs = L.fields.map (·.fieldDocs) ∧ ld.fieldFreqs = L.fields.map (·.fieldFreqs) ∧
      ld.dictLocs.length = L.fields.length ∧
      (L.numDocs = 0 → ld.dictLocs = L.fields.map fun _ => 0) := by
  obtain ⟨ld, hl, hd, hf, hR⟩ := load_written hv hs mem
  exact ⟨ld, hl, hd, hf, hR.numDocs, hR.mode, hR.names, hR.fieldDocs, hR.fieldFreqs, hR.dl_len,
    hR.dl_zero⟩

/-- **C04_stored.**  The stored-fields reader of the loaded segment is the reader of the segment
    that was built (C06: the stored section is the prefix of the file), so every visit delivers
    the stored values of the description: for a document of the segment, any incoming context
    buffer and any visitor stop; nothing beyond the count. -/
theorem C04_stored (K : Codecs) (L : LSeg) (hv : Valid K L) (data : Bytes) (ft : Footer)
    (hs : serialize K L = .ok (data, ft)) (mem : Bool) :
    ∃ ld tail, load mem (fileOf K data ft) = .ok ld ∧
      data = (storedOut K L).bytes ++ tail ∧
      ld.storedSeg = Stored.segOfNew K.stored docBlock L.fields.length L.stored tail ∧
      (∀ (n : Nat) (hn : n < L.stored.length) (buf : Stored.Buf) (stop : Option Nat),
        ∃ buf', Stored.visit K.stored ld.storedSeg buf n stop =
          .ok (Stored.takeStop stop (Stored.flat L.stored[n]), buf')) ∧
      (∀ (n : Nat), L.stored.length ≤ n → ∀ (buf : Stored.Buf) (stop : Option Nat),
        Stored.visit K.stored ld.storedSeg buf n stop = .ok ([], buf)) := by
  obtain ⟨ld, hl, hd, -, hR⟩ := load_written hv hs mem
  obtain ⟨tail, ht, hseg⟩ := hR.stored
  refine ⟨ld, tail, hl, by rw [← ht, hd], hseg, ?_, ?_⟩
  · intro n hn buf stop
    rw [hseg]
    exact C06.C06_visit K.stored docBlock L.fields.length L.stored _ hv.stored n hn buf stop
  · intro n hn buf stop
    rw [hseg]
    exact C06.C06_beyond K.stored docBlock L.fields.length L.stored _ n hn buf stop

/-- **C04_dv.**  Doc values of the loaded segment.  A field without doc values has no reader.
    A field with the column `vals` has a reader with one end offset per chunk and an empty cache,
    on which every sequence of visits (any order, repetitions) succeeds and delivers, visit by
    visit, exactly the terms of the visited document (C07 at the section's position; the
    section is followed by at least ten bytes of the data section).  Without documents nothing
    is read from the doc-value index and no field has a reader. -/
theorem C04_dv (K : Codecs) (L : LSeg) (hv : Valid K L) (data : Bytes) (ft : Footer)
    (hs : serialize K L = .ok (data, ft)) (mem : Bool) :
    ∃ ld, load mem (fileOf K data ft) = .ok ld ∧ ld.dvReaders.length = L.fields.length ∧
      (L.numDocs = 0 → ∀ r ∈ ld.dvReaders, r = none) ∧
      (0 < L.numDocs → ∀ (i : Nat) (f : FieldDesc), L.fields[i]? = some f →
        (f.dv = none → ld.dvReaders[i]? = some none) ∧
        ∀ vals, f.dv = some vals → ∃ r0, ld.dvReaders[i]? = some (some r0) ∧
          r0.chunkOffsets.length = (L.numDocs - 1) / dvChunk + 1 ∧
          r0.curChunkNum = DocValues.maxInt64 ∧ r0.curChunkHeader = [] ∧
          r0.curChunkData = none ∧ r0.uncompressed = [] ∧
          ∀ ds : List Nat, (∀ d ∈ ds, d ≤ L.numDocs - 1) →
            ∃ r', DocValues.Reader.visitAll K.dv ld.data dvChunk r0 ds =
              .ok (ds.map (DocValues.termsOf vals), r')) := by
  obtain ⟨ld, hl, -, -, hR⟩ := load_written hv hs mem
  refine ⟨ld, hl, hR.dv_len, hR.dv_zero, ?_⟩
  intro hnd i f hf
  obtain ⟨r, hr, hnone, hsome⟩ := hR.dv hnd i f hf
  refine ⟨fun h => by rw [← hnone h]; exact hr, ?_⟩
  intro vals hvals
  obtain ⟨r0, s, e, rfl, hP, hload⟩ := hsome vals hvals
  obtain ⟨_, _, -, ⟨r0', hload', h1, h2, hinv⟩, hvis⟩ := hP.spec
  cases hload.symm.trans hload'
  obtain ⟨-, -, h3, h4, h5⟩ := DocValues.loadField_shape hload
  refine ⟨r0, hr, h1, h2, h3, h4, h5, fun ds hds => ?_⟩
  obtain ⟨r', h, -⟩ := hvis r0 ds hinv hds
  exact ⟨r', h⟩

/-- **C04_dict.**  For every field of a segment with documents, `dictionaryOf` returns its FST:
    the term keys of the description in order, each with its value - the 1-hit code of a 1-hit
    term, and for a general term a positive offset inside the data section that is not mistaken
    for a 1-hit code (`C04_postings` says what lies there).  Without documents no field has a
    dictionary (`dictLocs` all 0). -/
theorem C04_dict (K : Codecs) (L : LSeg) (hv : Valid K L) (data : Bytes) (ft : Footer)
    (hs : serialize K L = .ok (data, ft)) (mem : Bool) :
    ∃ ld, load mem (fileOf K data ft) = .ok ld ∧
      (L.numDocs = 0 → ∀ i, dictionaryOf K ld i = .ok none) ∧
      (0 < L.numDocs → ∀ (i : Nat) (f : FieldDesc), L.fields[i]? = some f →
        ∃ fst, dictionaryOf K ld i = .ok (some fst) ∧ fst.map (·.1) = f.terms.map (·.1) ∧
          ∀ (j : Nat) (key : Bytes) (td : TermDesc), f.terms[j]? = some (key, td) →
            ∃ v, fst[j]? = some (key, v) ∧
              match td with
              | .oneHit d n => v = encode1Hit d n
              | .general _ => 0 < v ∧ v < data.length ∧ is1Hit v = false) := by
  obtain ⟨ld, hl, hd, -, hR⟩ := load_written hv hs mem
  refine ⟨ld, hl, fun h0 i => hR.dict_none (.inl h0), fun hnd i f hf => ?_⟩
  obtain ⟨fst, hdict, hkeys, hterm⟩ := hR.dict hnd i f hf
  refine ⟨fst, hdict, hkeys, fun j key td ht => ?_⟩
  obtain ⟨v, hvj, hr⟩ := hterm j key td ht
  refine ⟨v, hvj, ?_⟩
  cases td with
  | oneHit d n => exact hr.1
  | general es => exact ⟨hr.1, by have := hr.2.1; rwa [hd] at this, hr.2.2.1⟩

/-- **C04_postings.**  For every term of every field (segment with documents): the FST value
    found by `dictionaryOf` leads `readPostings` to the term's postings.
    * 1-hit term: the decoded document number and norm bits.
    * general term: the record whose `docs` are the entries' document numbers, whose chunk size is
      `getChunkSize chunkMode card numDocs`, and whose `freqOffset` / `locOffset` (the latter
      after the reader's `+= freqOffset`) are offsets at which chunked-int decoders open - for
      both backings of `ChunkBytes.Data.read` - and load, for every chunk, bytes from which
      entry-by-entry decoding gives back exactly the entries of that chunk (T6/T7 of
      `Props/ChunkBytes.lean` at the term's position in the file). -/
theorem C04_postings (K : Codecs) (L : LSeg) (hv : Valid K L) (data : Bytes) (ft : Footer)
    (hs : serialize K L = .ok (data, ft)) (mem : Bool) (hnd : 0 < L.numDocs)
    (i : Nat) (f : FieldDesc) (hf : L.fields[i]? = some f)
    (j : Nat) (key : Bytes) (td : TermDesc) (ht : f.terms[j]? = some (key, td)) :
    ∃ ld fst v, load mem (fileOf K data ft) = .ok ld ∧ dictionaryOf K ld i = .ok (some fst) ∧
      fst[j]? = some (key, v) ∧
      match td with
      | .oneHit d n => readPostings K ld v = .ok (.oneHit d n)
      | .general es =>
        ∃ fo lo raw cs, readPostings K ld v = .ok (.general fo lo (es.map (·.doc)) cs) ∧
          ld.store K v = some { freqOffset := fo, locOffset := raw, docs := es.map (·.doc) } ∧
          getChunkSize L.chunkMode es.length L.numDocs = .ok cs ∧ 0 < cs ∧
          ∀ file : Bool, ∃ dt dl,
            ChunkBytes.Decoder.newWith file data fo = .ok dt ∧
            ChunkBytes.Decoder.newWith file data lo = .ok dl ∧
            ∀ c, c < (L.numDocs - 1) / cs + 1 →
              ∃ fb lb, dt.loadChunk K.chunk c = .ok fb ∧ dl.loadChunk K.chunk c = .ok lb ∧
                ChunkBytes.decodeAll ((ChunkBytes.chunkOf cs es c).length + 1) ⟨fb, 0⟩ ⟨lb, 0⟩
                  = .ok ((ChunkBytes.chunkOf cs es c).map fun e => (e.freq, e.norm, e.locs)) := by
  obtain ⟨ld, hl, hd, -, hR⟩ := load_written hv hs mem
  obtain ⟨fst, hdict, -, hterm⟩ := hR.dict hnd i f hf
  obtain ⟨v, hvj, hr⟩ := hterm j key td ht
  refine ⟨ld, fst, v, hl, hdict, hvj, ?_⟩
  cases td with
  | oneHit d n => exact hr.2
  | general es =>
    obtain ⟨-, -, -, fo, lo, raw, cs, h1, h2, h3, h4, h5⟩ := hr
    have htv := (hv.fields f (List.mem_of_getElem? hf)).terms (key, .general es) (List.mem_of_getElem? ht)
    refine ⟨fo, lo, raw, cs, h1, h2, h3, h4, fun file => ?_⟩
    obtain ⟨dt, dl, hdt, hdl, hload⟩ := h5 file
    rw [hd] at hdt hdl
    -- the chunks decode entry by entry (T4)
    exact ⟨dt, dl, hdt, hdl, fun c hc => ⟨_, _, (hload c hc).1, (hload c hc).2,
      ChunkBytes.T4_decodeAll _ (fun e he => htv.2.1 e (List.mem_filter.mp he).1) _
        (Nat.lt_succ_self _)⟩⟩

/-- without documents `serialize` cannot fail: stored section (trailer only), fields section -/
theorem serialize_zero (K : Codecs) (L : LSeg) (h0 : L.numDocs = 0) :
    ∃ data ft, serialize K L = .ok (data, ft) ∧
      data = (storedOut K L).bytes ++
        (persistFields (storedOut K L).bytes.length ((L.fields.map fun _ => 0).zip L.fields)).1 ∧
      ft.docValueOffset = (if L.merger then maxUint64 else 0) := by
  rw [serialize_eq_middle, middle, if_neg (by omega)]
  exact ⟨_, _, rfl, by simp, rfl⟩

/-- **C04_empty.**  A segment without documents - the builder on an empty batch
    (`docValueOffset = 0`, the zero value `convert` leaves in `fdvIndexOffset`), the merger when
    nothing survives (`docValueOffset = 2^64-1`) - serializes, and the file loads for both
    backings: the fields are there, no field has a dictionary (`dictLocs` all 0) or a doc-value
    reader (the doc-value index is not touched), and every stored-field visit delivers nothing. -/
theorem C04_empty (K : Codecs) (L : LSeg) (hv : Valid K L) (h0 : L.numDocs = 0) (mem : Bool) :
    ∃ data ft ld, serialize K L = .ok (data, ft) ∧ load mem (fileOf K data ft) = .ok ld ∧
      ld.footer.numDocs = 0 ∧
      ld.footer.docValueOffset = (if L.merger then 2 ^ 64 - 1 else 0) ∧
      ld.fieldsInv = L.fields.map (·.name) ∧
      ld.dictLocs = L.fields.map (fun _ => 0) ∧
      (∀ r ∈ ld.dvReaders, r = none) ∧
      (∀ i, dictionaryOf K ld i = .ok none) ∧
      (∀ (n : Nat) (buf : Stored.Buf) (stop : Option Nat),
        Stored.visit K.stored ld.storedSeg buf n stop = .ok ([], buf)) := by
  obtain ⟨data, ft, hs, _, hdvo⟩ := serialize_zero K L h0
  obtain ⟨ld, hl, -, hft, hR⟩ := load_written hv hs mem
  obtain ⟨tail, -, hseg⟩ := hR.stored
  refine ⟨data, ft, ld, hs, hl, by rw [hR.numDocs, h0], by rw [hft]; exact hdvo, hR.names,
    hR.dl_zero h0, hR.dv_zero h0, fun i => hR.dict_none (.inl h0), fun n buf stop => ?_⟩
  rw [hseg]
  exact C06.C06_beyond K.stored docBlock L.fields.length L.stored _ n
    (by rw [← hv.numDocs_eq, h0]; exact Nat.zero_le _) buf stop

instance (cs m : Nat) (vals : List (Nat × List Bytes)) : Decidable (C07.Valid cs m vals) :=
  decidable_of_iff
    (0 < cs ∧ vals.Pairwise (fun a b => a.1 < b.1) ∧ (∀ q ∈ vals, q.1 ≤ m) ∧ m < 2 ^ 63 - 1 ∧
      C07.rawSize vals < 2 ^ 64 - 1 ∧ ∀ q ∈ vals, ∀ t ∈ q.2, (255 : Nat) ∉ t)
    ⟨fun ⟨a, b, c, d, e, f⟩ => ⟨a, b, c, d, e, f⟩, fun ⟨a, b, c, d, e, f⟩ => ⟨a, b, c, d, e, f⟩⟩

instance (merger : Bool) (numDocs : Nat) (f : FieldDesc) : Decidable (f.Valid merger numDocs) := by
  unfold FieldDesc.Valid
  have : Decidable (∀ vals, f.dv = some vals → C07.Valid dvChunk (numDocs - 1) vals) := by
    cases f.dv with
    | none => exact isTrue (fun _ h => by cases h)
    | some v =>
      exact decidable_of_iff (C07.Valid dvChunk (numDocs - 1) v)
        ⟨fun h _ e => by cases e; exact h, fun h => h v rfl⟩
  infer_instance

instance (K : Codecs) (L : LSeg) : Decidable (Valid K L) := by
  have : Decidable (match serialize K L with
      | .ok (data, _) => data.length + 44 < 2 ^ 62
      | _ => True) := by
    split <;> infer_instance
  exact decidable_of_iff
    (L.fields.head?.map (·.name) = some idField ∧ L.fields.length < 2 ^ 16 ∧
      L.numDocs = L.stored.length ∧ L.numDocs < 2 ^ 32 ∧ (1 ≤ L.chunkMode ∧ L.chunkMode ≤ 1025) ∧
      (∀ f ∈ L.fields, f.Valid L.merger L.numDocs) ∧
      (L.numDocs = 0 → ∀ f ∈ L.fields,
        f.terms = [] ∧ f.dv = none ∧ f.fieldDocs = 0 ∧ f.fieldFreqs = 0) ∧
      C06.Valid K.stored docBlock L.fields.length L.stored ∧
      (((storedOut K L).chunkOffsets.flatMap putUvarint).length < 2 ^ 32 ∧
        (storedOut K L).chunkOffsets.length < 2 ^ 32) ∧
      (match serialize K L with
        | .ok (data, _) => data.length + 44 < 2 ^ 62
        | _ => True))
    ⟨fun ⟨a, b, c, d, e, f, g, h, i, j⟩ => ⟨a, b, c, d, e, f, g, h, i, j⟩,
     fun ⟨a, b, c, d, e, f, g, h, i, j⟩ => ⟨a, b, c, d, e, f, g, h, i, j⟩⟩

/-- sum of bytes modulo 2^32: a checksum with the update law -/
def exCRC : CRC :=
  { upd := fun c b => (c + b.sum) % 2 ^ 32,
    upd_append := by
      intro c a b
      simp only [List.sum_append]
      omega }

/-- a toy FST format: per entry the key length, the key, the value as big-endian u64 -/
def encFst : List (Bytes × Nat) → Bytes
  | [] => []
  | (k, v) :: r => k.length :: k ++ be 8 v ++ encFst r

def decFst : Nat → Bytes → Option (List (Bytes × Nat))
  | 0, _ => none
  | _, [] => some []
  | fuel + 1, n :: r =>
    if r.length < n + 8 then none else
    match decFst fuel (r.drop (n + 8)) with
    | none => none
    | some es => some ((r.take n, unbe ((r.drop n).take 8)) :: es)

theorem encFst_rt : ∀ (es : List (Bytes × Nat)) (fuel : Nat), (encFst es).length < fuel →
    (∀ e ∈ es, e.2 < 2 ^ 64) → decFst fuel (encFst es) = some es := by
  intro es
  induction es with
  | nil => intro fuel hf _; cases fuel with
    | zero => simp [encFst] at hf
    | succ f => simp [encFst, decFst]
  | cons e es ih =>
    intro fuel hf hv
    obtain ⟨k, v⟩ := e
    cases fuel with
    | zero => omega
    | succ f =>
      have hlen : (encFst ((k, v) :: es)).length = 1 + k.length + 8 + (encFst es).length := by
        simp [encFst, C11.be_length]; omega
      have hv8 : v < 256 ^ 8 := by have := hv (k, v) (by simp); simpa using this
      have hrest : ∀ e ∈ es, e.2 < 2 ^ 64 := fun e he => hv e (by simp [he])
      have e1 : (k ++ (be 8 v ++ encFst es)).drop (k.length + 8) = encFst es := by
        rw [← List.drop_drop, List.drop_left]
        exact List.drop_left' (C11.be_length 8 v)
      have e2 : (k ++ (be 8 v ++ encFst es)).take k.length = k := by simp
      have e3 : ((k ++ (be 8 v ++ encFst es)).drop k.length).take 8 = be 8 v := by
        rw [List.drop_left]
        exact List.take_left' (C11.be_length 8 v)
      have hnot : ¬ (k ++ (be 8 v ++ encFst es)).length < k.length + 8 := by
        simp [C11.be_length]
      simp only [encFst, List.cons_append, List.append_assoc, decFst, hnot, if_false, e1, e2, e3]
      rw [ih f (by omega) hrest, C11.unbe_be 8 v hv8]

/-- "identity" codecs: no compression, a bitmap is the list of its members (one byte each, for
    the small document numbers of the example), the toy FST format above -/
def exK : Codecs :=
  { Z := id, unZ := some, rt := fun _ => rfl, z_nil := rfl,
    rEnc := id, rDec := some, r_rt := fun _ _ _ => rfl,
    fstEnc := encFst, fstDec := fun b => decFst (b.length + 1) b,
    fst_rt := fun es _ hv => encFst_rt es _ (Nat.lt_succ_self _) hv,
    crc := exCRC, crc_lt := fun _ _ => Nat.mod_lt _ (by decide) }

def exL : LSeg :=
  { merger := false, numDocs := 3, chunkMode := 2,
    fields := [
      { name := idField, fieldDocs := 3, fieldFreqs := 3,
        terms := [([48], .general [⟨0, 1, 7, []⟩]), ([49], .general [⟨1, 1, 7, []⟩]),
                  ([50], .general [⟨2, 1, 7, []⟩])],
        dv := none },
      { name := [102], fieldDocs := 3, fieldFreqs := 5,
        terms := [([97], .general [⟨0, 2, 9, [⟨1, 1, 0, 1⟩, ⟨1, 3, 4, 5⟩]⟩, ⟨1, 1, 9, []⟩, ⟨2, 1, 300, []⟩]),
                  ([98], .general [⟨1, 1, 9, [⟨1, 2, 2, 3⟩]⟩])],
        dv := some [(0, [[97]]), (1, [[97], [98]]), (2, [[97]])] } ],
    stored := [[(0, [[48]])], [(0, [[49]]), (1, [[120, 121]])], [(0, [[50]])]] }

def exData : Bytes := [3, 1, 0, 0, 1, 48, 6, 3, 0, 0, 1, 1, 1, 2, 49, 120, 121, 3, 1, 0, 0, 1, 50, 0, 23, 0, 0, 0, 2, 0, 0, 0, 2, 0, 0, 0,
    0, 0, 0, 0, 0, 0, 0, 0, 0, 0, 0, 0, 6, 0, 0, 0, 0, 0, 0, 0, 17, 2, 2, 2, 2, 7, 57, 0, 1, 0, 2, 2, 2, 2, 7, 66, 0, 1,
    1, 2, 0, 2, 2, 7, 75, 0, 1, 2, 30, 1, 48, 0, 0, 0, 0, 0, 0, 0, 62, 1, 49, 0, 0, 0, 0, 0, 0, 0, 71, 1, 50, 0, 0, 0,
    0, 0, 0, 0, 80, 2, 4, 7, 5, 9, 2, 9, 2, 172, 2, 2, 9, 9, 8, 1, 1, 0, 1, 1, 3, 4, 5, 115, 10, 3, 0, 1, 2, 2, 2, 2, 3,
    9, 2, 5, 5, 4, 1, 2, 2, 3, 143, 1, 5, 1, 1, 20, 1, 97, 0, 0, 0, 0, 0, 0, 0, 137, 1, 98, 0, 0, 0, 0, 0, 0, 0, 156, 3,
    0, 2, 1, 4, 1, 2, 97, 255, 97, 255, 98, 255, 97, 255, 15, 0, 0, 0, 0, 0, 0, 0, 1, 0, 0, 0, 0, 0, 0, 0, 1, 255, 255,
    255, 255, 255, 255, 255, 255, 255, 1, 255, 255, 255, 255, 255, 255, 255, 255, 255, 1, 182, 1, 214, 1, 84, 3, 95,
    105, 100, 3, 3, 161, 1, 1, 102, 3, 5, 0, 0, 0, 0, 0, 0, 0, 238, 0, 0, 0, 0, 0, 0, 0, 245]

def exFooter : Footer :=
  { numDocs := 3, storedIndexOffset := 33, fieldsIndexOffset := 251, docValueOffset := 214,
    chunkMode := 2, version := 2, crc := 0 }

def c0 : ChunkBytes.Coder := { chunkSize := 1024, lensArr := [0], lensLen := 1, currChunk := 0, chunkBuf := [], final := [] }
def c1 : ChunkBytes.Coder := { chunkSize := 2, lensArr := [0, 0], lensLen := 2, currChunk := 0, chunkBuf := [], final := [] }

theorem term1 : writeTerm exK false 2 3 ⟨c0, c0⟩ 57 ([48], .general [⟨0, 1, 7, []⟩]) =
    .ok (⟨c1, c1⟩, [2, 2, 2, 2, 7, 57, 0, 1, 0], 62) := by
  decide +kernel

theorem ex_serialize : serialize exK exL = .ok (exData, exFooter) := by
  decide +kernel

def exReader : DocValues.Reader :=
  { curChunkNum := DocValues.maxInt64, chunkOffsets := [15], dvDataLoc := 182,
    curChunkHeader := [], curChunkData := none, uncompressed := [] }

def exLoaded (mem : Bool) : Loaded :=
  { data := { bytes := exData, mem := mem },
    footer := { exFooter with crc := 10277 },
    fieldsInv := [idField, [102]], dictLocs := [84, 161], fieldDocs := [3, 3], fieldFreqs := [3, 5],
    storedChunkOffsets := [0, 23], dvReaders := [none, some exReader] }

theorem ex_load : load true (fileOf exK exData exFooter) = .ok (exLoaded true) ∧
    load false (fileOf exK exData exFooter) = .ok (exLoaded false) := by
  have h : load true (fileOf exK exData exFooter) = .ok (exLoaded true) := by decide +kernel
  exact ⟨h, load_toFile _ _ h⟩

theorem ex_read :
    dictionaryOf exK (exLoaded true) 0 = .ok (some [([48], 62), ([49], 71), ([50], 80)]) ∧
    dictionaryOf exK (exLoaded true) 1 = .ok (some [([97], 137), ([98], 156)]) ∧
    readPostings exK (exLoaded true) 137 = .ok (.general 115 125 [0, 1, 2] 2) ∧
    readPostings exK (exLoaded true) 156 = .ok (.general 143 148 [1] 2) ∧
    readPostings exK (exLoaded true) 62 = .ok (.general 57 0 [0] 2) := by
  decide +kernel

/-- the multi-chunk term `a` of field `f` read back chunk by chunk (chunk size 2: documents 0, 1
    in chunk 0 - document 0 with two locations -, document 2 with the two-byte norm in chunk 1) -/
def readChunk (off loff c : Nat) : Res (List (Nat × Nat × List ChunkBytes.BLoc)) :=
  match ChunkBytes.Decoder.newWith true exData off, ChunkBytes.Decoder.newWith true exData loff with
  | .ok dt, .ok dl =>
    match dt.loadChunk exK.chunk c, dl.loadChunk exK.chunk c with
    | .ok fb, .ok lb => ChunkBytes.decodeAll 3 ⟨fb, 0⟩ ⟨lb, 0⟩
    | _, _ => .err
  | _, _ => .err

theorem ex_chunks :
    readChunk 115 125 0 = .ok [(2, 9, [⟨1, 1, 0, 1⟩, ⟨1, 3, 4, 5⟩]), (1, 9, [])] ∧
    readChunk 115 125 1 = .ok [(1, 300, [])] ∧
    readChunk 143 148 0 = .ok [(1, 9, [⟨1, 2, 2, 3⟩])] := by
  decide +kernel

/-- doc values and stored values of the loaded segment -/
theorem ex_values :
    (match DocValues.Reader.visitAll exK.dv (exLoaded false).data dvChunk exReader [2, 0, 1, 1] with
      | .ok (l, _) => some l
      | _ => none) = some [[[97]], [[97]], [[97], [98]], [[97], [98]]] ∧
    C06.delivered (Stored.visit exK.stored (exLoaded false).storedSeg Stored.Buf.empty 1 none) =
      .ok [(0, [49]), (1, [120, 121])] := by
  decide +kernel

/-- the hypotheses of the theorems are satisfiable: the example is a valid description -/
theorem ex_valid : Valid exK exL :=
  { id_first := rfl, nfields := by decide, numDocs_eq := rfl, numDocs_lt := by decide,
    mode := by decide, fields := by decide +kernel, empty := by decide +kernel,
    stored := by decide +kernel, trailer := by decide +kernel,
    size := by rw [ex_serialize]; decide +kernel }

/-- in the builder the doc-value column is the one derived from the postings (`docTermMap`) -/
example : (exL.fields.map fun f => f.dv.map fun v => decide (v = dvOfTerms exL.numDocs f.terms)) =
    [none, some true] := by decide +kernel

/-- … so the theorems apply to it; e.g. `C04_postings` for the multi-chunk term `a` of field 1 -/
example := C04_postings exK exL ex_valid exData exFooter ex_serialize false (by decide) 1 _ rfl 0 _ _ rfl

/-- a merge in which no document survives; the merged field list is `_id` -/
def exL0 : LSeg :=
  { merger := true, numDocs := 0, chunkMode := 1025,
    fields := [{ name := idField, fieldDocs := 0, fieldFreqs := 0, terms := [], dv := none }],
    stored := [] }

def exData0_v0 : Bytes := [0, 3, 95, 105, 100, 0, 0, 0, 0, 0, 0, 0, 0, 0, 0]
def exData0 : Bytes := [0, 0, 0, 0, 0, 2, 0, 0, 0, 2] ++ [0, 3, 95, 105, 100, 0, 0, 0, 0, 0, 0, 0, 0, 0, 10]

def exFooter0_v0 : Footer :=
  { numDocs := 0, storedIndexOffset := 0, fieldsIndexOffset := 7, docValueOffset := 2 ^ 64 - 1,
    chunkMode := 1025, version := 2, crc := 0 }
def exFooter0 : Footer := { exFooter0_v0 with storedIndexOffset := 10, fieldsIndexOffset := 17 }

/-- **C04_empty, the defect that was repaired.**  Before commit 49af17c the merger wrote no stored
    section when nothing survived (`storedIndexOffset = 0`): the file is well-formed up to the
    footer, but `loadStoredFieldChunk` slices at position -4 and `load` panics.  As the code
    stands the stored section (its trailer) is written and the file loads. -/
theorem C04_empty_v0_counterexample :
    serialize_v0 exK exL0 = .ok (exData0_v0, exFooter0_v0) ∧
    load true (fileOf exK exData0_v0 exFooter0_v0) = .panic ∧
    serialize exK exL0 = .ok (exData0, exFooter0) ∧
    (match load true (fileOf exK exData0 exFooter0) with
     | .ok ld => decide (ld.fieldsInv = [idField] ∧ ld.dictLocs = [0] ∧ ld.dvReaders = [none] ∧
         ld.storedChunkOffsets = [0, 0] ∧ ld.footer.numDocs = 0)
     | _ => false) = true := by
  decide +kernel

end Ice.Props.C04

/-! axiom audit (expected: a subset of propext, Classical.choice, Quot.sound) -/
section Audit
open Ice.Props.C04
#print axioms C04_footer
#print axioms C04_count
#print axioms C04_tail
#print axioms Ice.Model.Format.read_inbounds
#print axioms C04_fields
#print axioms C04_stored
#print axioms C04_dv
#print axioms C04_dict
#print axioms C04_postings
#print axioms C04_empty
#print axioms C04_empty_v0_counterexample
#print axioms load_written
#print axioms ex_valid
#print axioms ex_serialize
#print axioms ex_load
#print axioms ex_read
#print axioms ex_chunks
#print axioms ex_values
end Audit
