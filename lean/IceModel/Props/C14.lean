import IceModel.Lemmas.Pool
import IceModel.Props.C01
/-
  Property C14: the bytes `New` produces depend only on the batch, the norm function and the chunk
  mode - not on which batches were built before (the pooled builder state), not on map iteration
  order, not on other builds running concurrently.

  Proved here on the level of entries (`Built`, the value the byte-level theorems C04-C08, C11, C12
  encode) for the builder algorithm of new.go INCLUDING its `sync.Pool`: `Model/Pool.lean` runs the
  passes of `Model/Builder.lean` on the object taken from the pool - re-sliced backing arrays with the
  cells earlier builds left in them, windows with the capacity of the whole reused array, stale slice
  headers - instead of on the fresh state `Builder.run` starts from.

    * `Clean` is what the next build relies on; `&interim{}` is clean (`C14_fresh_clean`); reset()
      (the plan generated from /repo, `C14_reset_is_plan`) re-establishes it after ANY build that
      returns, inside the contract or not (`C14_reset_clean`);
    * on a clean object the build returns what a fresh builder returns (`C14_reuse_invisible`), for
      every map order (`C14_reuse_order_invisible`);
    * hence after any history of calls - other batches, norm functions, map orders, failed calls
      whose object is dropped - the next call returns the result of `Builder.run` on its own batch
      (`C14_history`), and so does every one of several builders working concurrently on objects
      they own exclusively, in any interleaving of Get / build / Put (`C14_concurrent`);
    * the clearing loops of reset() are load-bearing: without the one of `IncludeDocValues` a field
      inherits the doc-value flag of the field that had its index in the previous batch
      (`C14_v0_counterexample`), without `Clear()` a term inherits the documents of the postings
      list that had its id (`C14_v1_counterexample`).

  Assumptions of the model (see Model/Pool.lean): `append` never reads cells beyond `len` (so the
  slices that only grow by `append` are represented by their content and their shape is replayed);
  `sync.Pool` hands an object to one caller at a time and nothing else shares an `interim`; the byte
  buffers are write-before-read scratch space on the byte level.
-/
namespace Ice.Props.C14
open Ice Ice.Spec Ice.Model.Builder Ice.Model.Pool

/-- `Clean obj`: every slice has length 0; every cell of `IncludeDocValues`' array is false; every
    bitmap in `Postings`' array is empty; every key slice in `DictKeys`' array has length 0.  The cells
    of `freqNormsBacking`/`locsBacking`, the slice headers in `FreqNorms`/`Locs`, the counters, the maps
    and strings are unconstrained. -/
theorem C14_clean_def (o : PoolObj) : Clean o ↔
    (o.fieldsInv.len = 0 ∧ o.dicts.len = 0 ∧ o.dictKeys.len = 0 ∧ o.includeDV.len = 0 ∧
     o.postings.len = 0 ∧ o.freqNorms.len = 0 ∧ o.fnBacking.len = 0 ∧ o.locs.len = 0 ∧
     o.locBacking.len = 0 ∧ o.numTerms.len = 0 ∧ o.numLocs.len = 0 ∧
     o.builderBuf.len = 0 ∧ o.metaBuf.len = 0 ∧ o.tmp0.len = 0 ∧ o.tmp1.len = 0) ∧
    (∀ x ∈ o.includeDV.backing, x = false) ∧
    (∀ x ∈ o.postings.backing, x = []) ∧
    (∀ g ∈ o.dictKeys.backing, g.len = 0) :=
  clean_iff o

/-- `&interim{}`, what `sync.Pool.New` returns (new.go:112) -/
theorem C14_fresh_clean : Clean PoolObj.fresh := clean_fresh

/-- the model's reset() is the interpretation of the plan generated from /repo's reset()
    (new.go:179-224), field by field and statement by statement -/
theorem C14_reset_is_plan :
    Plan.names resetActs = Ice.Gen.PoolReset.resetPlan ∧ ∀ o, interp resetActs o = some (reset o) :=
  ⟨reset_implements_plan.2.1, reset_implements_plan.2.2⟩

/-- reset() drops `FieldsInv` (`= nil`, not `[:0]`): the segment just returned keeps that array -/
theorem C14_reset_drops_fieldsInv (o : PoolObj) : (reset o).fieldsInv.cap = 0 := reset_fieldsInv_nil o

/-- the pool model EXTENDS the builder model of C01: on `&interim{}` the build from a pooled object is
    `Builder.run`, for every batch (inside the contract or not) and every order, errors included -/
theorem C14_fresh_is_run (nc : Bytes → Nat → Nat) (π : Order) (b : Batch) :
    (buildFrom PoolObj.fresh nc π b).map (·.1) = run nc π b := buildFrom_fresh nc π b

/-! ### reuse is invisible -/

/-- THE CORE: a build on a clean pooled object - reused arrays, stale cells, larger window
    capacities - returns exactly what a fresh builder returns -/
theorem C14_reuse_invisible {o : PoolObj} (ho : Clean o) (nc : Bytes → Nat → Nat) (π : Order)
    (b : Batch) (hv : ValidBatch b) (hπ : PermOK π) :
    (buildFrom o nc π b).map (·.1) = run nc π b :=
  reuse_invisible ho nc π b hv hπ

/-- … and neither the pooled object nor the map order matters: the result is the one of a fresh
    builder iterating its maps in insertion order, `builtOf nc b` -/
theorem C14_reuse_order_invisible {o : PoolObj} (ho : Clean o) (nc : Bytes → Nat → Nat) (π : Order)
    (b : Batch) (hv : ValidBatch b) (hπ : PermOK π) :
    (buildFrom o nc π b).map (·.1) = run nc idOrder b ∧ run nc idOrder b = .ok (builtOf nc b) := by
  rw [reuse_invisible ho nc π b hv hπ, Ice.Props.C01.C01_order_independent nc π b hv hπ]
  exact ⟨rfl, run_eq nc idOrder b hv (fun _ _ m => List.Perm.refl m)⟩

/-- two clean objects, two map orders: the same result -/
theorem C14_any_two {o o' : PoolObj} (ho : Clean o) (ho' : Clean o') (nc : Bytes → Nat → Nat)
    (π π' : Order) (b : Batch) (hv : ValidBatch b) (hπ : PermOK π) (hπ' : PermOK π') :
    (buildFrom o nc π b).map (·.1) = (buildFrom o' nc π' b).map (·.1) := by
  rw [(C14_reuse_order_invisible ho nc π b hv hπ).1, (C14_reuse_order_invisible ho' nc π' b hv hπ').1]

/-- after a build that returned - whatever the batch, the norm function, the order; no contract
    needed - reset() makes the object clean again -/
theorem C14_reset_clean {o o' : PoolObj} (ho : Clean o) {nc : Bytes → Nat → Nat} {π : Order}
    {b : Batch} {r : Built} (e : buildFrom o nc π b = .ok (r, o')) :
    Clean (reset o') ∧ Clean (recycle nc b o') :=
  ⟨reset_clean ho e, clean_recycle nc b (reset_clean ho e)⟩

/-- after ANY list of earlier calls of `New` (each with its own batch, norm function and map order;
    `returned = false` drops the object, a call whose build fails drops it too; then the next call
    gets a fresh object) the pool is empty or holds a clean object -/
theorem C14_pool_invariant (hist : List Attempt) : ∀ o, Pool.after hist = some o → Clean o :=
  pool_after_ok hist

/-- … and the next call returns what `Builder.run` returns on its batch alone -/
theorem C14_history (hist : List Attempt) (nc : Bytes → Nat → Nat) (π : Order) (b : Batch)
    (hv : ValidBatch b) (hπ : PermOK π) (returned : Bool) :
    (newWith (Pool.after hist) nc π b returned).1 = run nc π b :=
  history_invisible hist nc π b hv hπ returned

/-- any assignment of clean (or fresh) objects to builders: every builder gets its solo result, and
    what is put back is clean -/
theorem C14_concurrent_assign (jobs : List (PoolObj × Job)) (hc : ∀ j ∈ jobs, Clean j.1) :
    ∀ j ∈ jobs,
      (ValidBatch j.2.b → PermOK j.2.π →
        (buildFrom j.1 j.2.nc j.2.π j.2.b).map (·.1) = run j.2.nc j.2.π j.2.b) ∧
      (∀ r o', buildFrom j.1 j.2.nc j.2.π j.2.b = .ok (r, o') → Clean (recycle j.2.nc j.2.b o')) :=
  fun j hj => ⟨fun hv hπ => reuse_invisible (hc j hj) _ _ _ hv hπ,
               fun _ _ e => clean_recycle _ _ (reset_clean (hc j hj) e)⟩

/-- any interleaving of Get / build / Put of any number of builders over a shared pool (a multiset of
    objects, `Get` takes any of them or a fresh one, an object belongs to one builder until it is put
    back): at every moment all pooled and all held objects are clean, and every result recorded for a
    call inside the contract is `Builder.run` of that call's own batch -/
theorem C14_concurrent (jobs : Nat → Job) (evs : List Ev) :
    (∀ o ∈ (Sys.run jobs evs).pool, Clean o) ∧
    (∀ x ∈ (Sys.run jobs evs).held, Clean x.2) ∧
    (∀ x ∈ (Sys.run jobs evs).results, ValidBatch (jobs x.1).b → PermOK (jobs x.1).π →
      x.2 = run (jobs x.1).nc (jobs x.1).π (jobs x.1).b) :=
  ⟨(sysOK_run jobs evs).pool, (sysOK_run jobs evs).held, (sysOK_run jobs evs).results⟩

open Ice.Props.C01 (nA tx ty nc0 revOrder)

def fld (dv : Bool) (ts : List Bytes) : FieldInst :=
  { name := nA, length := ts.length, store := false, dv := dv, value := [],
    terms := ts.map (fun t => { term := t, freq := 1,
                                locs := [{ field := [], pos := 1, start := 0, stop := 1 }] }) }

/-- A: two documents, field `a` (index 1) asks for doc values; 2 postings lists, 3 freq/norms -/
def bA : Batch := [[fld true [tx, ty]], [fld true [tx]]]
/-- B: one document, field `a` does NOT ask for doc values; 1 postings list, 1 freq/norm -/
def bB : Batch := [[fld false [ty]]]
/-- C: larger than A: 3 postings lists, 5 freq/norms -/
def bC : Batch := [[fld false [tx, ty, nA]], [fld false [tx]], [fld true [nA]]]

def resultOf (x : M (Built × PoolObj)) : Option Built :=
  match x with
  | .ok (r, _) => some r
  | .error _ => none

def objOf (x : M (Built × PoolObj)) : PoolObj :=
  match x with
  | .ok (_, o) => o
  | .error _ => PoolObj.fresh

def errOf (x : M (Built × PoolObj)) : Option BuildErr :=
  match x with
  | .ok _ => none
  | .error e => some e

def soloOf (x : M Built) : Option Built :=
  match x with
  | .ok r => some r
  | .error _ => none

/-- the object as the build of A leaves it -/
def objAfterA : PoolObj := objOf (buildFrom PoolObj.fresh nc0 idOrder bA)

example : ValidBatch bA ∧ ValidBatch bB ∧ ValidBatch bC := by decide +kernel

/-- the build of A leaves its data in the object: not clean; reset() cleans it and keeps the arrays -/
example : ¬ Clean objAfterA ∧ Clean (reset objAfterA) ∧
    (reset objAfterA).includeDV = { backing := [false, false], len := 0 } ∧
    (reset objAfterA).postings = { backing := [[], []], len := 0 } ∧
    (reset objAfterA).fnBacking.cap = 3 ∧ (reset objAfterA).locBacking.cap = 3 ∧
    (reset objAfterA).dictKeys = { backing := [{}, { backing := [tx, ty], len := 0 }], len := 0 } := by
  decide +kernel

/-- B on the recycled object of A runs WITHIN the capacity of A's arrays: its single window is
    `freqNormsBacking[0:0]` with capacity 3 (a fresh builder: capacity 1), `Postings` is re-sliced -/
example :
    let o := objOf (buildFrom (reset objAfterA) nc0 idOrder bB)
    o.freqNorms.content = [.shared 0 1 3] ∧ o.fnBacking.len = 1 ∧ o.fnBacking.cap = 3 ∧
    o.postings = { backing := [[0], []], len := 1 } ∧
    o.includeDV = { backing := [false, false], len := 2 } := by decide +kernel

/-- … and returns what a fresh builder returns -/
example : resultOf (buildFrom (reset objAfterA) nc0 idOrder bB) = soloOf (run nc0 idOrder bB) := by
  decide +kernel

/-- a history A, B, (a dropped attempt), C, B - within capacity, beyond capacity (C re-allocates),
    within again - with different map orders: the last call returns the solo result -/
def hist : List Attempt :=
  [⟨nc0, idOrder, bA, true⟩, ⟨nc0, revOrder, bB, true⟩, ⟨nc0, idOrder, bA, false⟩,
   ⟨nc0, revOrder, bC, true⟩]

example : soloOf (newWith (Pool.after hist) nc0 idOrder bB true).1 = soloOf (run nc0 idOrder bB) ∧
    (Pool.after hist).get.fnBacking.cap = 5 ∧ (Pool.after hist).get.postings.cap = 3 := by decide +kernel

/-! ### the clearing loops of reset() are necessary -/

def dvOfRes (x : Option Built) (n : Nat) (f : Bytes) : List Bytes :=
  match x with
  | some r => r.dvOf n f
  | none => []

/-- reset() WITHOUT the loop `IncludeDocValues[i] = false` (new.go:193-195; the truncation is kept):
    field `a` has index 1 in A and in B; A asks for doc values, B does not.  B built on the object
    recycled from A returns a doc-value column for `a`; a fresh builder returns none. -/
theorem C14_v0_counterexample :
    ValidBatch bB ∧ ¬ Clean (reset_v0 objAfterA) ∧
    (reset_v0 objAfterA).includeDV = { backing := [false, true], len := 0 } ∧
    dvOfRes (resultOf (buildFrom (reset_v0 objAfterA) nc0 idOrder bB)) 0 nA = [ty] ∧
    dvOfRes (soloOf (run nc0 idOrder bB)) 0 nA = [] := by decide +kernel

/-- B': term `x` of the second document gets postings id 0, the id `x` had in A -/
def bB' : Batch := [[fld false []], [fld false [tx]]]

/-- reset() WITHOUT `idn.Clear()` (new.go:197-199): the bitmap of postings list 0 still holds A's
    documents {0, 1}; in B' the term `x` (postings list 0) occurs in document 1 only.  The dictionary
    writer walks the bitmap {0, 1} but pass 2 recorded ONE freq/norm: `freqNorms[1]` is out of range
    (new.go:799) - the build on the recycled object panics where a fresh builder succeeds. -/
theorem C14_v1_counterexample :
    ValidBatch bB' ∧ ¬ Clean (reset_v1 objAfterA) ∧
    (reset_v1 objAfterA).postings = { backing := [[0, 1], [0]], len := 0 } ∧
    errOf (buildFrom (reset_v1 objAfterA) nc0 idOrder bB') = some (.index 799) ∧
    (soloOf (run nc0 idOrder bB')).isSome = true := by decide +kernel

-- UNPROVED: none of the statements staged for C14 is left open.  Outside the scope of these
-- theorems (modelling assumptions, not proof gaps):
--   * the step from `Built` to bytes is the subject of the byte-level properties (C04-C08, C11, C12);
--     the chunk mode enters only there;
--   * the shape (capacity, stale tail) of the append-only slices after a build is REPLAYED from their
--     content (`harvest`), it is not derived from a statement-by-statement Go-slice semantics of every
--     `append` in the passes; `Clean (reset obj')` depends on it only through `harvestKeys_rest`;
--   * outside the input contract (`ValidBatch`, `PermOK`) only `C14_fresh_is_run`, `C14_reset_clean`
--     and the pool invariants hold; `C14_reuse_invisible` is not claimed there (a window that outgrows
--     its reservation re-allocates in a fresh builder but writes on into the spare capacity of a
--     reused array);
--   * `lastNumDocs`/`lastOutSize` do not influence the result but do influence how much `br.Grow`
--     allocates up front (new.go:47-57): previous-average-bytes-per-doc × (len(results)+100).

end Ice.Props.C14
