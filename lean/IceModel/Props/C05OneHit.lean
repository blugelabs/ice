import IceModel.Model.Iter1Hit
/-
  Property C05 for 1-hit encoded postings lists.
-/
namespace Ice.Props.C05
open Ice Ice.Spec Ice.Model

private theorem run_finished (i : Iter1Hit.It) (h : i.finished = true) (ops : List IterOp) :
    Iter1Hit.run i ops = Iter.specRun i.fl [] ops := by
  induction ops with
  | nil => rfl
  | cons op ops ih =>
    simp only [Iter1Hit.run, Iter1Hit.step, h, if_true, Iter.specRun, iterStep]
    cases op <;> simp [ih]

theorem onehit_run (i : Iter1Hit.It) (ops : List IterOp) :
    Iter1Hit.run i ops =
      Iter.specRun i.fl (if i.finished then [] else [Iter1Hit.posting i.doc i.norm]) ops := by
  cases hf : i.finished with
  | true => exact run_finished i hf ops
  | false =>
    cases ops with
    | nil => rfl
    | cons op ops =>
      cases op with
      | next =>
        simp only [Iter1Hit.run, Iter1Hit.step, hf, Iter.specRun, iterStep, Nat.not_lt_zero,
          if_false, Bool.false_eq_true]
        rw [run_finished _ rfl]
        simp [Iter1Hit.posting, Iter.decoded]
      | advance d =>
        by_cases hlt : i.doc < d
        · simp only [Iter1Hit.run, Iter1Hit.step, hf, hlt, if_true, Iter.specRun, iterStep,
            Bool.false_eq_true, if_false]
          rw [run_finished _ rfl]
          simp [Iter1Hit.posting, hlt]
        · simp only [Iter1Hit.run, Iter1Hit.step, hf, hlt, if_false, Iter.specRun, iterStep,
            Bool.false_eq_true]
          rw [run_finished _ rfl]
          simp [Iter1Hit.posting, hlt, Iter.decoded]

/-- a 1-hit iterator behaves like the specification iterator over its single posting -/
theorem C05_onehit (doc norm : Nat) (E : Option (List Nat)) (fl : Iter.RFlags) (ops : List IterOp) :
    Iter1Hit.run (Iter1Hit.mk doc norm E fl) ops =
      Iter.specRun fl (live [Iter1Hit.posting doc norm] E) ops := by
  have hl : live [Iter1Hit.posting doc norm] E =
      if (Iter1Hit.mk doc norm E fl).finished then [] else [Iter1Hit.posting doc norm] := by
    cases E with
    | none => rfl
    | some e =>
      simp [live, Iter1Hit.mk, Iter1Hit.posting, List.filter_cons]
  rw [hl]
  exact onehit_run (Iter1Hit.mk doc norm E fl) ops

end Ice.Props.C05
