import IceModel.Model.MergeLoop
import IceModel.Lemmas.MergeLoopStats
import IceModel.Lemmas.Build
/-
  Property C16: collection statistics (stats.go; merge.go `fieldDocs`, `fieldFreqs`).
-/
namespace Ice.Props.C16
open Ice Ice.Spec Ice.Model.MergeLoop

theorem idxOf?_eq_none (l : List Bytes) (a : Bytes) (h : a ∉ l) : l.idxOf? a = none :=
  List.idxOf?_eq_none_iff.2 h

/-- **C16_unknown**: `CollectionStats` of a field the segment does not know is all zero
    (stats.go:45-54: `fieldIDPlus1 == 0`) -/
theorem C16_unknown (s : AbsSeg) (f : Bytes) (h : f ∉ s.fields) : stats s f = (0, 0, 0) := by
  simp [stats, idxOf?_eq_none s.fields f h]

theorem stats_known (s : AbsSeg) (f : Bytes) (h : f ∈ s.fields) (gd gf : Bytes → Nat)
    (hd : s.fieldDocs = s.fields.map gd) (hf : s.fieldFreqs = s.fields.map gf) :
    stats s f = (numDocs s, gd f, gf f) := by
  obtain ⟨i, h1, h2, _⟩ := idxOf?_spec s.fields f h
  simp only [stats, h1, hd, hf, List.getD, List.getElem?_map, h2, Option.map_some, Option.getD_some]

/-- **C16_built**: for a built segment, (TotalDocumentCount, DocumentCount,
    SumTotalTermFrequency) = (number of documents, number of documents carrying the field,
    Σ of the field lengths) -/
theorem C16_built (nc : Bytes → Nat → Nat) (mode : Nat) (b : Batch) (f : Bytes)
    (h : f ∈ (build nc mode b).fields) :
    stats (build nc mode b) f =
      (b.length,
       (b.map (rollDoc nc (dvFlagOf b))).countP (fun d => (d.field? f).isSome),
       ((b.map (rollDoc nc (dvFlagOf b))).map
          (fun d => match d.field? f with | some af => af.length | none => 0)).sum) := by
  rw [stats_known (build nc mode b) f h
    (fun f => (b.map (rollDoc nc (dvFlagOf b))).countP (fun d => (d.field? f).isSome))
    (fun f => ((b.map (rollDoc nc (dvFlagOf b))).map
      (fun d => match d.field? f with | some af => af.length | none => 0)).sum) rfl rfl]
  simp [numDocs, build_docs]

/-- `CollectionStats.Merge` (stats.go:39-43) on the three counters -/
def statsAdd (a b : Nat × Nat × Nat) : Nat × Nat × Nat :=
  (a.1 + b.1, a.2.1 + b.2.1, a.2.2 + b.2.2)

/-- **C16_merge_additive**: `Merge` is associative and commutative with unit (0,0,0) -/
theorem C16_merge_additive :
    (∀ a b c, statsAdd (statsAdd a b) c = statsAdd a (statsAdd b c)) ∧
    (∀ a b, statsAdd a b = statsAdd b a) ∧
    (∀ a, statsAdd a (0, 0, 0) = a) ∧ (∀ a, statsAdd (0, 0, 0) a = a) := by
  refine ⟨fun a b c => ?_, fun a b => ?_, fun a => rfl, fun a => ?_⟩
  · simp only [statsAdd, Nat.add_assoc]
  · simp only [statsAdd, Nat.add_comm]
  · simp only [statsAdd, Nat.zero_add]

/-- the surviving documents keep their per-field term lists -/
theorem termsNodup_merge (mode : Nat) (ins : List (AbsSeg × List Nat)) (f : Bytes)
    (h : ∀ p ∈ ins, TermsNodupDocs p.1.docs f) : TermsNodupDocs (merge mode ins).1.docs f := by
  intro d hd
  rw [merge_docs, List.mem_flatMap] at hd
  obtain ⟨p, hp, hs⟩ := hd
  rw [survivors_eq] at hs
  exact h p hp d (mem_keepP hs)

theorem mergedResult_stats (mode : Nat) (f : Bytes) (ins : List (AbsSeg × List Nat))
    (hsize : numDocs (merge mode ins).1 ≤ 2 ^ 32)
    (hnd : ∀ p ∈ ins, TermsNodupDocs p.1.docs f) :
    (mergedResult (absCfg mode ins) (activeFrom f ins 0)).fieldDocs =
      (merge mode ins).1.docs.countP (fun d => fieldHasTerm d f) ∧
    (mergedResult (absCfg mode ins) (activeFrom f ins 0)).fieldFreq =
      ((merge mode ins).1.docs.map (fun d => fieldTermFreq d f)).sum := by
  have hsub : ∀ t ∈ terms (merge mode ins).1 f, t ∈ mergedTerms (activeFrom f ins 0) := by
    intro t ht
    rw [← mergedTerms_spec mode f ins] at ht
    exact (List.mem_filter.1 ht).1
  have hu : ∀ k, (allItems (segsOf (activeFrom f ins 0) k)).map (fun np => u32 np.1) =
      (postings (merge mode ins).1 f k).map (fun p => u32 p.doc) := by
    intro k
    have := congrArg (List.map u32) (allItems_docs (activeFrom f ins 0) k)
    rwa [termPostings_merge mode, List.map_map, List.map_map] at this
  simp only [mergedResult, hu, allItems_freqs, termPostings_merge mode]
  exact ⟨length_docs_bitmap _ f _ hsize hsub,
    sum_terms_freq _ f _ (asc_nodup (asc_sortDedup _)) hsub (termsNodup_merge mode ins f hnd)⟩

/-- **M3**: the counters of field `f` after the merge loop are those of the specification:
    `fieldDocs` = number of merged documents with at least one term in `f`,
    `fieldFreqs` = Σ over the merged documents of the frequencies of their terms in `f`.
    Needs at most 2^32 documents (`uint32(hitNewDocNum)` at merge.go:574-575) and rolled-up
    documents (no term twice in a field). -/
theorem C16_merge_model (mode : Nat) (f : Bytes) (ins : List (AbsSeg × List Nat))
    (hmode : 1 ≤ mode ∧ mode ≤ 1025) (hdocs : 1 ≤ numDocs (merge mode ins).1)
    (hsize : numDocs (merge mode ins).1 ≤ 2 ^ 32)
    (hnd : ∀ p ∈ ins, TermsNodupDocs p.1.docs f) :
    ∃ r, mergeField (absCfg mode ins) (absSegs mode f ins) = .ok r ∧
      r.fieldDocs = (merge mode ins).1.docs.countP (fun d => fieldHasTerm d f) ∧
      r.fieldFreq = ((merge mode ins).1.docs.map (fun d => fieldTermFreq d f)).sum :=
  ⟨_, mergeField_abs mode f ins hmode hdocs, mergedResult_stats mode f ins hsize hnd⟩

/-- **M3, as `CollectionStats`**: the triple a reader of the merged segment computes for a field
    of the merged field list, from the counters the loop produced, is `Spec.stats` -/
theorem C16_merge_stats (mode : Nat) (f : Bytes) (ins : List (AbsSeg × List Nat))
    (hmode : 1 ≤ mode ∧ mode ≤ 1025) (hdocs : 1 ≤ numDocs (merge mode ins).1)
    (hsize : numDocs (merge mode ins).1 ≤ 2 ^ 32)
    (hnd : ∀ p ∈ ins, TermsNodupDocs p.1.docs f) (hf : f ∈ (merge mode ins).1.fields) :
    ∃ r, mergeField (absCfg mode ins) (absSegs mode f ins) = .ok r ∧
      stats (merge mode ins).1 f = (numDocs (merge mode ins).1, r.fieldDocs, r.fieldFreq) := by
  obtain ⟨r, hr, h1, h2⟩ := C16_merge_model mode f ins hmode hdocs hsize hnd
  refine ⟨r, hr, ?_⟩
  rw [stats_known (merge mode ins).1 f hf
    (fun f => (merge mode ins).1.docs.countP (fun d => fieldHasTerm d f))
    (fun f => ((merge mode ins).1.docs.map (fun d => fieldTermFreq d f)).sum) rfl rfl, h1, h2]

private def P (d fr n : Nat) : Posting := { doc := d, freq := fr, norm := n, locs := [] }

/-- Before c645d07 `prepareNewTerm` did `fieldFreqs[fieldID] += newCard` inside its loop over the
    low iterators: the *running cardinality*, not the frequencies.  Two one-document segments,
    the same term "a" with frequency 5 in each: the sum of the term frequencies is 10, the old
    code reports 1 + 2 = 3. -/
theorem C16_v0_counterexample :
    let s0 : SegIn := { dict := some [([97], [P 0 5 7])], drops := none, newDocNums := [some 0] }
    let s1 : SegIn := { dict := some [([97], [P 0 5 7])], drops := none, newDocNums := [some 1] }
    let cfg : Cfg := { fieldsInv := [idField, [102]], chunkMode := 1025, newSegDocCount := 2 }
    (mergeField cfg [s0, s1]).toOption.map (·.fieldFreq) = some 10 ∧
    (mergeField { cfg with sumFreqFix := false } [s0, s1]).toOption.map (·.fieldFreq) = some 3 := by
  decide +kernel

/-- … and with the empty term the old code ran that loop once per segment holding it (the
    `prevTerm == nil` corner keeps `prevTerm` nil, merge.go:284, 316-317), counting the term twice:
    frequencies 1 and 1, old result (1 + 2) + (1 + 2) = 6.  The fixed code adds `sumFreq` once per
    (term, segment) delivery and is not affected by the repeated `prepareNewTerm`. -/
theorem C16_v0_empty_term :
    let s0 : SegIn := { dict := some [([], [P 0 1 7])], drops := none, newDocNums := [some 0] }
    let s1 : SegIn := { dict := some [([], [P 0 1 7])], drops := none, newDocNums := [some 1] }
    let cfg : Cfg := { fieldsInv := [idField, [102]], chunkMode := 1025, newSegDocCount := 2 }
    (mergeField cfg [s0, s1]).toOption.map (·.fieldFreq) = some 2 ∧
    (mergeField { cfg with sumFreqFix := false } [s0, s1]).toOption.map (·.fieldFreq) = some 6 := by
  decide +kernel

end Ice.Props.C16
