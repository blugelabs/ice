import IceModel.Lemmas.ErrFlowRun
import IceModel.Lemmas.ErrFlowArea
/-
  Error flow (C12, C19): what "every fallible call is immediately checked" MEANS.

  GENERIC PART: nothing here depends on the generated facts (no import of `IceModel.Gen`).  The facts
  about the functions of the package are in `Props/ErrFlowWrite.lean` (C12), `Props/ErrFlowRead.lean`
  (C19), `Props/ErrFlowPersist.lean` (C11) and, whole-package, `Props/ErrFlowAll.lean`.

  `Bridge.ErrFlow.unchecked` is a syntactic test on the flat event lists `Gen.ErrFlow.flows` that the
  translator (`/verif/facts/errflow.go`) extracts from every function whose last result is an `error`.
  Here the flat lists are parsed into structured programs (`Stmt`, `parse`), given a nondeterministic
  semantics (`Exec`, `Run`; oracle-driven interpreter `run`), and the syntactic discipline is shown to
  imply:   if a call made by the function fails, nothing else is attempted (except building the wrapped
  error) and the function returns a non-nil error;  a nil result means that no call failed
  (`checked_sound`, `success_means_no_failure`, `checked_sound_modulo_dropped`).

  MODELLING ASSUMPTIONS (everything the theorems take on trust about the Go source)
  A1 one error variable.  Every `F` binds THE error variable, the next `{:err` tests that variable and
     an `R err` returns it.  The translator marks `{:err` for `if x != nil {` with `x` of static type
     `error` (any expression, e.g. a field `i.err`) and emits `R:err` for every return whose last
     result is not the literal `nil`; neither is tied to the variable of the preceding `F`.  A function
     that binds `err2` and tests `err` is outside the model.
  A2 the error variable is nil on entry (`Run` starts `Exec` with `false`).  Not true of an "error
     variable" that lives in a struct across calls (`DictionaryIterator.Next`, an exception anyway).
  A3 `R err` executed while the error variable is non-nil returns a non-nil error (`Exec.retErr`).
     While it is nil, `R err` may return anything (`Exec.retOther`: `return ErrClosed`, `return n, err`).
  A4 a call "fails" iff its error result is non-nil; sentinels (`io.EOF`, `vellum.ErrIteratorDone`)
     are failures in this sense.  `fmt.Errorf` never returns nil (`alwaysFails`); it is the only callee
     bound by an `F` inside a check in this package (`write_wrappers`, `read_wrappers`, `persist_wrappers`,
     `flows_wrappers`).
  A5 conditions and loop counts are unknown: an unguarded block (`if`, `else`, `for`, `range`,
     `switch`, `case`, `select`) runs 0..n times whatever the state; only `{:err` is deterministic.
     A jump (break / continue / goto) may leave any number of enclosing blocks, start the next round of
     an enclosing unguarded block, or land on any LATER statement of an enclosing list (no backward
     goto other than re-running an enclosing block).  Only finite executions; panics are not modelled.
  A6 what the translator does not descend into is not covered: bodies of function literals (closures,
     e.g. the `metaEncode` closure of `mergeStoredAndRemap`, visitor callbacks) belong to no flow; a
     call with an error result nested inside an expression, a `defer` and a `go` statement are `D`
     (a deferred call is listed where it is written, not where it runs - immaterial, `exec_forget`).
  A7 only the LAST result (the error) of a function is modelled.
-/
namespace Ice.Props.ErrFlow
open Ice Ice.Bridge.ErrFlow Ice.ErrFlow

/-! ## 1. structured programs and the parser -/

/-- the parser inverts the translator's flattening, and is complete -/
theorem parse_roundtrip (l : List Ev) (p : Prog) : parse l = some p ↔ flat p = l :=
  ⟨parse_flat, fun h => h ▸ parse_flat_eq p⟩

/-- programs are determined by their flat form, hence can be compared by `decide` -/
instance : DecidableEq Prog := fun p q =>
  decidable_of_iff (flat p = flat q) ⟨flat_injective, congrArg flat⟩

/-- a program the size of `Segment.WriteTo` (write.go): data, footer, flush, each checked, two of them
    wrapped; used below to show that hypotheses are satisfiable (`ErrFlowPersist.progOf_Segment_WriteTo`
    shows it IS that function's program) -/
def writeToShape : Prog :=
  [.call "WriteTo", .block true [.call "Errorf", .ret true],
   .call "persistFooter", .block true [.call "Errorf", .ret true],
   .call "Flush", .block true [.ret true],
   .ret false]

/-! ## 2. the discipline, flat and structured -/

/-- the bridge's flat checker is the structured checker `uncheckedS` (a call must be followed, in its
    own statement list, by `ret true`, `block true [ret true]` or `block true [call w, ret true]`) -/
theorem unchecked_structured (p : Prog) : unchecked (flat p) = uncheckedS p := unchecked_flat p

theorem unchecked_of_parse {l : List Ev} {p : Prog} (h : parse l = some p) :
    unchecked l = uncheckedS p := unchecked_parse h

/-- `Disc` = flat checker silent + every wrapping check wraps with an error constructor -/
theorem disc_iff (p : Prog) :
    Disc p ↔ unchecked (flat p) = [] ∧ ∀ w ∈ wrappers p, alwaysFails w = true := by
  rw [unchecked_flat]; rfl

/-! ## 3. soundness of the discipline -/

/-- what C12/C19 need of a function: a failing call is the last thing it does (but for wrapping the
    error) and makes it return a non-nil error -/
def Sound (p : Prog) : Prop :=
  ∀ tr r, Run p tr r → AnyFailed tr → r = .returned true ∧ FailFast tr

/-- MAIN THEOREM.  If the flat checker reports nothing for `p` (and wrapping checks wrap with an error
    constructor - see `checked_sound_counterexample` for why this is needed), then in every execution
    in which some bound call fails, the function returns a non-nil error, and the failing call is the
    last call executed - except for the `fmt.Errorf` that wraps its error. -/
theorem checked_sound {p : Prog} (hchk : unchecked (flat p) = [])
    (hwrap : ∀ w ∈ wrappers p, alwaysFails w = true) : Sound p := by
  intro tr r ⟨o, hex, hr⟩ hfail
  have hd : Disc p := (disc_iff p).2 ⟨hchk, hwrap⟩
  rcases exec_disc hex rfl hd with ⟨h1, _⟩ | ⟨h1, h2⟩
  · exact absurd hfail ((noFail_iff_not_anyFailed tr).1 h1)
  · subst h2; exact ⟨hr.symm, h1⟩

/-- `checked_sound` with its two side conditions packed into the decidable `Disc` -/
theorem sound_of_disc {p : Prog} (hd : Disc p) : Sound p :=
  checked_sound ((disc_iff p).1 hd).1 ((disc_iff p).1 hd).2

/-- the same for a flat event list that parses -/
theorem checked_sound_flat {l : List Ev} {p : Prog} (hp : parse l = some p) (hchk : unchecked l = [])
    (hwrap : ∀ w ∈ wrappers p, alwaysFails w = true) : Sound p :=
  checked_sound (by rw [parse_flat hp]; exact hchk) hwrap

/-- a function that reports success (nil error) - or falls off its end - saw no failing call -/
theorem success_means_no_failure {p : Prog} (hchk : unchecked (flat p) = [])
    (hwrap : ∀ w ∈ wrappers p, alwaysFails w = true) {tr : List Step} {r : Result}
    (hrun : Run p tr r) (hr : r ≠ .returned true) : NoFail tr := by
  rw [noFail_iff_not_anyFailed]
  intro hf
  exact hr (checked_sound hchk hwrap tr r hrun hf).1

theorem returned_nil_means_no_failure {p : Prog} (hchk : unchecked (flat p) = [])
    (hwrap : ∀ w ∈ wrappers p, alwaysFails w = true) {tr : List Step}
    (hrun : Run p tr (.returned false)) : NoFail tr :=
  success_means_no_failure hchk hwrap hrun (by simp)

/-- without a wrapper the failing call is literally the last call (programs without `{:err F R err}`) -/
theorem checked_sound_nowrap {p : Prog} (hchk : unchecked (flat p) = []) (hw : wrappers p = [])
    {tr : List Step} {r : Result} (hrun : Run p tr r) (hfail : AnyFailed tr) :
    r = .returned true ∧ ∃ pre c, tr = pre ++ [⟨false, c, true⟩] ∧ NoFail pre := by
  obtain ⟨o, hex, hr⟩ := hrun
  rw [unchecked_flat] at hchk
  rcases exec_disc_nowrap hex rfl hchk hw with ⟨h1, _⟩ | ⟨h1, h2⟩
  · exact absurd hfail ((noFail_iff_not_anyFailed tr).1 h1)
  · subst h2; exact ⟨hr.symm, h1.nowrap⟩

/-- THE HYPOTHESIS ON WRAPPERS IS NEEDED: `F f {:err F cleanup R err }` passes the flat checker, but if
    `cleanup` succeeds it overwrites the error and `R err` returns nil.  (In Go:
    `if err != nil { err = cleanup(); return err }`.)  The flat checker alone is sound only because
    the wrapped call is always `fmt.Errorf` (`flows_wrappers`). -/
theorem checked_sound_counterexample :
    let p : Prog := [.call "f", .block true [.call "cleanup", .ret true]]
    unchecked (flat p) = [] ∧
    Run p [⟨false, "f", true⟩, ⟨false, "cleanup", false⟩] (.returned false) := by
  refine ⟨by decide +kernel, ?_⟩
  exact run_Run (fuel := 10) (orc := [1, 0, 0]) (orc' := []) (o := .ret false) (by decide +kernel)

/-- failures that can go unnoticed are exactly those of discarded results (`D`): in a disciplined
    program, an execution that does not return a non-nil error has only failures of discarded calls … -/
theorem checked_sound_modulo_dropped {p : Prog} (hchk : unchecked (flat p) = [])
    (hwrap : ∀ w ∈ wrappers p, alwaysFails w = true) {tr : List Step} {r : Result}
    (hrun : Run p tr r) :
    r = .returned true ∨ ∀ s ∈ tr, s.failed = true → s.dropped = true := by
  by_cases hr : r = .returned true
  · exact Or.inl hr
  · refine Or.inr fun s hs hf => ?_
    have := success_means_no_failure hchk hwrap hrun hr s hs
    simpa [Step.isFailure, hf] using this

/-- … and EVERY failure of a discarded call goes unnoticed, in any program: changing which discarded
    calls fail changes neither the calls made nor the result -/
theorem dropped_unnoticed {p : Prog} {tr tr' : List Step} {r : Result} (hrun : Run p tr r)
    (h : tr'.map Step.forget = tr.map Step.forget) : Run p tr' r := by
  obtain ⟨o, hex, hr⟩ := hrun
  exact ⟨o, exec_forget hex tr' h, hr⟩

/-- e.g. `{ D Close } { F Write {:err R err } } R nil` (the shape of `chunkedIntCoder.Add`): the
    discarded `Close` can fail and the function return nil -/
theorem dropped_unnoticed_example :
    let p : Prog := [.block false [.drop "Close"], .block false [.call "Write", .block true [.ret true]],
                     .ret false]
    unchecked (flat p) = [] ∧
    Run p [⟨true, "Close", true⟩, ⟨false, "Write", false⟩] (.returned false) := by
  refine ⟨by decide +kernel, ?_⟩
  exact run_Run (fuel := 10) (orc := [1, 1, 0, 1]) (orc' := []) (o := .ret false) (by decide +kernel)

/-! ### every oracle-driven run is covered -/

/-- the theorems hold for the interpreter `run` under every oracle and every amount of fuel -/
theorem checked_sound_run {p : Prog} (hchk : unchecked (flat p) = [])
    (hwrap : ∀ w ∈ wrappers p, alwaysFails w = true) {fuel : Nat} {orc orc' : Oracle}
    {tr : List Step} {o : Out} (h : run fuel orc false p = some (tr, o, orc')) :
    (AnyFailed tr → o = .ret true ∧ FailFast tr) ∧ (o ≠ .ret true → NoFail tr) := by
  have hrun := run_Run h
  refine ⟨fun hf => ?_, fun ho => ?_⟩
  · have := checked_sound hchk hwrap tr _ hrun hf
    refine ⟨?_, this.2⟩
    cases o <;> simp_all [Out.result]
  · apply success_means_no_failure hchk hwrap hrun
    cases o <;> simp_all [Out.result]

/-- hypotheses satisfiable, non-trivially: `writeToShape` is disciplined, and has a run whose footer
    write fails … -/
theorem writeToShape_disc : Disc writeToShape := by decide +kernel

theorem writeToShape_failing_run :
    Run writeToShape
      [⟨false, "WriteTo", false⟩, ⟨false, "persistFooter", true⟩, ⟨false, "Errorf", true⟩]
      (.returned true) :=
  run_Run (fuel := 10) (orc := [0, 1]) (orc' := []) (o := .ret true) (by decide +kernel)

/-- … and one that succeeds -/
theorem writeToShape_ok_run :
    Run writeToShape
      [⟨false, "WriteTo", false⟩, ⟨false, "persistFooter", false⟩, ⟨false, "Flush", false⟩]
      (.returned false) :=
  run_Run (fuel := 10) (orc := []) (orc' := []) (o := .ret false) (by decide +kernel)

/-! ## 4. a violation that loses the error (the shape of a seeded change we evaluated) -/

/-- `F f { B } {:err R err }` : a `break` between the call and its check -/
def unsoundBody : Prog := [.call "f", .block false [.jump], .block true [.ret true]]

/-- … inside a loop that is followed by `return nil`:
    `for … { err = f(); if cond { break }; if err != nil { return err } }; return nil` -/
def unsoundLoop : Prog := [.block false unsoundBody, .ret false]

/-- the checker reports `f`, and there is an execution in which `f` fails and the function returns
    nil: the failure is lost -/
theorem unsound_example :
    flat unsoundLoop =
      [("{", ""), ("F", "f"), ("{", ""), ("B", ""), ("}", ""), ("{", "err"), ("R", "err"), ("}", ""),
       ("}", ""), ("R", "nil")] ∧
    unchecked (flat unsoundLoop) = ["f"] ∧
    Run unsoundLoop [⟨false, "f", true⟩] (.returned false) := by
  refine ⟨by decide +kernel, by decide +kernel, ?_⟩
  exact run_Run (fuel := 20) (orc := [1, 1, 1, 0, 0, 2]) (orc' := []) (o := .ret false)
    (by decide +kernel)

/-- the same by hand, as a derivation of `Exec` (no interpreter involved) -/
theorem unsound_example_exec : Exec false unsoundLoop [⟨false, "f", true⟩] (.ret false) := by
  have hbody : Exec false unsoundBody [⟨false, "f", true⟩] (.jump true) :=
    .callFail (.blockJumpOut (fun h => by cases h) .jump)
  have := Exec.blockJumpResume (g := false) (rest := [.ret false]) (fun h => by cases h) hbody
    (List.suffix_refl _) (Exec.retNil (e := true) (rest := []))
  simpa [unsoundLoop] using this

/-- the three statements alone, as given: `f` fails, the jump lands behind the check, and the function
    falls off its end without returning the error -/
theorem unsound_example_literal :
    unchecked (flat unsoundBody) = ["f"] ∧ Run unsoundBody [⟨false, "f", true⟩] .fellOff := by
  refine ⟨by decide +kernel, ?_⟩
  exact run_Run (fuel := 20) (orc := [1, 1, 0, 3]) (orc' := []) (o := .norm true)
    (by decide +kernel)

/-- hence `unsoundLoop` is not sound, and the checker is right to report it -/
theorem unsound_not_sound : ¬ Sound unsoundLoop := by
  intro h
  have := (h _ _ unsound_example.2.2 ⟨⟨false, "f", true⟩, by simp, rfl⟩).1
  cases this

/-- with the check moved in front of the `break` the checker is silent and the loop is sound -/
theorem repaired_sound :
    Sound [.block false [.call "f", .block true [.ret true], .block false [.jump]], .ret false] :=
  sound_of_disc (by decide +kernel)

/-! ## 5. areas

  An area module fixes a list of function names `fns`, restricts the generated table to them
  (`restrict flows fns`), and proves for the restricted table: all names present, all flows parse, all
  wrappers are `Errorf`, the pinned unchecked / discarded lists, and `Sound` for every function without
  an unchecked call.  That those functions are disciplined is `WellFormed.disc_covered`; then: -/

/-- if every function of `names` has a disciplined program in the table `fl`, each is sound -/
theorem sound_of_disc_all {fl : Flows} {names : List String}
    (h : ∀ n ∈ names, Disc (progIn fl n)) : ∀ n ∈ names, Sound (progIn fl n) :=
  fun n hn => sound_of_disc (h n hn)

end Ice.Props.ErrFlow
