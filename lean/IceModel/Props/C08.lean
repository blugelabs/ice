import IceModel.Model.Dict
import IceModel.Lemmas.Dict
/-
  Properties C08 (dictionary counts), C13 (reuse of postings lists) and C18 (DocsMatchingTerms)
  on the model of dict.go / posting.go / segment.go.
-/
namespace Ice.Props.C08
open Ice Ice.Model Ice.Model.Dict

def Res.map {α β} (f : α → β) : Res α → Res β
  | .ok a => .ok (f a)
  | .err => .err
  | .panic => .panic

/-- every FST value of the segment is a 1-hit code or the offset of a readable record, and the
    chunk mode is a valid one -/
def Seg.Readable (s : Seg) : Prop :=
  s.chunkMode ≤ 1025 ∧ ∀ fe ∈ s.fields, ∀ e ∈ fe.2, is1Hit e.2 = true ∨ (s.store e.2).isSome = true

/-- the true number of documents behind an FST value -/
def trueCount (s : Seg) (v : Nat) : Nat :=
  if is1Hit v then 1 else match s.store v with
    | some r => r.docs.length
    | none => 0

/-- the documents behind an FST value -/
def trueDocs (s : Seg) (v : Nat) : List Nat :=
  if is1Hit v then [(decode1Hit v).1] else match s.store v with
    | some r => r.docs
    | none => []

/-! ### C08: a dictionary iterator reports true counts whatever encodings it met before -/

/-- norms are strictly positive, so a 1-hit value always carries a non-zero norm -/
def Seg.NormsPositive (s : Seg) : Prop :=
  ∀ fe ∈ s.fields, ∀ e ∈ fe.2, is1Hit e.2 = true → (decode1Hit e.2).2 ≠ 0

theorem trueCount_eq_length (s : Seg) (v : Nat) : trueCount s v = (trueDocs s v).length := by
  unfold trueCount trueDocs
  split
  · rfl
  · split <;> rfl

/-- the clauses of `Seg.Readable` and `Seg.NormsPositive` for the entries of one FST -/
def EntriesOk (s : Seg) (es : List (Bytes × Nat)) : Prop :=
  ∀ e ∈ es, (is1Hit e.2 = true ∨ (s.store e.2).isSome = true) ∧
            (is1Hit e.2 = true → (decode1Hit e.2).2 ≠ 0)

theorem entriesOk_of_mem (s : Seg) (hr : Seg.Readable s) (hn : Seg.NormsPositive s)
    (fe : Bytes × List (Bytes × Nat)) (hf : fe ∈ s.fields) : EntriesOk s fe.2 :=
  fun e he => ⟨hr.2 fe hf e he, hn fe hf e he⟩

/-- what `read` (after the fix) leaves in the list for a readable, norm-positive value -/
theorem read_fixed_spec (s : Seg) (hm : s.chunkMode ≤ 1025) (p : PL) (v : Nat)
    (hv : is1Hit v = true ∨ (s.store v).isSome = true)
    (hp : is1Hit v = true → (decode1Hit v).2 ≠ 0) :
    ∃ p', read fixed s p v = .ok p' ∧ p'.except = p.except ∧ p'.hasSeg = p.hasSeg ∧
      (p'.except = none → count p' = trueCount s v) ∧ orInto p' = trueDocs s v ∧
      (p'.except = none → p'.hasSeg = true → iterDocs fixed p' = .ok (trueDocs s v)) := by
  cases h1 : is1Hit v with
  | true =>
    have hnz := hp h1
    refine ⟨_, read_1hit fixed s p v h1, rfl, rfl, ?_, ?_, ?_⟩
    · intro he; rw [count_1hit _ hnz he]; simp [trueCount, h1]
    · simp [orInto, trueDocs, h1, hnz]
    · intro he _; simp at he; simp [iterDocs, trueDocs, h1, hnz, he]
  | false =>
    have hs : (s.store v).isSome = true := by simpa [h1] using hv
    obtain ⟨r, hr⟩ := Option.isSome_iff_exists.mp hs
    obtain ⟨cs, hcs⟩ := read_fixed_general s p v r h1 hr hm
    refine ⟨_, hcs, rfl, rfl, ?_, ?_, ?_⟩
    · intro he; rw [count_general _ r.docs rfl he rfl]; simp [trueCount, h1, hr]
    · simp [orInto, trueDocs, h1, hr]
    · intro he hseg
      rw [iterDocs_fixed_general _ r.docs rfl he rfl hseg]; simp [trueDocs, h1, hr]

theorem dictIter_fixed (s : Seg) (hm : s.chunkMode ≤ 1025) (es : List (Bytes × Nat))
    (hes : EntriesOk s es) (tmp : PL) (ht : tmp.except = none) :
    dictIter fixed s es tmp = .ok (es.map (fun e => (e.1, trueCount s e.2))) := by
  induction es generalizing tmp with
  | nil => rfl
  | cons e es ih =>
    obtain ⟨t, v⟩ := e
    have he := hes (t, v) (List.mem_cons_self)
    obtain ⟨p', hrd, hex, _, hc, _, _⟩ := read_fixed_spec s hm tmp v he.1 he.2
    have hex' : p'.except = none := hex.trans ht
    have ih' := ih (fun e h => hes e (List.mem_cons_of_mem _ h)) p' hex'
    simp [dictIter, hrd, ih', hc hex']

theorem C08_counts (s : Seg) (hr : Seg.Readable s) (hn : Seg.NormsPositive s) (f : Bytes)
    (fst : List (Bytes × Nat)) (hf : (f, fst) ∈ s.fields) (tmp : PL) (ht : tmp.except = none) :
    dictIter fixed s fst tmp = .ok (fst.map (fun e => (e.1, trueCount s e.2))) :=
  dictIter_fixed s hr.1 fst (entriesOk_of_mem s hr hn (f, fst) hf) tmp ht

/-- non-vacuity: a readable segment with a 1-hit and a general term -/
def exSeg : Seg :=
  { fields := [([102], [([97], encode1Hit 3 7), ([98], 40)])],
    store := fun o => if o = 40 then some { freqOffset := 10, locOffset := 5, docs := [1, 2, 5] } else none,
    chunkMode := 1025, numDocs := 6 }

theorem exSeg_ok : Seg.Readable exSeg ∧ Seg.NormsPositive exSeg := by
  unfold Seg.Readable Seg.NormsPositive
  decide +kernel

example : Seg.Readable exSeg ∧ Seg.NormsPositive exSeg := exSeg_ok

/-- before fix 332b42f a general entry met after a 1-hit entry was counted as 1 -/
theorem C08_v0_counterexample :
    ∃ (s : Seg) (fst : List (Bytes × Nat)), Seg.Readable s ∧ Seg.NormsPositive s ∧
      ([102], fst) ∈ s.fields ∧
      dictIter v0 s fst {} ≠ .ok (fst.map (fun e => (e.1, trueCount s e.2))) :=
  ⟨exSeg, _, exSeg_ok.1, exSeg_ok.2, List.mem_singleton.2 rfl, by decide +kernel⟩

/-! ### C13: a reused postings list is indistinguishable from a fresh one -/

/-- readable or not: an unreadable record is an error with and without the preallocated list -/
theorem postingsList_reuse (s : Seg) (f t : Bytes) (except : Option (List Nat)) (rv : PL) :
    Res.map (observe fixed) (postingsList fixed s (dictionary s f) t except (some rv)) =
    Res.map (observe fixed) (postingsList fixed s (dictionary s f) t except none) := by
  unfold postingsList
  cases hb : (dictionary s f).fst.bind (fun fst => fstGet fst t) with
  | none =>
    cases hp : rv.postings <;>
      simp [Res.map, observe, postingsListInit, hp, count, orInto, iterDocs, fixed]
  | some v =>
    cases hp : rv.postings with
    | none => simp [postingsListInit, hp]
    | some ds =>
      simp only [postingsListInit, hp, Option.map_some]
      cases h1 : is1Hit v with
      | true =>
        rw [read_1hit _ _ _ _ h1, read_1hit _ _ _ _ h1]
        by_cases hnz : (decode1Hit v).2 = 0 <;>
          simp [Res.map, observe, count, orInto, iterDocs, fixed, hnz]
      | false =>
        cases hs : s.store v with
        | none => rw [read_unreadable _ _ _ _ h1 hs, read_unreadable _ _ _ _ h1 hs]
        | some r =>
          cases hc : getChunkSize s.chunkMode r.docs.length s.numDocs <;>
            simp [Dict.read, h1, hs, hc, Res.map]

theorem C13_list_reuse (s : Seg) (hr : Seg.Readable s) (f t : Bytes) (except : Option (List Nat))
    (rv : PL) :
    Res.map (observe fixed) (postingsList fixed s (dictionary s f) t except (some rv)) =
    Res.map (observe fixed) (postingsList fixed s (dictionary s f) t except none) :=
  postingsList_reuse s f t except rv

/-- … and what is observed is the truth: count, documents, iterator -/
theorem C13_list_correct (s : Seg) (hr : Seg.Readable s) (hn : Seg.NormsPositive s) (f t : Bytes)
    (rv : Option PL) :
    ∃ p, postingsList fixed s (dictionary s f) t none rv = .ok p ∧
      let docs := match (dictionary s f).fst.bind (fun fst => fstGet fst t) with
        | none => []
        | some v => trueDocs s v
      count p = docs.length ∧ orInto p = docs ∧ iterDocs fixed p = .ok docs := by
  unfold postingsList
  cases hb : (dictionary s f).fst.bind (fun fst => fstGet fst t) with
  | none =>
    cases rv with
    | none => exact ⟨_, rfl, by simp [count], by simp [orInto], by simp [iterDocs]⟩
    | some rv =>
      refine ⟨_, rfl, ?_, ?_, ?_⟩ <;>
        cases hp : rv.postings <;> simp [postingsListInit, hp, count, orInto, iterDocs, fixed]
  | some v =>
    cases hd : (dictionary s f).fst with
    | none => simp [hd] at hb
    | some fst =>
      obtain ⟨hseg, fe, hfe, hfst⟩ := dictionary_some s f fst hd
      have hg : fstGet fst t = some v := by simpa [hd] using hb
      obtain ⟨e, he, hev⟩ := fstGet_mem fst t v hg
      have hok := entriesOk_of_mem s hr hn fe hfe e (hfst ▸ he)
      rw [hev] at hok
      obtain ⟨p', hrd, hex, hhs, hc, ho, hi⟩ :=
        read_fixed_spec s hr.1 (postingsListInit (dictionary s f).hasSeg rv none) v hok.1 hok.2
      have hex' : p'.except = none := by rw [hex]; cases rv <;> rfl
      have hhs' : p'.hasSeg = true := by rw [hhs, ← hseg]; cases rv <;> rfl
      refine ⟨p', hrd, ?_, ho, hi hex' hhs'⟩
      rw [hc hex']
      exact trueCount_eq_length s v

/-- before fix 6e88f49: a used list handed to a lookup in an unknown field came back with a
    bitmap but no segment; its Iterator dereferenced nil -/
theorem C13_v0_counterexample :
    ∃ (s : Seg) (rv : PL),
      Res.map (observe v0) (postingsList v0 s (dictionary s [120]) [97] none (some rv)) ≠
      Res.map (observe v0) (postingsList v0 s (dictionary s [120]) [97] none none) := by
  refine ⟨{ fields := [], store := fun _ => none, chunkMode := 0, numDocs := 0 },
          { postings := some [1] }, ?_⟩
  simp [postingsList, dictionary, postingsListInit, Res.map, observe, iterDocs, v0]

/-! ### C18: DocsMatchingTerms is the union over the listed pairs -/

def docsOf (s : Seg) (f t : Bytes) : List Nat :=
  match (dictionary s f).fst.bind (fun fst => fstGet fst t) with
  | none => []
  | some v => trueDocs s v

/-- the cache of `DocsMatchingTerms` is transparent: it only ever holds `dictionary s lf` -/
theorem docsMatchingFixed_cons (s : Seg) (f t : Bytes) (r : List (Bytes × Bytes))
    (cache : Option (Bytes × Dictionary))
    (hc : ∀ lf d, cache = some (lf, d) → d = dictionary s lf) (acc : List Nat) :
    docsMatchingFixed s ((f, t) :: r) cache acc =
      match (dictionary s f).fst with
      | none => docsMatchingFixed s r (some (f, dictionary s f)) acc
      | some _ =>
        match postingsList fixed s (dictionary s f) t none none with
        | .ok pl => docsMatchingFixed s r (some (f, dictionary s f)) (acc ++ orInto pl)
        | .err => .err
        | .panic => .panic := by
  cases cache with
  | none => rfl
  | some c =>
    obtain ⟨lf, d⟩ := c
    cases hc lf d rfl
    rw [docsMatchingFixed]
    cases h : lf == f with
    | true => cases eq_of_beq h; rfl
    | false => rfl

theorem docsMatchingFixed_gen (s : Seg) (hr : Seg.Readable s) (hn : Seg.NormsPositive s)
    (ts : List (Bytes × Bytes)) (cache : Option (Bytes × Dictionary))
    (hc : ∀ lf d, cache = some (lf, d) → d = dictionary s lf) (acc : List Nat) :
    docsMatchingFixed s ts cache acc =
      .ok (acc ++ ts.flatMap (fun ft => docsOf s ft.1 ft.2)) := by
  induction ts generalizing cache acc with
  | nil => simp [docsMatchingFixed]
  | cons ft r ih =>
    obtain ⟨f, t⟩ := ft
    have hc' : ∀ lf d, some (f, dictionary s f) = some (lf, d) → d = dictionary s lf := by
      intro lf d h; cases h; rfl
    rw [docsMatchingFixed_cons s f t r cache hc acc]
    cases hfst : (dictionary s f).fst with
    | none =>
      simp only []
      rw [ih _ hc']
      simp [docsOf, hfst]
    | some fst =>
      obtain ⟨p, hp, _, ho, _⟩ := C13_list_correct s hr hn f t none
      simp only [hp]
      rw [ih _ hc']
      simp [docsOf, ho, List.append_assoc]

theorem C18_union (s : Seg) (hr : Seg.Readable s) (hn : Seg.NormsPositive s)
    (ts : List (Bytes × Bytes)) :
    docsMatchingFixed s ts none [] = .ok (ts.flatMap (fun ft => docsOf s ft.1 ft.2)) := by
  simpa using docsMatchingFixed_gen s hr hn ts none (by simp) []

/-- before fix 0f30b10 a list starting with a term of an unknown field - or of the empty field
    name - panicked -/
theorem C18_v0_unknown_field (s : Seg) (f t : Bytes) (r : List (Bytes × Bytes))
    (hf : ∀ fe ∈ s.fields, fe.1 ≠ f) (hne : f ≠ []) :
    docsMatchingV0 s ((f, t) :: r) [] none [] = .panic := by
  have hne' : (f != []) = true := by simpa using hne
  simp [docsMatchingV0, hne', dictionary_unknown s f hf]

theorem C18_v0_empty_first (s : Seg) (t : Bytes) (r : List (Bytes × Bytes)) :
    docsMatchingV0 s (([], t) :: r) [] none [] = .panic := by
  simp [docsMatchingV0]

example : dictIter fixed exSeg [([97], encode1Hit 3 7), ([98], 40)] {} = .ok [([97], 1), ([98], 3)] := by
  decide +kernel

end Ice.Props.C08
