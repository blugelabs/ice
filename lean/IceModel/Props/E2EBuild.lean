import IceModel.Lemmas.E2EMRead
import IceModel.Lemmas.E2EMValid
import IceModel.Lemmas.E2EMBuild
import IceModel.Lemmas.FormatTotalBacking
/-
  END TO END, builder path:  `New` + `WriteTo` + `load` + the byte-level readers = `Spec.build`.

  For every batch `b` inside the contract of `New` (`ValidBatch b`) and inside explicit numeric
  bounds (`Bounds nc b`), every map order `π` and norm function `nc`:
    * `Builder.run nc π b = .ok r` is the segment `interim.convert` builds (C01: it never fails),
    * `r.toLSeg mode` is what `convert` lays out (`Lemmas/E2EDefs.lean`), `serialize K (r.toLSeg mode)
      = .ok (data, ft)` the bytes it writes, `fileOf K data ft` the file `WriteTo` produces,
    * `load mem (fileOf K data ft) = .ok ld` the segment opened from that file, for BOTH backings,
  and every read API of `ld`, executed on the bytes by the byte-level models, returns what the
  specification `Spec.build nc mode b` says:

    E2E_layout   the description is the builder's: all terms `general`, doc values = `dvOfTerms`,
                 stored (id, value) pairs = `Builder.storedOut`; `toLSeg_raw`: terms = raw `FieldOut`
    E2E_valid    the description is a valid input of the container (`C04.Valid`)
    E2E_load     the file loads (both backings)
    E2E_fields   field list, per-field statistics, document count, chunk mode; `CollectionStats`
    E2E_dict     the FST of every field holds exactly `Spec.terms` in order; unknown ids: none
    E2E_iter     for every field, every term of it, every exclusion bitmap, flag triple and script
                 of `Next`/`Advance`: the byte-level `PostingsIterator` over the postings list that
                 `dictionary` + `PostingsList.read` set up answers exactly as the specification
                 iterator over `Spec.postings` (C04 ∘ C05Bytes ∘ C01), without error or panic
    E2E_stored   `VisitStoredFields(n)` delivers `Spec.stored … n` (names through `fieldsInv`),
                 cut at the visitor's stop; nothing beyond the count (C04 ∘ C06 ∘ C01)
    E2E_dv       the doc-value reader of a field delivers, for any sequence of visits,
                 `Spec.dvOf … n f`; a field without reader has no doc values (C04 ∘ C07 ∘ C01)
    E2E_read     all of it in one structure
    ex_*         a three-document batch for which every hypothesis holds (kernel-checked)

  HYPOTHESES (beyond `ValidBatch b`, `PermOK π`, which are C01's):
    `hmode : 1 ≤ mode ≤ 1025`   the chunk modes `getChunkSize` knows (chunk.go: legacy modes are
                                the chunk size itself - 0 divides by zero -, 1025 = chunkModeV1)
    `Bounds nc b`               see `Lemmas/E2EDefs.lean` (each field with its Go-level reason)
    `Sizes K L`                 what has to fit into memory and into the file, in the form
                                `C04.Valid` states it (incl. "the file is shorter than 2^62 bytes")
    `hs : serialize … = .ok …`  the writer succeeded (totality of `serialize` is not proved here)
  `K : Codecs` is any triple of codecs (zstd, roaring, vellum) with the round-trip laws of C04.

  PROOF: `r` is `builtOf nc b` (`C01.built_eq`), whose description lays out `Spec.build nc mode b`
  (`E2EM.build_lays`), and any valid description that lays out an abstract segment reads as
  it (`E2EM.lays_valid`, `E2EM.lays_readsAs`: C04 ∘ C05Bytes / C06 / C07).
-/
namespace Ice.Props.E2E
open Ice Ice.Spec Ice.Model Ice.Model.Builder Ice.Model.Format
open Ice.Model.IterBytes (PLB mkB runB toP)
open Ice.Model.Iter (RFlags)
open Ice.Model.Writer (Footer)

section
variable {nc : Bytes → Nat → Nat} {π : Order} {b : Batch} {r : Built}
  (hv : ValidBatch b) (hπ : PermOK π) (hrun : run nc π b = .ok r)
  (mode : Nat) (hmode : 1 ≤ mode ∧ mode ≤ 1025) (hB : Bounds nc b)
  (K : Codecs) (hsz : Sizes K (r.toLSeg mode))

include hv hπ hrun in
/-- what `New` lays out lays out `Spec.build nc mode b`, whatever the map order -/
theorem toLSeg_lays : E2EM.Lays (build nc mode b) (r.toLSeg mode) := by
  cases C01.built_eq hv hπ hrun
  exact E2EM.build_lays hv mode

include hv hπ hrun hmode hB hsz in
/-- **E2E_valid.**  What `New` lays out for a batch inside the contract and the bounds is a valid
    input of the container: all of C04 applies to it. -/
theorem E2E_valid : C04.Valid K (r.toLSeg mode) :=
  E2EM.lays_valid (toLSeg_lays hv hπ hrun mode) (E2EM.absRd_build hv mode hB) hmode hsz

include hv hπ hrun in
/-- **the description is the builder's.**  Every term is `general` (no 1-hit encoding in the
    builder); the doc-value column of every field is the one `Format.dvOfTerms` derives from the
    field's postings - `docTermMap` of new.go:839-841; the stored values of every document, as
    (field id, value) pairs, are those the loop new.go:605-616 encodes (`Builder.storedOut` of the
    document's `docStoredFields`).  (That the terms are the builder's raw per-field output
    `FieldOut` - field ids inside locations - is `toLSeg_raw`, `Lemmas/E2EMBuild.lean`.) -/
theorem E2E_layout :
    (∀ fd ∈ (r.toLSeg mode).fields,
      (∀ t ∈ fd.terms, ∃ es, t.2 = TermDesc.general es) ∧
      ∀ vals, fd.dv = some vals → vals = dvOfTerms (r.toLSeg mode).numDocs fd.terms) ∧
    ∀ (n : Nat) (d : Doc), b[n]? = some d →
      ((r.toLSeg mode).stored[n]?).map Stored.flat =
        some (Builder.storedOut (FL b).length (dsfOf (FL b) d)) := by
  cases C01.built_eq hv hπ hrun
  refine ⟨?_, ?_⟩
  · intro fd hfd
    refine ⟨?_, toLSeg_dv mode hfd⟩
    intro t ht
    cases h : t.2 with
    | general es => exact ⟨es, rfl⟩
    | oneHit d n => cases (E2EM.build_lays hv mode).oneHit fd hfd t ht d n h
  · intro n d hd
    simp only [Built.toLSeg, builtOf, List.getElem?_map, hd, Option.map_some]
    rw [flat_storedDocOf_raw _ (FL_nodup b)]

variable {data : Bytes} {ft : Footer} (hs : serialize K (r.toLSeg mode) = .ok (data, ft))
  (mem : Bool)

include hv hπ hrun hmode hB hsz hs in
/-- **E2E_load.**  The file `WriteTo` produces loads, memory- and file-backed. -/
theorem E2E_load : ∃ ld, load mem (fileOf K data ft) = .ok ld := by
  obtain ⟨ld, hl, _⟩ := C04.C04_fields K _ (E2E_valid hv hπ hrun mode hmode hB K hsz) data ft hs mem
  exact ⟨ld, hl⟩

variable {ld : Loaded} (hl : load mem (fileOf K data ft) = .ok ld)

include hv hπ hrun hmode hB hsz hs hl in
/-- **E2E_fields.**  The loaded segment has the field list of the specification (`_id` first, the
    others ascending), its per-field statistics, its document count and the chunk mode; hence
    `CollectionStats` of every field name (known or not) is `Spec.stats`. -/
theorem E2E_fields :
    ld.fieldsInv = (build nc mode b).fields ∧
    ld.fieldDocs = (build nc mode b).fieldDocs ∧
    ld.fieldFreqs = (build nc mode b).fieldFreqs ∧
    ld.footer.numDocs = numDocs (build nc mode b) ∧
    ld.footer.chunkMode = mode ∧
    ld.data.mem = mem ∧
    ∀ f, loadedStats ld f = stats (build nc mode b) f :=
  E2EM.lays_fields (E2E_valid hv hπ hrun mode hmode hB K hsz) (toLSeg_lays hv hπ hrun mode) hs mem hl

include hv hπ hrun hmode hB hsz hs hl in
/-- the loaded segment reads as `Spec.build nc mode b`: `lays_readsAs` for the builder's
    description -/
theorem readsAs_loaded : ReadsAs K (build nc mode b) ld :=
  E2EM.lays_readsAs (E2E_valid hv hπ hrun mode hmode hB K hsz) (toLSeg_lays hv hπ hrun mode) hs mem hl
    (E2EM.absRd_build hv mode hB) rfl

include hv hπ hrun hmode hB hsz hs hl in
/-- **E2E_dict.**  `Segment.dictionary` of field `i` (name `f`): the keys of its FST are exactly
    the terms of the specification, in order.  With documents every field has an FST; a field id
    outside the field list has none. -/
theorem E2E_dict :
    (∀ (i : Nat) (f : Bytes), (build nc mode b).fields[i]? = some f →
      ∃ o, dictionaryOf K ld i = .ok o ∧ dictKeys o = terms (build nc mode b) f ∧
        (b ≠ [] → o.isSome)) ∧
    (∀ i : Nat, (build nc mode b).fields[i]? = none → dictionaryOf K ld i = .ok none) := by
  have h := readsAs_loaded hv hπ hrun mode hmode hB K hsz hs mem hl
  refine ⟨fun i f hf => ?_, h.dictNone⟩
  obtain ⟨o, ho, hk, hsome⟩ := h.dict i f hf
  exact ⟨o, ho, hk, fun hb => hsome fun h0 => hb (List.map_eq_nil_iff.1 (build_docs nc mode b ▸ h0))⟩

include hv hπ hrun hmode hB hsz hs hl in
/-- **E2E_stored.**  `VisitStoredFields(n)` on the loaded segment, with any pooled context buffer
    and any visitor stop, delivers - field ids resolved through the loaded field table - exactly
    the stored values `Spec.stored` lists for document `n`, up to and including the value at which
    the visitor stops; nothing for `n` beyond the count. -/
theorem E2E_stored (n : Nat) (buf : Stored.Buf) (stop : Option Nat) :
    ∃ vs buf', Stored.visit K.stored ld.storedSeg buf n stop = .ok (vs, buf') ∧
      vs.map (fun p => (ld.fieldsInv.getD p.1 [], p.2)) =
        Stored.takeStop stop (stored (build nc mode b) n) :=
  (readsAs_loaded hv hπ hrun mode hmode hB K hsz hs mem hl).stored n buf stop

include hv hπ hrun hmode hB hsz hs hl in
/-- **E2E_dv.**  Doc values of field `i` (name `f`) of the loaded segment.  Either the field has
    no reader (`fieldNotUninverted`) and the specification lists no doc values for it in any
    document; or it has the reader of C07, on which every sequence of visits of documents of the
    segment - any order, repetitions - succeeds and delivers, visit by visit, exactly
    `Spec.dvOf … n f`. -/
theorem E2E_dv (i : Nat) (f : Bytes) (hf : (build nc mode b).fields[i]? = some f) :
    ∃ ro, ld.dvReaders[i]? = some ro ∧
      match ro with
      | none => ∀ n, dvOf (build nc mode b) n f = []
      | some r0 => ∀ ds : List Nat, (∀ d ∈ ds, d < b.length) →
          ∃ r', DocValues.Reader.visitAll K.dv ld.data dvChunk r0 ds =
            .ok (ds.map (fun n => dvOf (build nc mode b) n f), r') := by
  rw [← build_docs_length nc mode b]
  exact (readsAs_loaded hv hπ hrun mode hmode hB K hsz hs mem hl).dv i f hf

include hv hπ hrun hmode hB hsz hs hl in
/-- **E2E_iter.**  For every field `f` (id `i`) and every term `t` of it (the `j`-th key of the
    field's FST): `Segment.dictionary` finds the FST value `v`, `PostingsList.read` reads the
    term's record at `v` - document numbers, chunk size, the two stream offsets -, and a
    `PostingsIterator` created over it (byte-level model: chunk offsets parsed out of the data
    section, chunks decompressed, varints read through `memUvarintReader`s, locations resolved
    through the loaded field table) answers EVERY script of `Next` / `Advance` calls, for EVERY
    exclusion bitmap and flag triple, exactly as the specification iterator over
    `Spec.postings (build nc mode b) f t` restricted to the live documents - seen through the
    flags the caller asked for; no call errs or panics. -/
theorem E2E_iter (i : Nat) (f : Bytes) (hf : (build nc mode b).fields[i]? = some f)
    (j : Nat) (t : Bytes) (ht : (terms (build nc mode b) f)[j]? = some t) :
    ∃ fst v fo lo cs, dictionaryOf K ld i = .ok (some fst) ∧ fst[j]? = some (t, v) ∧
      readPostings K ld v =
        .ok (.general fo lo ((postings (build nc mode b) f t).map (·.doc)) cs) ∧
      ∀ (ex : Option (List Nat)) (fl : Flags) (ops : List IterOp),
        ∃ i0, mkB (plbOf ld fo lo cs ((postings (build nc mode b) f t).map (·.doc)) ex)
            (RFlags.of fl) = .ok i0 ∧
          (runB K.chunk i0 ops).map (C05Bytes.viewRes fl) =
            (iterRun fl (live (postings (build nc mode b) f t) ex) ops).map .ok :=
  (readsAs_loaded hv hπ hrun mode hmode hB K hsz hs mem hl).iter i f hf j t ht

include hv hπ hrun hmode hB hsz hs hl in
/-- **E2E_iter, reused iterator (C13).**  The same answers come from an iterator constructed over
    ANY previously used `PostingsIterator` (`PostingsList.iterator(…, rv)`), whatever state it is
    in. -/
theorem E2E_iter_reuse (i : Nat) (f : Bytes) (hf : (build nc mode b).fields[i]? = some f)
    (j : Nat) (t : Bytes) (ht : (terms (build nc mode b) f)[j]? = some t) :
    ∃ fst v fo lo cs, dictionaryOf K ld i = .ok (some fst) ∧ fst[j]? = some (t, v) ∧
      readPostings K ld v =
        .ok (.general fo lo ((postings (build nc mode b) f t).map (·.doc)) cs) ∧
      ∀ (used : Ice.Model.IterBytes.ItB) (ex : Option (List Nat)) (fl : Flags) (ops : List IterOp),
        ∃ i1, Ice.Model.IterBytes.mkBReuse used
            (plbOf ld fo lo cs ((postings (build nc mode b) f t).map (·.doc)) ex) (RFlags.of fl) = .ok i1 ∧
          (runB K.chunk i1 ops).map (C05Bytes.viewRes fl) =
            (iterRun fl (live (postings (build nc mode b) f t) ex) ops).map .ok :=
  (readsAs_loaded hv hπ hrun mode hmode hB K hsz hs mem hl).iter_reuse i f hf j t ht

end

/-- **E2E_read.**  For every batch inside the contract of `New` and the numeric bounds, every map
    order and every codec triple with the round-trip laws: the file that `New` + `WriteTo`
    produce loads - memory- and file-backed - and every read API of the loaded segment, executed
    on the bytes, returns what `Spec.build nc mode b` says. -/
theorem E2E_read {nc : Bytes → Nat → Nat} {π : Order} {b : Batch} {r : Built}
    (hv : ValidBatch b) (hπ : PermOK π) (hrun : run nc π b = .ok r)
    (mode : Nat) (hmode : 1 ≤ mode ∧ mode ≤ 1025) (hB : Bounds nc b)
    (K : Codecs) (hsz : Sizes K (r.toLSeg mode))
    {data : Bytes} {ft : Footer} (hs : serialize K (r.toLSeg mode) = .ok (data, ft)) (mem : Bool) :
    ∃ ld, load mem (fileOf K data ft) = .ok ld ∧ ld.data.mem = mem ∧
      ReadsAs K (build nc mode b) ld := by
  obtain ⟨ld, hl⟩ := E2E_load hv hπ hrun mode hmode hB K hsz hs mem
  exact ⟨ld, hl, (E2E_fields hv hπ hrun mode hmode hB K hsz hs mem hl).2.2.2.2.2.1,
    readsAs_loaded hv hπ hrun mode hmode hB K hsz hs mem hl⟩

/-! ## a concrete batch: the hypotheses are satisfiable, `serialize` succeeds

  Three documents, fields `_id` and `f`.  Document 0: `f` stored (value "xy"), with doc values,
  term `a` with frequency 2 and two locations.  Document 1: `f` with doc values, terms `a` (no
  location) and `b` (one location that names its field).  Document 2: `_id` only.
  Chunk mode 2 (two chunks), the "identity" codecs of `Props/C04.lean`. -/

def fF : Bytes := [102]
def ta : Bytes := [97]
def tb : Bytes := [98]

def exB : Batch :=
  [ [ { name := idField, length := 1, store := true, dv := false, value := [48],
        terms := [ { term := [48], freq := 1, locs := [] } ] },
      { name := fF, length := 2, store := true, dv := true, value := [120, 121],
        terms := [ { term := ta, freq := 2,
                     locs := [ { field := [], pos := 1, start := 0, stop := 1 },
                               { field := [], pos := 3, start := 4, stop := 5 } ] } ] } ],
    [ { name := idField, length := 1, store := true, dv := false, value := [49],
        terms := [ { term := [49], freq := 1, locs := [] } ] },
      { name := fF, length := 2, store := false, dv := true, value := [],
        terms := [ { term := ta, freq := 1, locs := [] },
                   { term := tb, freq := 1,
                     locs := [ { field := fF, pos := 2, start := 2, stop := 3 } ] } ] } ],
    [ { name := idField, length := 1, store := true, dv := false, value := [50],
        terms := [ { term := [50], freq := 1, locs := [] } ] } ] ]

/-- what `New` builds from `exB` (`ex_run`) -/
def exR : Built := builtOf C01.nc0 exB

/-- … and lays out -/
def exL : LSeg := exR.toLSeg 2

theorem ex_validBatch : ValidBatch exB := by decide +kernel

theorem ex_run : run C01.nc0 idOrder exB = .ok exR := E2EM.run_builtOf ex_validBatch

theorem ex_bounds : Bounds C01.nc0 exB := by
  refine ⟨by decide +kernel, ?_, by decide +kernel, by decide +kernel, by decide +kernel,
    by decide +kernel, by decide +kernel, by decide +kernel⟩
  intro n l
  show 1 + (3 * l + 5 * n.sum + 7) % 0x7f7fffff < 2 ^ 32
  omega

/-- the description, evaluated: field ids inside locations, the doc-value column of `f` -/
theorem ex_layout : exL =
    { merger := false, numDocs := 3, chunkMode := 2,
      fields := [
        { name := idField, fieldDocs := 3, fieldFreqs := 3,
          terms := [([48], .general [⟨0, 1, 1511, []⟩]), ([49], .general [⟨1, 1, 1511, []⟩]),
                    ([50], .general [⟨2, 1, 1511, []⟩])],
          dv := none },
        { name := fF, fieldDocs := 2, fieldFreqs := 4,
          terms := [(ta, .general [⟨0, 2, 524, [⟨1, 1, 0, 1⟩, ⟨1, 3, 4, 5⟩]⟩, ⟨1, 1, 524, []⟩]),
                    (tb, .general [⟨1, 1, 524, [⟨1, 2, 2, 3⟩]⟩])],
          dv := some [(0, [ta]), (1, [ta, tb])] } ],
      stored := [[(0, [[48]]), (1, [[120, 121]])], [(0, [[49]])], [(0, [[50]])]] } := by
  decide +kernel

def exData : Bytes :=
  [6, 3, 0, 0, 1, 1, 1, 2, 48, 120, 121, 3, 1, 0, 0, 1, 49, 3, 1, 0, 0, 1, 50, 0, 23, 0, 0, 0, 2, 0, 0, 0, 2, 0, 0, 0,
    0, 0, 0, 0, 0, 0, 0, 0, 0, 0, 0, 0, 11, 0, 0, 0, 0, 0, 0, 0, 17, 2, 3, 3, 2, 231, 11, 57, 0, 1, 0, 2, 3, 3, 2, 231,
    11, 67, 0, 1, 1, 2, 0, 3, 2, 231, 11, 77, 0, 1, 2, 30, 1, 48, 0, 0, 0, 0, 0, 0, 0, 63, 1, 49, 0, 0, 0, 0, 0, 0, 0,
    73, 1, 50, 0, 0, 0, 0, 0, 0, 0, 83, 2, 6, 6, 5, 140, 4, 2, 140, 4, 2, 9, 9, 8, 1, 1, 0, 1, 1, 3, 4, 5, 118, 9, 2, 0,
    1, 2, 3, 3, 3, 140, 4, 2, 5, 5, 4, 1, 2, 2, 3, 144, 1, 6, 1, 1, 20, 1, 97, 0, 0, 0, 0, 0, 0, 0, 139, 1, 98, 0, 0, 0,
    0, 0, 0, 0, 158, 2, 0, 2, 1, 4, 97, 255, 97, 255, 98, 255, 11, 0, 0, 0, 0, 0, 0, 0, 1, 0, 0, 0, 0, 0, 0, 0, 1, 255,
    255, 255, 255, 255, 255, 255, 255, 255, 1, 255, 255, 255, 255, 255, 255, 255, 255, 255, 1, 184, 1, 212, 1, 87, 3,
    95, 105, 100, 3, 3, 163, 1, 1, 102, 2, 4, 0, 0, 0, 0, 0, 0, 0, 236, 0, 0, 0, 0, 0, 0, 0, 243]

def exFooter : Footer :=
  { numDocs := 3, storedIndexOffset := 33, fieldsIndexOffset := 249, docValueOffset := 212,
    chunkMode := 2, version := 2, crc := 0 }

/-- `serialize` succeeds on the description (evaluated in the kernel) -/
theorem ex_serialize : serialize C04.exK exL = .ok (exData, exFooter) := by
  rw [ex_layout]
  decide +kernel

theorem ex_sizes : Sizes C04.exK exL := by
  refine ⟨?_, ?_, ?_, ?_⟩
  · rw [ex_layout]; decide +kernel
  · rw [ex_layout]; decide +kernel
  · rw [ex_layout]; decide +kernel
  · simp only [ex_serialize]; decide +kernel

/-- all hypotheses of the end-to-end theorems hold for the example … -/
theorem ex_valid : C04.Valid C04.exK exL :=
  E2E_valid ex_validBatch E2EM.idPerm ex_run 2 (by decide) ex_bounds C04.exK ex_sizes

/-- … so the loaded file reads as the specification says, for both backings -/
theorem ex_read (mem : Bool) :
    ∃ ld, load mem (fileOf C04.exK exData exFooter) = .ok ld ∧ ld.data.mem = mem ∧
      ReadsAs C04.exK (build C01.nc0 2 exB) ld :=
  E2E_read ex_validBatch E2EM.idPerm ex_run 2 (by decide) ex_bounds C04.exK ex_sizes ex_serialize mem

/-- the segment `load` builds from the example file -/
def exLd (mem : Bool) : Loaded :=
  { data := { bytes := exData, mem := mem }, footer := { exFooter with crc := 10873 },
    fieldsInv := [idField, fF], dictLocs := [87, 163], fieldDocs := [3, 2], fieldFreqs := [3, 4],
    storedChunkOffsets := [0, 23],
    dvReaders := [none, some { curChunkNum := 2 ^ 63 - 1, chunkOffsets := [11], dvDataLoc := 184,
                               curChunkHeader := [], curChunkData := none, uncompressed := [] }] }

/-- the loader, evaluated once on the bytes; the file-backed segment differs in the backing only -/
theorem ex_load (mem : Bool) : load mem (fileOf C04.exK exData exFooter) = .ok (exLd mem) := by
  have h : load true (fileOf C04.exK exData exFooter) = .ok (exLd true) := by decide +kernel
  cases mem
  · exact load_toFile _ _ h
  · exact h

/-- the left-hand side of `E2E_iter`, evaluated on the bytes: the term `a` (key 0) of field `f`
    (id 1) looked up in the loaded dictionary, its record read, an iterator with all flags and
    document 1 excluded run over `Next, Next, Advance 0` -/
def exTranscript (mem : Bool) : List (Res (Option Posting)) :=
  match load mem (fileOf C04.exK exData exFooter) with
  | .ok ld =>
    (match dictionaryOf C04.exK ld 1 with
     | .ok (some fst) =>
       (match fst[0]? with
        | some (_, v) =>
          (match readPostings C04.exK ld v with
           | .ok (.general fo lo docs cs) =>
             C05Bytes.runRes C04.exK.chunk
               (mkB (plbOf ld fo lo cs docs (some [1])) (RFlags.of ⟨true, true, true⟩))
               [.next, .next, .advance 0]
           | _ => [])
        | none => [])
     | _ => [])
  | _ => []

/-- … stage by stage on the loaded segment: the dictionary of `f`, the record of `a`, the script -/
theorem ex_iter (mem : Bool) :
    dictionaryOf C04.exK (exLd mem) 1 = .ok (some [(ta, 139), (tb, 158)]) ∧
    readPostings C04.exK (exLd mem) 139 = .ok (.general 118 127 [0, 1] 2) ∧
    C05Bytes.runRes C04.exK.chunk
      (mkB (plbOf (exLd mem) 118 127 2 [0, 1] (some [1])) (RFlags.of ⟨true, true, true⟩))
      [.next, .next, .advance 0] =
    [ .ok (some { doc := 0, freq := 2, norm := 524,
                  locs := [⟨fF, 1, 0, 1⟩, ⟨fF, 3, 4, 5⟩] }), .ok none, .ok none ] := by
  cases mem <;> decide +kernel

theorem ex_transcript (mem : Bool) : exTranscript mem =
    [ .ok (some { doc := 0, freq := 2, norm := 524,
                  locs := [⟨fF, 1, 0, 1⟩, ⟨fF, 3, 4, 5⟩] }), .ok none, .ok none ] := by
  unfold exTranscript
  simp only [ex_load, ex_iter, List.getElem?_cons_zero]

/-- … and the right-hand side, evaluated on the specification: the same answers -/
theorem ex_spec_transcript :
    iterRun ⟨true, true, true⟩ (live (postings (build C01.nc0 2 exB) fF ta) (some [1]))
      [.next, .next, .advance 0] =
    [ some { doc := 0, freq := 2, norm := 524, locs := [⟨fF, 1, 0, 1⟩, ⟨fF, 3, 4, 5⟩] },
      none, none ] := by
  decide +kernel

/-- the observations of the specification for the example -/
theorem ex_spec :
    (build C01.nc0 2 exB).fields = [idField, fF] ∧
    terms (build C01.nc0 2 exB) fF = [ta, tb] ∧
    stored (build C01.nc0 2 exB) 0 = [(idField, [48]), (fF, [120, 121])] ∧
    dvOf (build C01.nc0 2 exB) 1 fF = [ta, tb] ∧
    stats (build C01.nc0 2 exB) fF = (3, 2, 4) := by
  decide +kernel

end Ice.Props.E2E

/-! axiom audit (expected: a subset of propext, Classical.choice, Quot.sound) -/
section Audit
open Ice.Props.E2E
#print axioms E2E_layout
#print axioms toLSeg_raw
#print axioms E2E_valid
#print axioms E2E_load
#print axioms E2E_fields
#print axioms E2E_dict
#print axioms E2E_iter
#print axioms E2E_iter_reuse
#print axioms E2E_stored
#print axioms E2E_dv
#print axioms E2E_read
#print axioms specBounds_of_bounds
#print axioms term_env
#print axioms ex_serialize
#print axioms ex_sizes
#print axioms ex_valid
#print axioms ex_read
#print axioms ex_transcript
#print axioms ex_spec_transcript
#print axioms ex_spec
end Audit
