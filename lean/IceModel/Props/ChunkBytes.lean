import IceModel.Model.ChunkBytes
import IceModel.Lemmas.ChunkBytes
/-
  The byte layer of postings lists: what the writers put into a chunk, and into a chunk stream,
  is what the readers get out.

  PART 1 (T1-T4)  entries ↔ bytes of one chunk (freq/norm stream and location stream)
  PART 2 (T5-T6)  chunks ↔ stream of a `chunkedIntCoder` / `chunkedIntDecoder`
  (T7)            the two together for the `Add` calls of the postings writer: one term end to end

  Everything is proved for every input inside the stated bounds; nothing is partial.
  Hypotheses beyond the ones one would write down first:
    * `Entry.Valid` bounds the number of locations by `2^57`, so that `numBytesLocs` (≤ 40 bytes
      per location) stays a non-negative `int` on the reader side (T3);
    * T3 for the reader as coded (`readLocsFreq`, `nextLocs` has length `freq`) needs
      `#locations ≤ freq` — the input contract; without it the code panics (`T3_freq_contract`);
    * T5 needs `0 < total` chunks (true for `maxDocNum/chunkSize + 1` unless that wraps to 0);
    * T6 needs a non-empty prefix (offset 0 means `termNotEncoded`, see `T6_writeAt` for that
      path) and a file shorter than `2^62` bytes (all `uint64 → int` conversions are exact).
-/
namespace Ice.Props.ChunkBytes
open Ice Ice.Model Ice.Model.ChunkBytes

/-- (T1) the byte count the writer puts in front of the locations of a posting is the length of
    their encoding. -/
theorem T1_numBytesLocs (e : Entry) : numBytesLocs e = (e.locs.flatMap encLoc).length :=
  numBytesLocs_eq e

/-- (T2) `readFreqNormHasLocs` placed at the start of entry `e` inside the freq/norm bytes of a
    chunk returns its freq, norm and has-locations flag and stops at the start of the next entry. -/
theorem T2_read (pre post : List Entry) (e : Entry) (hv : e.Valid) :
    readFreqNormHasLocs ⟨fnBytes (pre ++ e :: post), (fnBytes pre).length⟩
      = .ok ((e.freq, e.norm, !e.locs.isEmpty),
             ⟨fnBytes (pre ++ e :: post), (fnBytes (pre ++ [e])).length⟩) := by
  rw [readFreqNormHasLocs_drop hv (fnBytes_drop pre e post), fnBytes_snoc_length]

/-- (T2) `skipFreqNormReadHasLocs` from the same cursor: same flag, same new cursor. -/
theorem T2_skip (pre post : List Entry) (e : Entry) (hv : e.Valid) :
    skipFreqNormReadHasLocs ⟨fnBytes (pre ++ e :: post), (fnBytes pre).length⟩
      = .ok (!e.locs.isEmpty, ⟨fnBytes (pre ++ e :: post), (fnBytes (pre ++ [e])).length⟩) := by
  rw [skipFreqNormReadHasLocs_drop hv (fnBytes_drop pre e post), fnBytes_snoc_length]

/-- (T3) the location loop placed at the start of the locations of `e` inside the location bytes
    of a chunk returns exactly `e.locs` and stops at the start of the next entry's locations. -/
theorem T3_read (pre post : List Entry) (e : Entry) (hv : e.Valid) (hne : e.locs ≠ []) :
    readLocs ⟨locBytes (pre ++ e :: post), (locBytes pre).length⟩
      = .ok (e.locs, ⟨locBytes (pre ++ e :: post), (locBytes (pre ++ [e])).length⟩) := by
  rw [readLocs, readLocsWith_drop none hv hne (locBytes_drop pre e post), locBytes_snoc_length]
  rfl

/-- (T3) the same for the loop as coded, which stores into `nextLocs[0:freq]`: it needs the
    contract `#locations ≤ freq`. -/
theorem T3_read_freq (pre post : List Entry) (e : Entry) (hv : e.Valid) (hne : e.locs ≠ [])
    (hfreq : e.locs.length ≤ e.freq) :
    readLocsFreq e.freq ⟨locBytes (pre ++ e :: post), (locBytes pre).length⟩
      = .ok (e.locs, ⟨locBytes (pre ++ e :: post), (locBytes (pre ++ [e])).length⟩) := by
  rw [readLocsFreq, readLocsWith_drop (some e.freq) hv hne (locBytes_drop pre e post),
    locBytes_snoc_length]
  exact if_pos (decide_eq_true hfreq)

/-- … and the contract is necessary: with more locations than `freq` the reader panics
    (`nextLocs[freq]`, posting.go:518) on bytes the writer produces without complaint. -/
theorem T3_freq_contract (pre post : List Entry) (e : Entry) (hv : e.Valid)
    (hfreq : e.freq < e.locs.length) :
    readLocsFreq e.freq ⟨locBytes (pre ++ e :: post), (locBytes pre).length⟩ = .panic := by
  rw [readLocsFreq, readLocsWith_drop (some e.freq) hv
    (List.ne_nil_of_length_pos (Nat.zero_lt_of_lt hfreq)) (locBytes_drop pre e post)]
  exact if_neg fun h => Nat.not_le.mpr hfreq (of_decide_eq_true h)

/-- (T3) `currChunkNext`'s skip from the same cursor ends at the same cursor. -/
theorem T3_skip (pre post : List Entry) (e : Entry) (hv : e.Valid) (hne : e.locs ≠ []) :
    skipLocs ⟨locBytes (pre ++ e :: post), (locBytes pre).length⟩
      = .ok ⟨locBytes (pre ++ e :: post), (locBytes (pre ++ [e])).length⟩ := by
  rw [skipLocs_drop hv hne (locBytes_drop pre e post), locBytes_snoc_length]

/-- (T4) decoding the two streams of a chunk entry by entry yields the entries. -/
theorem T4_decodeAll (es : List Entry) (hv : ∀ e ∈ es, e.Valid) (fuel : Nat)
    (hfuel : es.length < fuel) :
    decodeAll fuel ⟨fnBytes es, 0⟩ ⟨locBytes es, 0⟩
      = .ok (es.map fun e => (e.freq, e.norm, e.locs)) :=
  decodeAll_drop es fuel 0 0 hv rfl (List.append_nil _).symm hfuel

/-- The fuel of the location loop is never used up, whatever the bytes are: more fuel than
    `readLocsWith` passes gives the same result. -/
theorem readLocs_fuel_adequate (cap : Option Nat) (r r' : Rd) (v : Nat)
    (h : r.readUvarint = .ok (v, r')) (k : Nat) :
    readLocsLoop (v + 1 + k) cap r'.len v 0 r' [] = readLocsLoop (v + 1) cap r'.len v 0 r' [] := by
  obtain ⟨hS, -, hle⟩ := Rd.readUvarint_consumed h
  exact readLocsLoop_fuel cap _ v _ _ v 0 r' [] (Nat.le_refl _) (by rw [hS]; exact hle)
    (Nat.le_add_left _ _) (Nat.lt_of_lt_of_le (Nat.lt_succ_self v) (Nat.le_add_right _ _))
    (Nat.lt_succ_self v)

/-! a concrete chunk: multi-byte varints, a posting without locations in the middle -/

def exEntries : List Entry :=
  [ { doc := 0, freq := 3, norm := 1065353216, locs := [⟨1, 2, 3, 400⟩, ⟨0, 70000, 5, 6⟩] },
    { doc := 1, freq := 1, norm := 7, locs := [] },
    { doc := 2, freq := 2, norm := 2 ^ 40, locs := [⟨5, 6, 7, 2 ^ 63⟩] } ]

example : ∀ e ∈ exEntries, e.Valid := by decide +kernel

example : decodeAll 4 ⟨fnBytes exEntries, 0⟩ ⟨locBytes exEntries, 0⟩
    = .ok [(3, 1065353216, [⟨1, 2, 3, 400⟩, ⟨0, 70000, 5, 6⟩]), (1, 7, []), (2, 2 ^ 40, [⟨5, 6, 7, 2 ^ 63⟩])] :=
  T4_decodeAll exEntries (by decide +kernel) 4 (by decide)

#guard fnBytes exEntries = [7, 128, 128, 128, 252, 3, 2, 7, 5, 128, 128, 128, 128, 128, 32]
#guard decodeAll 4 ⟨fnBytes exEntries, 0⟩ ⟨locBytes exEntries, 0⟩
    == .ok (exEntries.map fun e => (e.freq, e.norm, e.locs))

/-- non-decreasing chunk indices: "You MUST call Add() with increasing docNums" -/
def ChunkSorted (cs : Nat) (adds : List (Nat × List Nat)) : Prop :=
  (adds.map (fun a => a.1 / cs)).Pairwise (· ≤ ·)

instance (cs : Nat) (adds : List (Nat × List Nat)) : Decidable (ChunkSorted cs adds) := by
  unfold ChunkSorted; infer_instance

/-- (T5) From a fresh coder (`Fresh`: as `newChunkedIntCoder`, `Reset`, and `SetChunkSize` on
    either, leave it) with `total` chunk slots, a run of `Add`s with non-decreasing chunk indices
    below `total`, followed by `Close`, does not panic; afterwards `chunkLens[i]` is the length of
    the compressed bytes of chunk `i` for every `i` (0 for untouched chunks, since `Z [] = []`)
    and `final` is the concatenation of the compressed chunks in index order.  The backing array
    behind `chunkLens` stays zero (`TailZero`), which is what makes the coder reusable. -/
theorem T5_encode (K : Codec) (c : Coder) (hf : Fresh c) (cs total : Nat)
    (hcs : c.chunkSize = cs) (hpos : 0 < cs) (htot : c.lensLen = total) (ht : 0 < total)
    (adds : List (Nat × List Nat)) (hs : ChunkSorted cs adds)
    (hidx : ∀ a ∈ adds, a.1 / cs < total) :
    ∃ c', c.encode K adds = .ok c' ∧
      c'.chunkLens = (List.range total).map (fun i => (K.Z (bytesOfChunk cs adds i)).length) ∧
      c'.final = (List.range total).flatMap (fun i => K.Z (bytesOfChunk cs adds i)) ∧
      TailZero c' := by
  subst hcs htot
  obtain ⟨c', henc, hd⟩ := Inv.encode (K := K) hpos adds c _ 0 (hf.inv K ht)
    (fun a ha => ⟨Nat.zero_le _, hidx a ha⟩) hs
  simp only [List.nil_append] at hd
  exact ⟨c', henc, hd.chunkLens_eq, hd.fin, hd.tailZero⟩

/-- (T5) for `newChunkedIntCoder(chunkSize, maxDocNum)` and document numbers up to `maxDocNum`. -/
theorem T5_new (K : Codec) (cs maxDoc : Nat) (hpos : 0 < cs) (hm : maxDoc / cs + 1 < 2 ^ 63)
    (adds : List (Nat × List Nat)) (hs : ChunkSorted cs adds) (hdoc : ∀ a ∈ adds, a.1 ≤ maxDoc) :
    ∃ c c', Coder.new cs maxDoc = .ok c ∧ c.encode K adds = .ok c' ∧
      c'.chunkLens = (List.range (maxDoc / cs + 1)).map (fun i => (K.Z (bytesOfChunk cs adds i)).length) ∧
      c'.final = (List.range (maxDoc / cs + 1)).flatMap (fun i => K.Z (bytesOfChunk cs adds i)) := by
  obtain ⟨c, hnew, hf, h1, h2⟩ := Coder.new_ok (m := maxDoc) hpos hm
  obtain ⟨c', henc, hl, hfin, -⟩ := T5_encode K c hf cs (maxDoc / cs + 1) h1 hpos h2 (Nat.succ_pos _) adds hs
    (fun a ha => chunk_index_lt cs a.1 maxDoc (hdoc a ha))
  exact ⟨c, c', hnew, henc, hl, hfin⟩

/-- (T5) for a reused coder: `SetChunkSize` on a fresh coder keeps it fresh with the new number of
    chunk slots (whether the backing array is reallocated or resliced) … -/
theorem T5_setChunkSize (c : Coder) (hf : Fresh c) (cs maxDoc : Nat) (hpos : 0 < cs)
    (hm : maxDoc / cs + 1 < 2 ^ 63) :
    ∃ c', c.setChunkSize cs maxDoc = .ok c' ∧ Fresh c' ∧ c'.chunkSize = cs ∧
      c'.lensLen = maxDoc / cs + 1 :=
  Coder.setChunkSize_ok hf hpos hm

/-- … and `Reset` after a run (with or without the `Write` in between, which overwrites
    `chunkLens` by the end offsets) makes it fresh again. -/
theorem T5_reset (c : Coder) (h : TailZero c) : Fresh c.reset ∧ Fresh c.write.2.reset :=
  ⟨h.reset, h.write.reset⟩

/-- (T6) Round trip through `Write` and `newChunkedIntDecoder`/`loadChunk`: with the stream
    written at a non-zero offset of a file shorter than `2^62` bytes, the decoder loads, for every
    chunk index below `total`, exactly the uncompressed bytes of that chunk, and reports an error
    for every other index.  `file = false`: reads are slices of `data` (memory-backed).
    `file = true`: reads beyond `data` fail (file-backed); then at least 10 bytes must follow the
    stream (in a segment: the footer), and the statement includes that no read leaves the data. -/
theorem T6_roundtrip (K : Codec) (c : Coder) (hf : Fresh c) (cs total : Nat)
    (hcs : c.chunkSize = cs) (hpos : 0 < cs) (htot : c.lensLen = total) (ht : 0 < total)
    (adds : List (Nat × List Nat)) (hs : ChunkSorted cs adds)
    (hidx : ∀ a ∈ adds, a.1 / cs < total)
    (c' : Coder) (henc : c.encode K adds = .ok c')
    (file : Bool) (pre suf : Bytes) (hpre : pre ≠ [])
    (hsz : (pre ++ c'.streamBytes ++ suf).length < 2 ^ 62)
    (hsuf : file = true → 10 ≤ suf.length) :
    ∃ d, Decoder.newWith file (pre ++ c'.streamBytes ++ suf) pre.length = .ok d ∧
      (∀ i, i < total → d.loadChunk K i = .ok (bytesOfChunk cs adds i)) ∧
      (∀ i, total ≤ i → d.loadChunk K i = .err) := by
  obtain ⟨c'', henc', hl, hfin, -⟩ := T5_encode K c hf cs total hcs hpos htot ht adds hs hidx
  rw [henc] at henc'; cases henc'
  let zs : List Bytes := (List.range total).map (fun i => K.Z (bytesOfChunk cs adds i))
  have hL : c'.chunkLens = zs.map List.length := by rw [hl]; simp [zs]
  have hF : c'.final = zs.flatten := by rw [hfin]; simp [zs, List.flatMap_def]
  have hzl : zs.length = total := by simp [zs]
  have hstream : c'.streamBytes = header (zs.map List.length) ++ zs.flatten := by
    unfold Coder.streamBytes; rw [Coder.write_eq, hL, hF]
  rw [hstream] at hsz ⊢
  have hoff : ¬ pre.length = 0 := fun h => hpre (List.eq_nil_of_length_eq_zero h)
  refine ⟨_, Decoder.newWith_enc (zs.map List.length) hpre hsz
    (fun h => Nat.le_trans (hsuf h) (Nat.le_add_left _ _)), ?_, ?_⟩
  · intro i hi
    rw [Decoder.loadChunk_enc K zs hpre hsz i (hzl.symm ▸ hi)]
    have : zs[i]'(hzl.symm ▸ hi) = K.Z (bytesOfChunk cs adds i) := by simp [zs]
    rw [this, K.rt]
  · intro i hi
    have : i ≥ (endOffsets 0 (zs.map List.length)).length := by
      rw [endOffsets_length, List.length_map, hzl]; exact hi
    simp [Decoder.loadChunk, hoff, this]

/-- (T6) the `termNotEncoded` path of `writeAt`: with the writer standing at `pre.length`
    (`0 < pre.length < 2^64`), `writeAt` followed by a decoder at the offset it returns loads the
    right bytes for every chunk index below `total`, whether or not anything was written
    (nothing is written iff all chunks are empty, and then every chunk loads as empty). -/
theorem T6_writeAt (K : Codec) (c : Coder) (hf : Fresh c) (cs total : Nat)
    (hcs : c.chunkSize = cs) (hpos : 0 < cs) (htot : c.lensLen = total) (ht : 0 < total)
    (adds : List (Nat × List Nat)) (hs : ChunkSorted cs adds)
    (hidx : ∀ a ∈ adds, a.1 / cs < total)
    (c' : Coder) (henc : c.encode K adds = .ok c')
    (file : Bool) (pre suf : Bytes) (hpre : pre ≠ [])
    (hsz : (pre ++ (c'.writeAt pre.length).2.1 ++ suf).length < 2 ^ 62)
    (hsuf : file = true → 10 ≤ suf.length) :
    ∃ d, Decoder.newWith file (pre ++ (c'.writeAt pre.length).2.1 ++ suf) (c'.writeAt pre.length).1
        = .ok d ∧
      ∀ i, i < total → d.loadChunk K i = .ok (bytesOfChunk cs adds i) := by
  by_cases hfin0 : c'.final.length = 0
  · have hw : c'.writeAt pre.length = (0, [], c') := by simp [Coder.writeAt, hfin0]
    rw [hw]
    refine ⟨_, Decoder.newWith_zero file _, ?_⟩
    intro i hi
    obtain ⟨c'', henc', -, hfin, -⟩ := T5_encode K c hf cs total hcs hpos htot ht adds hs hidx
    rw [henc] at henc'; cases henc'
    have hnil : concatZ K (bytesOfChunk cs adds) total = [] := by
      unfold concatZ; rw [← hfin]; exact List.eq_nil_of_length_eq_zero hfin0
    rw [concatZ_eq_nil K hnil i hi]
    simp [Decoder.loadChunk]
  · have hw : c'.writeAt pre.length = (pre.length % two64, c'.streamBytes, c'.write.2) := by
      simp [Coder.writeAt, hfin0, Coder.streamBytes]
    rw [hw] at hsz ⊢
    have hlt : pre.length % two64 = pre.length := by
      apply Nat.mod_eq_of_lt
      simp only [List.length_append] at hsz
      exact Nat.lt_trans (Nat.lt_of_le_of_lt
        (Nat.le_trans (Nat.le_add_right _ _) (Nat.le_add_right _ _)) hsz) (by decide)
    simp only [hlt]
    obtain ⟨d, hd, hload, -⟩ := T6_roundtrip K c hf cs total hcs hpos htot ht adds hs hidx c' henc
      file pre suf hpre hsz hsuf
    exact ⟨d, hd, hload⟩

/-- the entries of chunk `c` (the same split as `Ice.Model.Iter.chunkOf`) -/
def chunkOf (cs : Nat) (es : List Entry) (c : Nat) : List Entry :=
  es.filter (fun e => e.doc / cs == c)

/-- (T7) The `Add` calls of `writeDictsTermField` / `mergeTermFreqNormLocs` put into chunk `c` of
    the freq/norm stream exactly the freq/norm bytes of the entries of chunk `c`, and into chunk
    `c` of the location stream exactly their location bytes; and they are made with
    non-decreasing chunk indices when the postings are enumerated in document order. -/
theorem T7_chunks (cs : Nat) (es : List Entry) (c : Nat) :
    bytesOfChunk cs (tfAdds es) c = fnBytes (chunkOf cs es c) ∧
    bytesOfChunk cs (locAdds es) c = locBytes (chunkOf cs es c) :=
  ⟨bytesOfChunk_tfAdds cs es c, bytesOfChunk_locAdds cs es c⟩

theorem T7_sorted (cs : Nat) (es : List Entry) (hs : es.Pairwise (fun a b => a.doc ≤ b.doc)) :
    ChunkSorted cs (tfAdds es) ∧ ChunkSorted cs (locAdds es) :=
  ⟨pairwise_tfAdds cs es hs, pairwise_locAdds cs es hs⟩

/-- (T6 + T7) The two streams of one term as `writePostings` lays them out (the freq/norm stream
    and then the location stream, each with `writeAt`, behind a non-empty prefix), encoded by fresh
    coders with `total` chunk slots: decoders opened at the two offsets `writeAt` returned load, for
    every chunk index, the freq/norm bytes and the location bytes of the entries of that chunk. -/
theorem postings_streams_load (K : Codec) (cs total : Nat) (hpos : 0 < cs) (ht : 0 < total)
    (es : List Entry) (hs : es.Pairwise (fun a b => a.doc ≤ b.doc))
    (hidx : ∀ e ∈ es, e.doc / cs < total)
    (tf lc tf' lc' : Coder) (hf1 : Fresh tf) (hc1 : tf.chunkSize = cs) (hl1 : tf.lensLen = total)
    (hf2 : Fresh lc) (hc2 : lc.chunkSize = cs) (hl2 : lc.lensLen = total)
    (htf' : tf.encode K (tfAdds es) = .ok tf') (hlc' : lc.encode K (locAdds es) = .ok lc')
    (file : Bool) (pre suf : Bytes) (hpre : pre ≠ []) :
    let w1 := tf'.writeAt pre.length
    let w2 := lc'.writeAt (pre.length + w1.2.1.length)
    let data := pre ++ w1.2.1 ++ w2.2.1 ++ suf
    data.length < 2 ^ 62 → (file = true → 10 ≤ suf.length) →
    ∃ dt dl, Decoder.newWith file data w1.1 = .ok dt ∧ Decoder.newWith file data w2.1 = .ok dl ∧
      ∀ c, c < total →
        dt.loadChunk K c = .ok (fnBytes (chunkOf cs es c)) ∧
        dl.loadChunk K c = .ok (locBytes (chunkOf cs es c)) := by
  intro w1 w2 data hsz hsuf
  have hidx1 : ∀ a ∈ tfAdds es, a.1 / cs < total := by
    intro a ha
    obtain ⟨e, he, rfl⟩ := List.mem_map.mp ha
    exact hidx e he
  have hidx2 : ∀ a ∈ locAdds es, a.1 / cs < total := by
    intro a ha
    obtain ⟨e, he, ha⟩ := List.mem_flatMap.mp ha
    rw [locAddsOf_doc e a ha]
    exact hidx e he
  obtain ⟨hs1, hs2⟩ := T7_sorted cs es hs
  have hd1 : data = pre ++ (tf'.writeAt pre.length).2.1 ++ (w2.2.1 ++ suf) := by
    simp only [data, w1, List.append_assoc]
  have hd2 : data = (pre ++ w1.2.1) ++ (lc'.writeAt (pre ++ w1.2.1).length).2.1 ++ suf := by
    simp only [data, w2, List.length_append]
  obtain ⟨dt, hdt, hlt⟩ := T6_writeAt K tf hf1 cs _ hc1 hpos hl1 ht (tfAdds es) hs1
    hidx1 tf' htf' file pre (w2.2.1 ++ suf) hpre (by rw [← hd1]; exact hsz)
    (fun h => Nat.le_trans (hsuf h) (by rw [List.length_append]; exact Nat.le_add_left _ _))
  obtain ⟨dl, hdl, hll⟩ := T6_writeAt K lc hf2 cs _ hc2 hpos hl2 ht (locAdds es) hs2
    hidx2 lc' hlc' file (pre ++ w1.2.1) suf (by simp [hpre]) (by rw [← hd2]; exact hsz) hsuf
  rw [← hd1] at hdt
  rw [← hd2] at hdl
  have hw2 : w2.1 = (lc'.writeAt (pre ++ w1.2.1).length).1 := by simp only [w2, List.length_append]
  refine ⟨dt, dl, hdt, by rw [hw2]; exact hdl, fun c hc => ?_⟩
  rw [hlt c hc, hll c hc, (T7_chunks cs es c).1, (T7_chunks cs es c).2]
  exact ⟨rfl, rfl⟩

/-- (T7) End to end for one term.  The builder encodes the postings `es` (valid, in document
    order, documents `≤ maxDoc`) with two new coders, and `writePostings` writes the freq/norm
    stream and then the location stream with `writeAt` behind a non-empty prefix.  Then decoders
    opened at the two offsets `writeAt` returned (0 for a stream that was not written) load, for
    every chunk index `c`, bytes from which entry-by-entry decoding returns exactly the entries
    of chunk `c`.  Nothing panics or errs on the way. -/
theorem T7_postings_roundtrip (K : Codec) (cs maxDoc : Nat) (hpos : 0 < cs)
    (hm : maxDoc / cs + 1 < 2 ^ 63)
    (es : List Entry) (hv : ∀ e ∈ es, e.Valid) (hs : es.Pairwise (fun a b => a.doc ≤ b.doc))
    (hdoc : ∀ e ∈ es, e.doc ≤ maxDoc)
    (tf lc tf' lc' : Coder)
    (htf : Coder.new cs maxDoc = .ok tf) (hlc : Coder.new cs maxDoc = .ok lc)
    (htf' : tf.encode K (tfAdds es) = .ok tf') (hlc' : lc.encode K (locAdds es) = .ok lc')
    (file : Bool) (pre suf : Bytes) (hpre : pre ≠ []) :
    let w1 := tf'.writeAt pre.length
    let w2 := lc'.writeAt (pre.length + w1.2.1.length)
    let data := pre ++ w1.2.1 ++ w2.2.1 ++ suf
    data.length < 2 ^ 62 → (file = true → 10 ≤ suf.length) →
    ∃ dt dl, Decoder.newWith file data w1.1 = .ok dt ∧ Decoder.newWith file data w2.1 = .ok dl ∧
      ∀ c, c < maxDoc / cs + 1 →
        ∃ fb lb, dt.loadChunk K c = .ok fb ∧ dl.loadChunk K c = .ok lb ∧
          decodeAll ((chunkOf cs es c).length + 1) ⟨fb, 0⟩ ⟨lb, 0⟩
            = .ok ((chunkOf cs es c).map fun e => (e.freq, e.norm, e.locs)) := by
  intro w1 w2 data hsz hsuf
  obtain ⟨hf1, hc1, hl1⟩ := Coder.new_fresh hpos hm htf
  obtain ⟨hf2, hc2, hl2⟩ := Coder.new_fresh hpos hm hlc
  obtain ⟨dt, dl, hdt, hdl, hload⟩ := postings_streams_load K cs _ hpos (Nat.succ_pos _) es hs
    (fun e he => chunk_index_lt cs e.doc maxDoc (hdoc e he)) tf lc tf' lc' hf1 hc1 hl1 hf2 hc2 hl2
    htf' hlc' file pre suf hpre hsz hsuf
  exact ⟨dt, dl, hdt, hdl, fun c hc => ⟨_, _, (hload c hc).1, (hload c hc).2,
    T4_decodeAll _ (fun e he => hv e (List.mem_filter.mp he).1) _ (Nat.lt_succ_self _)⟩⟩

/-! a concrete run: chunk size 2, documents 0..9 (5 chunks), chunks 1 and 3 untouched -/

def exAdds : List (Nat × List Nat) := [(0, [1, 2]), (1, [300]), (5, [4]), (5, [70000, 1]), (9, [8])]

example : ChunkSorted 2 exAdds := by decide +kernel
example : ∀ a ∈ exAdds, a.1 ≤ 9 := by decide +kernel

example : ∀ a ∈ exAdds, a.1 / 2 < 5 := by decide +kernel

/-- a toy codec satisfying the two laws (not the identity, so lengths differ from the input) -/
def exCodec : Codec where
  Z b := if b.isEmpty then [] else 7 :: 9 :: b
  unZ b := match b with | [] => some [] | _ :: t => some (t.drop 1)
  rt b := by cases b <;> simp
  z_nil := by simp

/-- T5 instantiated on the run above; the `#guard` after it runs the decoder of T6 on the
    result -/
example : ∃ c c', Coder.new 2 9 = .ok c ∧ c.encode exCodec exAdds = .ok c' ∧
    c'.chunkLens = (List.range 5).map (fun i => (exCodec.Z (bytesOfChunk 2 exAdds i)).length) ∧
    c'.final = (List.range 5).flatMap (fun i => exCodec.Z (bytesOfChunk 2 exAdds i)) :=
  T5_new exCodec 2 9 (by decide) (by decide) exAdds (by decide +kernel) (by decide +kernel)

#guard (match Coder.new 2 9 with
        | .ok c => (match c.encode exCodec exAdds with
                    | .ok c' => c'.chunkLens == [6, 0, 7, 0, 3] &&
                        (match Decoder.newWith true ([1, 2, 3] ++ c'.streamBytes ++ List.replicate 10 0) 3 with
                         | .ok d => (List.range 6).map (d.loadChunk exCodec)
                                      == [.ok [1, 2, 172, 2], .ok [], .ok [4, 240, 162, 4, 1], .ok [], .ok [8], .err]
                         | _ => false)
                    | _ => false)
        | _ => false)

end Ice.Props.ChunkBytes

/-! axiom audit (expected: a subset of propext, Classical.choice, Quot.sound) -/
section Audit
open Ice.Props.ChunkBytes
#print axioms T1_numBytesLocs
#print axioms T2_read
#print axioms T2_skip
#print axioms T3_read
#print axioms T3_read_freq
#print axioms T3_freq_contract
#print axioms T3_skip
#print axioms T4_decodeAll
#print axioms readLocs_fuel_adequate
#print axioms T5_encode
#print axioms T5_new
#print axioms T5_setChunkSize
#print axioms T5_reset
#print axioms T6_roundtrip
#print axioms T6_writeAt
#print axioms T7_chunks
#print axioms T7_sorted
#print axioms T7_postings_roundtrip
end Audit
