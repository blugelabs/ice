import IceModel.Gen.ErrFlow
import IceModel.Props.ErrFlow
/-
  Error flow of the write / merge path (property C12): facts about the functions of THIS AREA only.

  The generated table `Gen.ErrFlow.flows` is restricted to the names in `writeFns`; every theorem below
  speaks about `writeFlows = restrict flows writeFns` (or the pinned lists computed from it) and is
  therefore insensitive to a change of the error flow of a function outside the area.  A function of
  the area that disappears from the table makes `write_fns_present` fail.
  The semantics (`Sound`, `checked_sound`, …) is in `Props/ErrFlow.lean`.

  Also in the area, because they are on the path: `merge` (called by
  `Merger.WriteTo`), `writeMergedDict` (writes the merged dictionary), `encodeStoredFieldValues`.
-/
namespace Ice.Props.ErrFlowWrite
open Ice Ice.Gen Ice.Bridge.ErrFlow Ice.ErrFlow Ice.Props.ErrFlow

/-- the functions of the area -/
def writeFns : List String :=
  ["Segment.WriteTo", "Merger.WriteTo", "merge", "mergeSegmentBasesWriter", "mergeToWriter",
   "persistMergedRest", "persistMergedRestField", "persistFooter", "persistFields",
   "writePostings", "writeRoaringWithLen", "writeUvarints", "writeDvLocs", "writeMergedDict",
   "mergeStoredAndRemap", "mergeStoredAndRemapSegment", "Segment.copyStoredDocs",
   "buildMergedDocVals", "finishTerm", "prepareNewTerm", "setupActiveForField",
   "mergeTermFreqNormLocs", "interim.convert", "interim.writeStoredFields", "interim.writeDicts",
   "interim.writeDictsField", "interim.writeDictsTermField", "encodeStoredFieldValues",
   "newWithChunkMode", "chunkedIntCoder.Add", "chunkedIntCoder.Close", "chunkedIntCoder.Write",
   "chunkedIntCoder.writeAt", "chunkedContentCoder.Add", "chunkedContentCoder.Close",
   "chunkedContentCoder.Write", "chunkedContentCoder.flushContents", "chunkedDocumentCoder.Add",
   "chunkedDocumentCoder.Write", "chunkedDocumentCoder.flush", "chunkedDocumentCoder.newLine",
   "chunkedDocumentCoder.writeToBuf", "countHashWriter.Write"]

/-- their flows -/
def writeFlows : Flows := restrict ErrFlow.flows writeFns

/-- the structured program of a function of the area (`[]` for any other name) -/
def progOf (name : String) : Prog := progIn writeFlows name

/-- the functions of the area without / with an unchecked call -/
def writeCovered : List String := coveredIn ErrFlow.flows writeFns
def writeNotCovered : List String := notCoveredIn ErrFlow.flows writeFns

/-- the area's table, evaluated once for presence, well-formedness, its two lists of exceptions
    (`write_unchecked_pinned`, `write_dropped_pinned`) and its covered functions (`write_covered_eq`) -/
theorem write_ok : AreaOK ErrFlow.flows writeFns
    (unch := [("mergeTermFreqNormLocs", "Next"), ("mergeTermFreqNormLocs", "Next"),
     ("newWithChunkMode", "initSegmentBase"), ("persistMergedRestField", "newEnumerator"),
     ("persistMergedRestField", "Next"), ("setupActiveForField", "Iterator")])
    (drop := [("chunkedIntCoder.Add", "Close"), ("finishTerm", "Close"), ("finishTerm", "Close"),
     ("interim.writeDictsTermField", "Close"), ("interim.writeDictsTermField", "Close"),
     ("newWithChunkMode", "reset")])
    (cov := ["Merger.WriteTo", "Segment.WriteTo", "Segment.copyStoredDocs", "buildMergedDocVals",
     "chunkedContentCoder.Add", "chunkedContentCoder.Close", "chunkedContentCoder.Write",
     "chunkedContentCoder.flushContents", "chunkedDocumentCoder.Add", "chunkedDocumentCoder.Write",
     "chunkedDocumentCoder.flush", "chunkedDocumentCoder.newLine",
     "chunkedDocumentCoder.writeToBuf", "chunkedIntCoder.Add", "chunkedIntCoder.Close",
     "chunkedIntCoder.Write", "chunkedIntCoder.writeAt", "countHashWriter.Write",
     "encodeStoredFieldValues", "finishTerm", "interim.convert", "interim.writeDicts",
     "interim.writeDictsField", "interim.writeDictsTermField", "interim.writeStoredFields",
     "merge", "mergeSegmentBasesWriter", "mergeStoredAndRemap", "mergeStoredAndRemapSegment",
     "mergeToWriter", "persistFields", "persistFooter", "persistMergedRest", "prepareNewTerm",
     "writeDvLocs", "writeMergedDict", "writePostings", "writeRoaringWithLen", "writeUvarints"]) := by
  decide +kernel

/-- every function of the area is in the generated table … -/
theorem write_fns_present : ∀ n ∈ writeFns, n ∈ ErrFlow.flows.map (·.1) := write_ok.present

/-- … exactly once -/
theorem write_names_nodup : (writeFlows.map (·.1)).Nodup ∧ writeFlows.length = writeFns.length :=
  ⟨write_ok.wf.1, write_ok.length⟩

/-- for a function of the area, the area's table and the whole table give the same program -/
theorem write_progOf_whole : ∀ n ∈ writeFns, progOf n = progIn ErrFlow.flows n :=
  fun _ hn => progIn_restrict _ _ hn

/-- every flow of the area parses (balanced braces, known events only) -/
theorem write_parse_ok : ∀ f ∈ writeFlows, (parse f.2).isSome := fun f hf => (write_ok.wf.2 f hf).1

/-- `progOf` is the structure of the generated flat list -/
theorem write_progOf_flat : ∀ f ∈ writeFlows, flat (progOf f.1) = f.2 :=
  fun _ => write_ok.wf.flat_progIn

/-- the call inside a wrapping check `{:err F w R err }` is always `fmt.Errorf` -/
theorem write_wrappers : ∀ f ∈ writeFlows, ∀ w ∈ wrappers (progOf f.1), w = "Errorf" :=
  fun _ => write_ok.wf.wrappers_progIn

/-- PINNED: the calls of the area whose error is not checked at once (function, callee) -
    each reviewed by hand (comments at the end of this file): examined by a loop condition, together
    with another condition, or returned at the end -/
theorem write_unchecked_pinned : uncheckedIn ErrFlow.flows writeFns =
    [("mergeTermFreqNormLocs", "Next"), ("mergeTermFreqNormLocs", "Next"),
     ("newWithChunkMode", "initSegmentBase"), ("persistMergedRestField", "newEnumerator"),
     ("persistMergedRestField", "Next"), ("setupActiveForField", "Iterator")] :=
  write_ok.unchecked_eq

/-- PINNED: the discarded error results of the area (function, callee) - none
    comes from the destination writer: closing a chunk coder compresses into memory; `reset` of the
    pooled builder only decides whether the builder goes back to the pool -/
theorem write_dropped_pinned : droppedIn ErrFlow.flows writeFns =
    [("chunkedIntCoder.Add", "Close"), ("finishTerm", "Close"), ("finishTerm", "Close"),
     ("interim.writeDictsTermField", "Close"), ("interim.writeDictsTermField", "Close"),
     ("newWithChunkMode", "reset")] :=
  write_ok.dropped_eq

/-- the functions of the area without an unchecked call … -/
theorem write_covered_eq : writeCovered =
    ["Merger.WriteTo", "Segment.WriteTo", "Segment.copyStoredDocs", "buildMergedDocVals",
     "chunkedContentCoder.Add", "chunkedContentCoder.Close", "chunkedContentCoder.Write",
     "chunkedContentCoder.flushContents", "chunkedDocumentCoder.Add", "chunkedDocumentCoder.Write",
     "chunkedDocumentCoder.flush", "chunkedDocumentCoder.newLine",
     "chunkedDocumentCoder.writeToBuf", "chunkedIntCoder.Add", "chunkedIntCoder.Close",
     "chunkedIntCoder.Write", "chunkedIntCoder.writeAt", "countHashWriter.Write",
     "encodeStoredFieldValues", "finishTerm", "interim.convert", "interim.writeDicts",
     "interim.writeDictsField", "interim.writeDictsTermField", "interim.writeStoredFields",
     "merge", "mergeSegmentBasesWriter", "mergeStoredAndRemap", "mergeStoredAndRemapSegment",
     "mergeToWriter", "persistFields", "persistFooter", "persistMergedRest", "prepareNewTerm",
     "writeDvLocs", "writeMergedDict", "writePostings", "writeRoaringWithLen", "writeUvarints"] :=
  write_ok.covered_eq

theorem write_notCovered_eq_pinned :
    writeNotCovered = ((uncheckedIn ErrFlow.flows writeFns).map (·.1)).eraseDups :=
  notCoveredOf_eq_eraseDups write_ok.wf.1

/-- … and with one: exactly the functions named in `write_unchecked_pinned` -/
theorem write_notCovered_eq : writeNotCovered =
    ["mergeTermFreqNormLocs", "newWithChunkMode", "persistMergedRestField", "setupActiveForField"] := by
  rw [write_notCovered_eq_pinned, write_unchecked_pinned]; decide

/-- every covered function is disciplined: all calls checked at once, wrappers are `Errorf` -/
theorem write_disc : ∀ n ∈ writeCovered, Disc (progOf n) := write_ok.wf.disc_covered

/-- SOUNDNESS for the area: in every covered function a failing call is the last thing done (but for
    wrapping the error) and makes the function return a non-nil error; a nil result means that no
    bound call failed (modulo the discarded results of `write_dropped_pinned`) -/
theorem write_sound : ∀ n ∈ writeCovered, Sound (progOf n) :=
  sound_of_disc_all write_disc

/-! ### function by function -/

theorem sound_Merger_WriteTo : Sound (progOf "Merger.WriteTo") :=
  write_sound _ (by rw [write_covered_eq]; repeat constructor)
theorem sound_Segment_WriteTo : Sound (progOf "Segment.WriteTo") :=
  write_sound _ (by rw [write_covered_eq]; repeat constructor)
theorem sound_Segment_copyStoredDocs : Sound (progOf "Segment.copyStoredDocs") :=
  write_sound _ (by rw [write_covered_eq]; repeat constructor)
theorem sound_buildMergedDocVals : Sound (progOf "buildMergedDocVals") :=
  write_sound _ (by rw [write_covered_eq]; repeat constructor)
theorem sound_chunkedContentCoder_Add : Sound (progOf "chunkedContentCoder.Add") :=
  write_sound _ (by rw [write_covered_eq]; repeat constructor)
theorem sound_chunkedContentCoder_Close : Sound (progOf "chunkedContentCoder.Close") :=
  write_sound _ (by rw [write_covered_eq]; repeat constructor)
theorem sound_chunkedContentCoder_Write : Sound (progOf "chunkedContentCoder.Write") :=
  write_sound _ (by rw [write_covered_eq]; repeat constructor)
theorem sound_chunkedContentCoder_flushContents : Sound (progOf "chunkedContentCoder.flushContents") :=
  write_sound _ (by rw [write_covered_eq]; repeat constructor)
theorem sound_chunkedDocumentCoder_Add : Sound (progOf "chunkedDocumentCoder.Add") :=
  write_sound _ (by rw [write_covered_eq]; repeat constructor)
theorem sound_chunkedDocumentCoder_Write : Sound (progOf "chunkedDocumentCoder.Write") :=
  write_sound _ (by rw [write_covered_eq]; repeat constructor)
theorem sound_chunkedDocumentCoder_flush : Sound (progOf "chunkedDocumentCoder.flush") :=
  write_sound _ (by rw [write_covered_eq]; repeat constructor)
theorem sound_chunkedDocumentCoder_newLine : Sound (progOf "chunkedDocumentCoder.newLine") :=
  write_sound _ (by rw [write_covered_eq]; repeat constructor)
theorem sound_chunkedDocumentCoder_writeToBuf : Sound (progOf "chunkedDocumentCoder.writeToBuf") :=
  write_sound _ (by rw [write_covered_eq]; repeat constructor)
theorem sound_chunkedIntCoder_Add : Sound (progOf "chunkedIntCoder.Add") :=
  write_sound _ (by rw [write_covered_eq]; repeat constructor)
theorem sound_chunkedIntCoder_Close : Sound (progOf "chunkedIntCoder.Close") :=
  write_sound _ (by rw [write_covered_eq]; repeat constructor)
theorem sound_chunkedIntCoder_Write : Sound (progOf "chunkedIntCoder.Write") :=
  write_sound _ (by rw [write_covered_eq]; repeat constructor)
theorem sound_chunkedIntCoder_writeAt : Sound (progOf "chunkedIntCoder.writeAt") :=
  write_sound _ (by rw [write_covered_eq]; repeat constructor)
theorem sound_countHashWriter_Write : Sound (progOf "countHashWriter.Write") :=
  write_sound _ (by rw [write_covered_eq]; repeat constructor)
theorem sound_encodeStoredFieldValues : Sound (progOf "encodeStoredFieldValues") :=
  write_sound _ (by rw [write_covered_eq]; repeat constructor)
theorem sound_finishTerm : Sound (progOf "finishTerm") :=
  write_sound _ (by rw [write_covered_eq]; repeat constructor)
theorem sound_interim_convert : Sound (progOf "interim.convert") :=
  write_sound _ (by rw [write_covered_eq]; repeat constructor)
theorem sound_interim_writeDicts : Sound (progOf "interim.writeDicts") :=
  write_sound _ (by rw [write_covered_eq]; repeat constructor)
theorem sound_interim_writeDictsField : Sound (progOf "interim.writeDictsField") :=
  write_sound _ (by rw [write_covered_eq]; repeat constructor)
theorem sound_interim_writeDictsTermField : Sound (progOf "interim.writeDictsTermField") :=
  write_sound _ (by rw [write_covered_eq]; repeat constructor)
theorem sound_interim_writeStoredFields : Sound (progOf "interim.writeStoredFields") :=
  write_sound _ (by rw [write_covered_eq]; repeat constructor)
theorem sound_merge : Sound (progOf "merge") :=
  write_sound _ (by rw [write_covered_eq]; repeat constructor)
theorem sound_mergeSegmentBasesWriter : Sound (progOf "mergeSegmentBasesWriter") :=
  write_sound _ (by rw [write_covered_eq]; repeat constructor)
theorem sound_mergeStoredAndRemap : Sound (progOf "mergeStoredAndRemap") :=
  write_sound _ (by rw [write_covered_eq]; repeat constructor)
theorem sound_mergeStoredAndRemapSegment : Sound (progOf "mergeStoredAndRemapSegment") :=
  write_sound _ (by rw [write_covered_eq]; repeat constructor)
theorem sound_mergeToWriter : Sound (progOf "mergeToWriter") :=
  write_sound _ (by rw [write_covered_eq]; repeat constructor)
theorem sound_persistFields : Sound (progOf "persistFields") :=
  write_sound _ (by rw [write_covered_eq]; repeat constructor)
theorem sound_persistFooter : Sound (progOf "persistFooter") :=
  write_sound _ (by rw [write_covered_eq]; repeat constructor)
theorem sound_persistMergedRest : Sound (progOf "persistMergedRest") :=
  write_sound _ (by rw [write_covered_eq]; repeat constructor)
theorem sound_prepareNewTerm : Sound (progOf "prepareNewTerm") :=
  write_sound _ (by rw [write_covered_eq]; repeat constructor)
theorem sound_writeDvLocs : Sound (progOf "writeDvLocs") :=
  write_sound _ (by rw [write_covered_eq]; repeat constructor)
theorem sound_writeMergedDict : Sound (progOf "writeMergedDict") :=
  write_sound _ (by rw [write_covered_eq]; repeat constructor)
theorem sound_writePostings : Sound (progOf "writePostings") :=
  write_sound _ (by rw [write_covered_eq]; repeat constructor)
theorem sound_writeRoaringWithLen : Sound (progOf "writeRoaringWithLen") :=
  write_sound _ (by rw [write_covered_eq]; repeat constructor)
theorem sound_writeUvarints : Sound (progOf "writeUvarints") :=
  write_sound _ (by rw [write_covered_eq]; repeat constructor)

/-! ### discarded results: what can go unnoticed -/

/-- `chunkedIntCoder.Add` discards the error of `Close`; it can fail and `Add` return nil
    (`Props.ErrFlow.checked_sound_modulo_dropped`: the only kind of failure that can go unnoticed) -/
theorem chunkedIntCoder_Add_dropped_run :
    Run (progOf "chunkedIntCoder.Add") [⟨true, "Close", true⟩, ⟨false, "Write", false⟩]
      (.returned false) := by
  -- looked up in the whole table: evaluating `restrict` once more would cost far more than the run
  rw [write_progOf_whole _ (by repeat constructor)]
  exact run_Run (fuel := 10) (orc := [1, 1, 0, 1]) (orc' := []) (o := .ret false) (by decide +kernel)

/-! ### the exceptions of the area: how each unchecked error IS examined in the source

  For the 4 functions of `writeNotCovered` the discipline is genuinely violated, so `checked_sound`
  says nothing; each error is examined in another way (source read at HEAD of /repo).  None loses an
  error other than a sentinel it means to swallow.

  * `mergeTermFreqNormLocs` / `Next` (twice; merge.go): `next, err := postItr.Next();
    for next != nil && err == nil { …; next, err = postItr.Next() }; return …, err`.  Examined by the
    LOOP CONDITION and returned at the end; nothing runs in between.  HARMLESS.  The model, which does
    not know conditions, has an execution that enters the loop after the failure and overwrites the
    error (`mergeTermFreqNormLocs_model_run`); Go excludes it by `err == nil`: a FALSE report.
  * `persistMergedRestField` / `newEnumerator`, `Next` (merge.go): `enumerator, err := newEnumerator(itrs);
    for err == nil { …; err = enumerator.Next() }; if err != vellum.ErrIteratorDone { return err }`.
    Loop condition, then compared with the sentinel: every error but `ErrIteratorDone` (the regular
    end of the enumeration) is returned.  HARMLESS.  All other calls of the function are checked at once.
  * `setupActiveForField` / `Iterator` (merge.go): `itr, err = dict.fst.Iterator(nil, nil);
    if err != nil && err != vellum.ErrIteratorDone { return …, err }` - a COMBINED CONDITION (the
    translator marks `{:err` only for the bare `x != nil`); `ErrIteratorDone` of an empty FST is
    tolerated, the `itr != nil` test follows.  HARMLESS.
  * `newWithChunkMode` / `initSegmentBase` (new.go): `sb, err := initSegmentBase(…);
    if err == nil && s.reset() == nil { … interimPool.Put(s) }; return sb, size, err` - RETURNED AT THE
    END; the `s.reset()` in the condition is the discarded result of `write_dropped_pinned`.  HARMLESS.
-/

/-- `mergeTermFreqNormLocs`: the model cannot see the loop condition `err == nil`, so it has an
    execution that Go does not have: `Next` fails, the loop is entered all the same, `Add` succeeds
    and overwrites the error, nil is returned.  (Why the function needs a hand review.) -/
theorem mergeTermFreqNormLocs_model_run :
    Run (progOf "mergeTermFreqNormLocs")
      [⟨false, "Next", true⟩, ⟨false, "Add", false⟩, ⟨false, "Next", false⟩]
      (.returned false) := by
  rw [write_progOf_whole _ (by repeat constructor)]
  exact run_Run (fuel := 20) (orc := [1, 1]) (orc' := []) (o := .ret false) (by decide +kernel)

end Ice.Props.ErrFlowWrite
