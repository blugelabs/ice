import IceModel.Lemmas.Builder.Spec
/-
  Property C01: the segment `New` builds returns exactly the postings its documents imply.

  Proved here for the BUILDER ALGORITHM of new.go (`IceModel/Model/Builder.lean`: the field table,
  the two passes over the documents with the shared backing arrays, the stored-field loop, the
  dictionary writer) against the abstract specification `Spec.build` (`IceModel/Spec/Seg.lean`), on
  the level of entries (the byte encodings of the entries are C05-C08, C11, C12).

  `run nc π b` is `convert` on the batch `b` with norm function `nc`; `π` supplies, for every
  (document, field), the order in which Go's `for term, tf := range tfs` (new.go:521) visits the
  rolled-up terms - an ARBITRARY permutation (`PermOK π`).  Inside the input contract `ValidBatch b`
    * `run` does not fail: no index or slice expression of new.go panics, no window is reallocated,
      vellum receives its keys strictly ascending (`C01_run_ok`),
    * its result does not depend on `π` (`C01_order_independent`) and is `builtOf nc b`,
    * every observation coincides with `Spec.build nc mode b`: the field list (`C01_fields`), the
      dictionary keys (`C01_terms`), the postings of every (field, term) with frequencies, norms and
      locations (`C01_postings`), stored values (`C01_stored`), doc values (`C01_dv`), the per-field
      statistics (`C01_stats`).
  THE WINDOW LEMMA - pass 2 appends into zero-length windows `backing[0:0]` of one shared array and
  stays inside what pass 1 reserved - has two halves: `C01_window_append` (an append strictly inside
  the reservation is an append to that postings list alone) and `C01_window_fits` (pass 2 never
  appends more than pass 1 counted, for every map order).  `window_overflow_corrupts` shows that the
  model really has no other protection: a window that outgrows its reservation overwrites its
  neighbour.

  The contract (`ValidBatch`, decidable): every location names its own field (empty name) or a field
  that occurs in the batch (otherwise `getOrDefineField` inside pass 2 defines a field behind the
  sorted table and `IncludeDocValues[fieldID]` panics, new.go:745); fewer than 65535 distinct field
  names (field ids are uint16).  Not needed: frequency ≥ number of locations.
-/
namespace Ice.Props.C01
open Ice Ice.Spec Ice.Model.Builder

/-- inside the contract the builder does not fail, whatever the map order -/
theorem C01_run_ok (nc : Bytes → Nat → Nat) (π : Order) (b : Batch) (hv : ValidBatch b) (hπ : PermOK π) :
    ∃ r, run nc π b = .ok r := ⟨_, run_eq nc π b hv hπ⟩

/-- map order independence: every permutation supplier gives the result of the identity order -/
theorem C01_order_independent (nc : Bytes → Nat → Nat) (π : Order) (b : Batch) (hv : ValidBatch b)
    (hπ : PermOK π) : run nc π b = run nc idOrder b := by
  rw [run_eq nc π b hv hπ, run_eq nc idOrder b hv (fun _ _ m => List.Perm.refl m)]

section
variable {nc : Bytes → Nat → Nat} {π : Order} {b : Batch} {r : Built}
  (hv : ValidBatch b) (hπ : PermOK π) (h : run nc π b = .ok r) (mode : Nat)
include hv hπ h

theorem built_eq : r = builtOf nc b := by
  rw [run_eq nc π b hv hπ] at h; injection h with h; exact h.symm

/-- the result is the specification's segment, laid out by field number -/
theorem built_ofSpec : r = Built.ofSpec (dvFlagOf b) (build nc mode b) := by
  rw [built_eq hv hπ h]; exact builtOf_eq nc mode b (FL_length_le hv.2)

/-- the field list: `_id` first, the other names ascending -/
theorem C01_fields : r.fields = (build nc mode b).fields := by
  rw [built_eq hv hπ h]; rfl

/-- the dictionary keys of a field, in vellum insertion order, are the field's terms -/
theorem C01_terms (f : Bytes) : r.terms f = terms (build nc mode b) f := by
  rw [built_ofSpec hv hπ h mode]; exact ofSpec_terms (build_closed nc mode b) f

/-- … hence strictly ascending and duplicate-free, as vellum's Insert demands -/
theorem C01_terms_asc (f : Bytes) : Asc (r.terms f) := by
  rw [C01_terms hv hπ h 0 f]; exact asc_terms _ _

/-- the postings of every (field, term): documents ascending, summed frequency, norm of the summed
    length, locations in input order with their field names -/
theorem C01_postings (f t : Bytes) : r.postings f t = postings (build nc mode b) f t := by
  rw [built_ofSpec hv hπ h mode]; exact ofSpec_postings (build_closed nc mode b) f t

theorem C01_stored (n : Nat) : r.storedOf n = stored (build nc mode b) n := by
  rw [built_ofSpec hv hπ h mode]; exact ofSpec_storedOf _ _ n

theorem C01_dv (n : Nat) (f : Bytes) : r.dvOf n f = dvOf (build nc mode b) n f := by
  rw [built_ofSpec hv hπ h mode]; exact ofSpec_dvOf (build_closed nc mode b) n f

theorem C01_stats : r.fieldDocs = (build nc mode b).fieldDocs ∧
    r.fieldFreqs = (build nc mode b).fieldFreqs := by
  rw [built_ofSpec hv hπ h mode]; exact ⟨rfl, rfl⟩

/-- (TotalDocumentCount, DocumentCount, SumTotalTermFrequency) of every field -/
theorem C01_stats_obs (f : Bytes) : r.stats b.length f = stats (build nc mode b) f := by
  rw [built_ofSpec hv hπ h mode, ← List.length_map (rollDoc nc (dvFlagOf b))]
  exact ofSpec_stats _ _ f

end

/-- an append into a window that is still strictly inside its reservation is an append to the list
    that window represents; every other window keeps its contents -/
theorem C01_window_append {α : Type} {res : List Nat} {W : List (Slice α)} {B : List α}
    {A : List (List α)} (h : Refines res W B A) {p : Nat} (hp : p < res.length)
    (hlt : (lget A p).length < nget res p) (x : α) :
    ∃ w, W[p]? = some w ∧
      Refines res (W.set p (w.append B x).1) (w.append B x).2 (A.set p (lget A p ++ [x])) :=
  h.append hp hlt x

/-- pass 2 emits, into every postings list, at most as many freq/norm entries and locations as
    pass 1 counted (`numTermsPerPostingsList`, `numLocsPerPostingsList`) - for every map order -/
theorem C01_window_fits {F : List Bytes} {b : Batch} {D : List (AMap Bytes Nat)} {K : List (List Bytes)}
    {nT nL : List Nat} {n : Nat} (nc : Bytes → Nat → Nat) (π : Order)
    (hD : DictInv F.length (evsI F b.flatten) D K nT nL n) (hπ : PermOK π)
    (hval : ∀ d ∈ b, ∀ f ∈ d, ∀ o ∈ f.terms, ∀ l ∈ o.locs, l.field = [] ∨ l.field ∈ F) :
    Fits n nT nL (allEmits false nc π F D b) := fits_all nc π hD hπ hval

/-- without the window lemma nothing protects the neighbour: two windows with one reserved cell
    each; a second append to the first overwrites the cell of the second -/
theorem window_overflow_corrupts :
    let B0 : List Nat := [0, 0]
    let w0 : Slice Nat := .shared 0 0 2
    let w1 : Slice Nat := .shared 1 0 1
    let (w1, B1) := w1.append B0 7
    let (w0, B2) := w0.append B1 5
    let (_, B3) := w0.append B2 6
    w1.get? B1 0 = some 7 ∧ w1.get? B3 0 = some 6 := by decide +kernel

def nA : Bytes := [97]
def nAll : Bytes := [95, 97, 108, 108]
def tx : Bytes := [120]
def ty : Bytes := [121]
def nc0 : Bytes → Nat → Nat := (NormP.mk 3 5 7).calc

/-- document 0: field `a` twice with the term `x` in both instances, a composite field `_all`
    (also twice) whose locations name the field `a`; document 1: `_id` and `a` -/
def ex : Batch :=
  [ [ { name := nA, length := 2, store := true, dv := true, value := [1],
        terms := [ { term := tx, freq := 1, locs := [ { field := [], pos := 1, start := 0, stop := 1 } ] },
                   { term := ty, freq := 1, locs := [ { field := [], pos := 2, start := 2, stop := 3 } ] } ] },
      { name := nAll, length := 1, store := false, dv := false, value := [],
        terms := [ { term := tx, freq := 1, locs := [ { field := nA, pos := 1, start := 0, stop := 1 } ] } ] },
      { name := nA, length := 1, store := true, dv := false, value := [2],
        terms := [ { term := tx, freq := 2, locs := [ { field := [], pos := 3, start := 4, stop := 5 } ] } ] },
      { name := nAll, length := 1, store := false, dv := false, value := [],
        terms := [ { term := tx, freq := 1, locs := [ { field := nA, pos := 3, start := 4, stop := 5 } ] } ] } ],
    [ { name := idField, length := 1, store := true, dv := false, value := [9],
        terms := [ { term := [49], freq := 1, locs := [] } ] },
      { name := nA, length := 1, store := false, dv := false, value := [],
        terms := [ { term := ty, freq := 1, locs := [] } ] } ] ]

def check (x : M Built) (p : Built → Bool) : Bool :=
  match x with
  | .ok r => p r
  | .error _ => false

def revOrder : Order := fun _ _ l => l.reverse

example : ValidBatch ex := by decide +kernel

/-- the model is executable: every observation of the built segment is the specification's -/
def agrees (r : Built) : Bool :=
  let s := build nc0 0 ex
  r.fields == s.fields && r.fieldDocs == s.fieldDocs && r.fieldFreqs == s.fieldFreqs &&
  s.fields.all (fun f => r.terms f == terms s f &&
    (terms s f).all (fun t => r.postings f t == postings s f t) &&
    (List.range 3).all (fun n => r.dvOf n f == dvOf s n f)) &&
  (List.range 3).all (fun n => r.storedOf n == stored s n)

example : check (run nc0 idOrder ex) agrees = true := by decide +kernel
example : check (run nc0 revOrder ex) agrees = true := by decide +kernel

/-- the repeated field: `x` occurs in both instances of `a` in document 0 - one posting, frequency
    1 + 2, norm of the summed length 3, both locations -/
example : check (run nc0 idOrder ex) (fun r => r.postings nA tx ==
    [ { doc := 0, freq := 3, norm := nc0 nA 3,
        locs := [ { field := nA, pos := 1, start := 0, stop := 1 },
                  { field := nA, pos := 3, start := 4, stop := 5 } ] } ]) = true := by decide +kernel

/-- the composite field keeps the field name its locations carry -/
example : check (run nc0 revOrder ex) (fun r => r.postings nAll tx ==
    [ { doc := 0, freq := 2, norm := nc0 nAll 2,
        locs := [ { field := nA, pos := 1, start := 0, stop := 1 },
                  { field := nA, pos := 3, start := 4, stop := 5 } ] } ]) = true := by decide +kernel

/-- the defect fixed by commit 6eca540 (`runV true` = the code before the fix: the locations of a
    term met again in the same document got `field.Name()`): the second location of `x` in `_all`
    comes out as a location in `_all` instead of `a` -/
example : check (runV true nc0 idOrder ex) (fun r => r.postings nAll tx ==
    [ { doc := 0, freq := 2, norm := nc0 nAll 2,
        locs := [ { field := nA, pos := 1, start := 0, stop := 1 },
                  { field := nAll, pos := 3, start := 4, stop := 5 } ] } ]) = true := by decide +kernel

example : check (runV true nc0 idOrder ex) (fun r =>
    r.postings nAll tx != postings (build nc0 0 ex) nAll tx) = true := by decide +kernel

end Ice.Props.C01
