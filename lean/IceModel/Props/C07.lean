import IceModel.Model.DocValues
import IceModel.Lemmas.DocValues
/-
  Property C07: for every field indexed with doc values, a DocumentValueReader delivers, for any
  document visited in any order, exactly that document's terms in that field in sorted order, and
  nothing for fields without doc values or documents without terms.

  Proved here for the model of one field's column (`IceModel/Model/DocValues.lean`):
    * the chunked content coder in both modes (builder: non-progressive, merger: progressive),
    * `loadFieldDocValueReader` on the bytes it wrote, placed anywhere in a file,
    * the stateful reader (`loadDvChunk`, `getDocValueLocs` with the binary search, `visitDocValues`
      with its one-chunk cache and the lazily decompressed copy) under every sequence of visits.
  The abstract input `vals` lists (docNum, terms) for the documents that have terms, ascending by
  document number, terms in the order the builder emits them (ascending).  "Sorted order" is the
  order of that list: the reader returns the list itself.

  The readers of a `DocumentValueReader` for several fields are independent per-field readers
  (docvalues.go:296-310), so the statement for a subset of fields is the conjunction of the
  per-field statements; a field without doc values has the nil reader (`C07_no_docvalues`).
-/
namespace Ice.Props.C07
open Ice Ice.Model Ice.Model.DocValues

/-- total number of bytes of the field's encoded documents (terms plus one separator each) -/
def rawSize (vals : List (Nat × List Bytes)) : Nat := (dataOf (encVals vals)).length

/-- the input contract: chunk size positive (Go: 1024), documents ascending and inside the segment,
    sizes inside uint64 / int, no term contains the separator byte 0xff -/
structure Valid (cs maxDocNum : Nat) (vals : List (Nat × List Bytes)) : Prop where
  cs_pos : 0 < cs
  asc : vals.Pairwise (fun a b => a.1 < b.1)
  max : ∀ q ∈ vals, q.1 ≤ maxDocNum
  maxDoc : maxDocNum < 2 ^ 63 - 1
  raw : rawSize vals < 2 ^ 64 - 1
  noSep : ∀ q ∈ vals, NoSep q.2

/-- who wrote the column -/
inductive Mode where
  | builder     -- new.go: non-progressive coder, start offset read after Close
  | merger      -- merge.go: progressive coder, start offset read before the first chunk
deriving DecidableEq, Repr

/-- bytes written, start offset, end offset -/
def writeField (m : Mode) (z : Codec) (cs maxDocNum count : Nat) (vals : List (Nat × List Bytes)) :
    Res (Bytes × Nat × Nat) :=
  match m with
  | .builder => buildField z cs maxDocNum count (encVals vals)
  | .merger => mergeField z cs maxDocNum count (encVals vals)

/-- cutting `term₁ 0xff term₂ 0xff …` at the separators returns the terms -/
theorem C07_split (terms : List Bytes) (h : NoSep terms) : splitSep (docBytes terms) [] = terms :=
  splitSep_docBytes terms h

/-- … and the hypothesis is necessary: a term containing 0xff is delivered in pieces -/
theorem C07_split_needs_NoSep : ¬ ∀ terms : List Bytes, splitSep (docBytes terms) [] = terms := by
  intro h
  have := h [[1, 255, 2]]
  revert this
  decide

example : splitSep (docBytes [[1, 255, 2]]) [] = [[1], [2]] := by decide

theorem validVals_encVals {cs maxDocNum : Nat} {vals : List (Nat × List Bytes)}
    (hv : Valid cs maxDocNum vals) : ValidVals cs maxDocNum (encVals vals) := by
  refine ⟨hv.cs_pos, ?_, ?_, hv.maxDoc, hv.raw⟩
  · unfold encVals; rw [List.pairwise_map]; exact hv.asc
  · intro q hq
    unfold encVals at hq
    obtain ⟨p, hp, e⟩ := List.mem_map.mp hq
    subst e; exact hv.max p hp

/-- the byte strings the coder is fed: the builder skips the empty ones (new.go:753) -/
def fed (m : Mode) (vals : List (Nat × List Bytes)) : List (Nat × Bytes) :=
  match m with
  | .builder => (encVals vals).filter (fun p => p.2.length > 0)
  | .merger => encVals vals

theorem writeField_eq (m : Mode) (z : Codec) {cs maxDocNum : Nat} {vals : List (Nat × List Bytes)}
    (hv : Valid cs maxDocNum vals) (count : Nat) :
    writeField m z cs maxDocNum count vals =
      .ok (sectionOf (chunksOf z cs (maxDocNum / cs + 1) (fed m vals)), count,
           count + (sectionOf (chunksOf z cs (maxDocNum / cs + 1) (fed m vals))).length) := by
  have hb := validVals_encVals hv
  have hn : maxDocNum / cs + 1 < 2 ^ 64 := by
    have := hv.maxDoc
    have : maxDocNum / cs ≤ maxDocNum := Nat.div_le_self _ _
    omega
  cases m with
  | builder => exact buildField_eq z cs maxDocNum count hb.cs_pos hn _ hb.asc hb.max
  | merger => exact mergeField_eq z cs maxDocNum count hb.cs_pos hn _ hb.asc hb.max

/-- the writer half: in both modes the coder never fails, the recorded start offset
    is the position before the first chunk and the end offset the position behind the section. -/
theorem C07_progressive (m : Mode) (z : Codec) {cs maxDocNum : Nat}
    {vals : List (Nat × List Bytes)} (hv : Valid cs maxDocNum vals) (count : Nat) :
    ∃ sec, writeField m z cs maxDocNum count vals = .ok (sec, count, count + sec.length) :=
  ⟨_, writeField_eq m z hv count⟩

/-- when every listed document has a term (the builder's situation) the two modes write the same
    bytes -/
theorem C07_progressive_same_bytes (z : Codec) {cs maxDocNum : Nat}
    {vals : List (Nat × List Bytes)} (hv : Valid cs maxDocNum vals)
    (hne : ∀ q ∈ vals, q.2 ≠ []) (count : Nat) :
    writeField .builder z cs maxDocNum count vals = writeField .merger z cs maxDocNum count vals := by
  rw [writeField_eq .builder z hv, writeField_eq .merger z hv]
  have : fed .builder vals = fed .merger vals := by
    unfold fed
    rw [List.filter_eq_self]
    intro p hp
    unfold encVals at hp
    obtain ⟨q, hq, e⟩ := List.mem_map.mp hp
    subst e
    have := hne q hq
    cases hts : q.2 with
    | nil => exact absurd hts this
    | cons t ts => simp [docBytes]; omega
  rw [this]

theorem fed_valid (m : Mode) {cs maxDocNum : Nat} {vals : List (Nat × List Bytes)}
    (hv : Valid cs maxDocNum vals) :
    ValidVals cs maxDocNum (fed m vals) ∧
    ∀ d, splitSep (bytesOf (fed m vals) d) [] = termsOf vals d := by
  have hb := validVals_encVals hv
  cases m with
  | builder =>
    refine ⟨hb.filter _, fun d => ?_⟩
    unfold fed
    rw [bytesOf_filter_nonempty _ hb.asc]
    exact splitSep_bytesOf_encVals vals hv.noSep d
  | merger => exact ⟨hb, fun d => splitSep_bytesOf_encVals vals hv.noSep d⟩

/-- the column `vals`, as either writer writes it, lies at `dvStart` of `file` (at least ten bytes
    follow it) and ends at `dvEnd`: the situation of every theorem about the reader below -/
structure Placed (m : Mode) (z : Codec) (cs maxDocNum : Nat) (vals : List (Nat × List Bytes))
    (file : Data) (dvStart dvEnd : Nat) : Prop where
  valid : Valid cs maxDocNum vals
  sec : At file.bytes dvStart (sectionOf (chunksOf z cs (maxDocNum / cs + 1) (fed m vals)))
  dvEnd_eq : dvEnd = dvStart + (sectionOf (chunksOf z cs (maxDocNum / cs + 1) (fed m vals))).length
  len : file.bytes.length < 2 ^ 63

namespace Placed

theorem of_at {m : Mode} {z : Codec} {cs maxDocNum : Nat} {vals : List (Nat × List Bytes)}
    (hv : Valid cs maxDocNum vals) {file : Data} {count dvStart dvEnd : Nat} {sec : Bytes}
    (hw : writeField m z cs maxDocNum count vals = .ok (sec, dvStart, dvEnd))
    (hat : At file.bytes count sec) (hlen : file.bytes.length < 2 ^ 63) :
    Placed m z cs maxDocNum vals file dvStart dvEnd := by
  rw [writeField_eq m z hv] at hw
  cases hw
  exact ⟨hv, hat, rfl, hlen⟩

theorem spec {m : Mode} {z : Codec} {cs maxDocNum : Nat} {vals : List (Nat × List Bytes)}
    {file : Data} {dvStart dvEnd : Nat} (h : Placed m z cs maxDocNum vals file dvStart dvEnd) :
    ∃ pre suf, Layout file pre (chunksOf z cs (maxDocNum / cs + 1) (fed m vals)) suf ∧
      (∃ r0, loadFieldDocValueReader file dvStart dvEnd = .ok (some r0) ∧
        r0.chunkOffsets.length = maxDocNum / cs + 1 ∧ r0.curChunkNum = maxInt64 ∧
        Inv z cs maxDocNum (fed m vals) pre r0) ∧
      ∀ r ds, Inv z cs maxDocNum (fed m vals) pre r → (∀ d ∈ ds, d ≤ maxDocNum) →
        ∃ r', Reader.visitAll z file cs r ds = .ok (ds.map (termsOf vals), r') ∧
          Inv z cs maxDocNum (fed m vals) pre r' := by
  obtain ⟨pre, suf, hfile, rfl, hsuf⟩ := h.sec.split
  obtain ⟨hval, hterms⟩ := fed_valid m h.valid
  obtain ⟨L, h0⟩ := reader_opens z hval file pre suf hfile hsuf h.len
  refine ⟨pre, suf, L, h.dvEnd_eq ▸ h0, fun r ds hr hds => ?_⟩
  obtain ⟨r', hvis, hr'⟩ := visitAll_spec z hval L ds r hr hds
  exact ⟨r', by rw [hvis, List.map_congr_left (fun d _ => hterms d)], hr'⟩

end Placed

/-- the reader opens on what either writer wrote, wherever the section lies in the
    file (at least ten bytes follow it: in a segment the footer alone has 44), with one end offset
    per chunk and an empty cache. -/
theorem C07_roundtrip (m : Mode) (z : Codec) {cs maxDocNum : Nat} {vals : List (Nat × List Bytes)}
    (hv : Valid cs maxDocNum vals) (file : Data) (pre suf sec : Bytes) (dvStart dvEnd : Nat)
    (hw : writeField m z cs maxDocNum pre.length vals = .ok (sec, dvStart, dvEnd))
    (hfile : file.bytes = pre ++ sec ++ suf) (hsuf : 10 ≤ suf.length)
    (hlen : file.bytes.length < 2 ^ 63) :
    ∃ r0, loadFieldDocValueReader file dvStart dvEnd = .ok (some r0) ∧
      r0.chunkOffsets.length = maxDocNum / cs + 1 ∧ r0.curChunkNum = maxInt64 ∧
      r0.curChunkHeader = [] ∧ r0.curChunkData = none ∧ r0.uncompressed = [] ∧
      r0.dvDataLoc = dvStart := by
  obtain ⟨_, _, -, ⟨r0, hload, hlen0, hcn, _⟩, _⟩ :=
    (Placed.of_at hv hw (.of_append hfile hsuf) hlen).spec
  obtain ⟨_, hloc, hhdr, hdata, hunc⟩ := loadField_shape hload
  exact ⟨r0, hload, hlen0, hcn, hhdr, hdata, hunc, hloc⟩

/-- every sequence of visits (any order, repetitions) on the opened reader
    succeeds and delivers, visit by visit, exactly the terms of the visited document, and nothing
    for a document without terms. -/
theorem C07_visit_any_order (m : Mode) (z : Codec) {cs maxDocNum : Nat}
    {vals : List (Nat × List Bytes)} (hv : Valid cs maxDocNum vals) (file : Data)
    (pre suf sec : Bytes) (dvStart dvEnd : Nat)
    (hw : writeField m z cs maxDocNum pre.length vals = .ok (sec, dvStart, dvEnd))
    (hfile : file.bytes = pre ++ sec ++ suf) (hsuf : 10 ≤ suf.length)
    (hlen : file.bytes.length < 2 ^ 63)
    (r0 : Reader) (hload : loadFieldDocValueReader file dvStart dvEnd = .ok (some r0))
    (ds : List Nat) (hds : ∀ d ∈ ds, d ≤ maxDocNum) :
    ∃ r', Reader.visitAll z file cs r0 ds = .ok (ds.map (termsOf vals), r') := by
  obtain ⟨_, _, -, ⟨r0', hload', -, -, hinv⟩, hvis⟩ :=
    (Placed.of_at hv hw (.of_append hfile hsuf) hlen).spec
  rw [hload] at hload'
  cases hload'
  obtain ⟨r', h, _⟩ := hvis r0 ds hinv hds
  exact ⟨r', h⟩

/-- … and the same holds for a reader cloned (`cloneInto`) from the reader in whatever state an
    earlier sequence of visits left it. -/
theorem C07_visit_after_clone (m : Mode) (z : Codec) {cs maxDocNum : Nat}
    {vals : List (Nat × List Bytes)} (hv : Valid cs maxDocNum vals) (file : Data)
    (pre suf sec : Bytes) (dvStart dvEnd : Nat)
    (hw : writeField m z cs maxDocNum pre.length vals = .ok (sec, dvStart, dvEnd))
    (hfile : file.bytes = pre ++ sec ++ suf) (hsuf : 10 ≤ suf.length)
    (hlen : file.bytes.length < 2 ^ 63)
    (r0 : Reader) (hload : loadFieldDocValueReader file dvStart dvEnd = .ok (some r0))
    (ds1 : List Nat) (hds1 : ∀ d ∈ ds1, d ≤ maxDocNum) (out1 : List (List Bytes)) (r1 : Reader)
    (h1 : Reader.visitAll z file cs r0 ds1 = .ok (out1, r1))
    (ds2 : List Nat) (hds2 : ∀ d ∈ ds2, d ≤ maxDocNum) :
    ∃ r2, Reader.visitAll z file cs r1.clone ds2 = .ok (ds2.map (termsOf vals), r2) := by
  obtain ⟨_, _, -, ⟨r0', hload', -, -, hinv⟩, hvis⟩ :=
    (Placed.of_at hv hw (.of_append hfile hsuf) hlen).spec
  rw [hload] at hload'
  cases hload'
  obtain ⟨r1', h1', hinv1⟩ := hvis r0 ds1 hinv hds1
  rw [h1] at h1'
  cases h1'
  obtain ⟨r2, h2, _⟩ := hvis r1.clone ds2 (inv_clone hv.maxDoc hinv1) hds2
  exact ⟨r2, h2⟩

/-- a field without doc values (`fieldNotUninverted`) has the nil reader: nothing is delivered -/
theorem C07_no_docvalues (file : Data) (dvEnd : Nat) :
    loadFieldDocValueReader file (2 ^ 64 - 1) dvEnd = .ok none := by
  simp [loadFieldDocValueReader, maxUint64]

/-- `sort.Search` (the binary search itself is modelled) with the closure of `getDocValueLocs`
    returns, on a header ascending by document number, what the linear search returns: the first
    index whose document number is `≥ d` -/
theorem C07_search_is_linear (H : List (Nat × Nat)) (hs : H.Pairwise (fun a b => a.1 ≤ b.1))
    (d : Nat) : sortSearch H.length (hdrGe H d) = H.findIdx (fun m => decide (m.1 ≥ d)) :=
  sortSearch_eq_findIdx H hs d

/-! ### a concrete instance

  chunk size 2, documents 0..7; documents 4, 5 and 7 have terms, so chunk 0 is flushed empty,
  chunk 1 is never flushed (length 0), chunks 2 and 3 hold data.  The toy codec reverses the block
  and puts a marker byte in front, so compressed and decompressed bytes differ. -/

def exCodec : Codec where
  Z := fun b => if b = [] then [] else 7 :: b.reverse
  unZ := fun b =>
    match b with
    | [] => some []
    | 7 :: r => some r.reverse
    | _ => none
  rt := by intro b; cases b <;> simp
  z_nil := rfl

def exVals : List (Nat × List Bytes) := [(4, [[1], [2, 3]]), (5, [[9]]), (7, [[]])]
def exPre : Bytes := [42, 42, 42]
def exSuf : Bytes := List.replicate 10 99

/-- the section both writers produce for it -/
def exSec : Bytes :=
  [0, 2, 4, 5, 1, 2, 7, 255, 9, 255, 3, 2, 255, 1, 1, 7, 1, 7, 255, 1, 1, 14, 19,
   0, 0, 0, 0, 0, 0, 0, 4, 0, 0, 0, 0, 0, 0, 0, 4]

def exFile (mem : Bool) : Data := { bytes := exPre ++ exSec ++ exSuf, mem := mem }

theorem exValid : Valid 2 7 exVals :=
  ⟨by decide, by decide, by decide, by decide, by decide +kernel, by unfold NoSep; decide⟩

/-- both writers produce `exSec` and record the offsets 3 and 42 -/
example : writeField .builder exCodec 2 7 3 exVals = .ok (exSec, 3, 42) := by decide +kernel

example : writeField .merger exCodec 2 7 3 exVals = .ok (exSec, 3, 42) := by decide +kernel

/-- the reader opened on it: four chunk end offsets (chunk 0 is the 1-byte empty header, chunk 1
    has length 0), nothing cached -/
def exR0 : Reader :=
  { curChunkNum := maxInt64, chunkOffsets := [1, 1, 14, 19], dvDataLoc := 3,
    curChunkHeader := [], curChunkData := none, uncompressed := [] }

example : loadFieldDocValueReader (exFile true) 3 42 = .ok (some exR0) := by decide +kernel
example : loadFieldDocValueReader (exFile false) 3 42 = .ok (some exR0) := by decide +kernel

/-- visits in a scrambled order with repetitions, evaluated by the kernel: backwards across chunks,
    into the empty leading chunk and the unflushed chunk, and back into a chunk visited before -/
example :
    Reader.visitAll exCodec (exFile false) 2 exR0 [7, 4, 5, 0, 1, 2, 3, 6, 4, 5, 7, 7] =
      .ok ([[[]], [[1], [2, 3]], [[9]], [], [], [], [], [], [[1], [2, 3]], [[9]], [[]], [[]]],
           { curChunkNum := 3, chunkOffsets := [1, 1, 14, 19], dvDataLoc := 3,
             curChunkHeader := [(7, 1)], curChunkData := some [7, 255],
             uncompressed := [255] }) := by
  decide +kernel

/-- the same instance through the theorem: any order of visits whatsoever -/
example (mem : Bool) (ds : List Nat) (hds : ∀ d ∈ ds, d ≤ 7) :
    ∃ r', Reader.visitAll exCodec (exFile mem) 2 exR0 ds = .ok (ds.map (termsOf exVals), r') := by
  refine C07_visit_any_order .builder exCodec exValid (exFile mem) exPre exSuf exSec 3 42
    (by decide +kernel) rfl (by decide) (by show (exPre ++ exSec ++ exSuf).length < 2 ^ 63; decide)
    exR0 ?_ ds hds
  cases mem <;> decide +kernel

/-- a document outside the segment is outside the contract: the chunk index is out of range of
    the offsets and the Go code panics (readChunkBoundary, intcoder.go:197) -/
example : Reader.visitAll exCodec (exFile false) 2 exR0 [8] = .panic := by decide +kernel

end Ice.Props.C07
