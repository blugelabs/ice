import IceModel.Model.MergeLoop
import IceModel.Lemmas.MergeLoopEnum
import IceModel.Lemmas.MergeLoopGroups
import IceModel.Lemmas.MergeLoopSpec
import IceModel.Lemmas.MergeLoopStats
import IceModel.Lemmas.Bits
/-
  Property C02 on the level of the model of the merge loop (enumerator.go, merge.go).

  E1: the enumerator delivers the ordered join of its iterators.
  M1, M2: the merge loop of one field does not fail and writes the terms and postings of
  `Spec.merge`.  M4: when `finishTerm` chooses the 1-hit encoding.
-/
namespace Ice.Props.C02Model
open Ice Ice.Spec Ice.Model Ice.Model.MergeLoop

/-- the ordered join: for every key in ascending order, for every iterator holding it in index
    order, `(key, iteratorIndex, value)`.  The key is shown as the Go slice the caller sees:
    the empty key is always the nil slice (`keyOf [] = none`). -/
def triples (ls : List (List (Bytes × Nat))) : List (Key × Nat × Nat) :=
  (allKeys ls).flatMap (fun k => (holders ls k).map (fun iv => (keyOf k, iv.1, iv.2)))

theorem triples_eq (ls : List (List (Bytes × Nat))) : (expectedFull ls).map (·.1) = triples ls := by
  simp only [expectedFull, triples, List.map_flatMap, List.map_map, Function.comp_def]

/-- **E1** (sequence): `newEnumerator`, then `Current`/`Next` until `ErrIteratorDone`, over
    iterators whose contents are strictly ascending key lists (any number of them, possibly
    empty, possibly starting with the empty key, whose value must then not be 0: `WFIters`)
    delivers exactly `triples`.  The result is `.ok`:
    no index panic, and the fuel `fuelFor` = number of (key, iterator) pairs is not exhausted. -/
theorem E1_sequence {ls : List (List (Bytes × Nat))} (h : WFIters ls) :
    enumerate (ls.map VIter.fresh) = .ok (triples ls) := by
  simp only [enumerate, enumerateFull_spec h, ← triples_eq]
  rfl

/-- **E1** (termination / fuel adequacy) for an arbitrary loop body: with `fuelFor` rounds or
    more, the loop `for err == nil { Current; body; Next }` is the fold of the body over the
    deliveries, each paired with the answer of `GetLowIdxsAndValues` at that moment (all the
    (index, value) pairs of the iterators holding the current key) -/
theorem E1_loop {σ : Type}
    (body : σ → Key × Nat × Nat → Except MergeErr (List (Nat × Nat)) → Except MergeErr σ)
    {ls : List (List (Bytes × Nat))} (h : WFIters ls) (hne : (ls.map List.length).sum ≠ 0)
    (extra : Nat) (s : σ) :
    Enum.loop body (extra + fuelFor (ls.map VIter.fresh)) (Enum.new (ls.map VIter.fresh)).1 s =
      foldBody body (expectedFull ls) s := by
  have := run_spec body h extra s
  rwa [new_done h, if_neg (by simpa using hne)] at this

/-- `newEnumerator` returns `ErrIteratorDone` iff no iterator holds a key -/
theorem E1_done {ls : List (List (Bytes × Nat))} (h : WFIters ls) :
    (Enum.new (ls.map VIter.fresh)).2 = decide ((ls.map List.length).sum = 0) := new_done h

/-- **E1** (nothing dropped, nothing invented): a triple is delivered iff its (key, value) pair
    is in the iterator of that index -/
theorem E1_mem {ls : List (List (Bytes × Nat))} (h : WFIters ls) (key : Key) (i v : Nat) :
    (key, i, v) ∈ triples ls ↔ ∃ k l, key = keyOf k ∧ ls[i]? = some l ∧ (k, v) ∈ l := by
  simp only [triples, List.mem_flatMap, List.mem_map, allKeys, mem_sortDedup]
  constructor
  · rintro ⟨k, _, ⟨j, w⟩, hjw, he⟩
    obtain ⟨l, hl, hkv⟩ := (mem_holders h.asc k j w).1 hjw
    cases he
    exact ⟨k, l, rfl, hl, hkv⟩
  · rintro ⟨k, l, rfl, hl, hkv⟩
    exact ⟨k, ⟨l, List.mem_of_getElem? hl, (k, v), hkv, rfl⟩, (i, v),
      (mem_holders h.asc k i v).2 ⟨l, hl, hkv⟩, rfl⟩

/-- in particular the empty key is delivered, as the nil slice, for every iterator holding it -/
theorem E1_empty_key {ls : List (List (Bytes × Nat))} (h : WFIters ls) (i v : Nat)
    (l : List (Bytes × Nat)) (hl : ls[i]? = some l) (hv : ([], v) ∈ l) :
    (none, i, v) ∈ triples ls :=
  (E1_mem h none i v).2 ⟨[], l, rfl, hl, hv⟩

/-- the order of the deliveries: by key, then by iterator index, strictly -/
def tripleLt (a b : Key × Nat × Nat) : Prop :=
  Bytes.cmp a.1.bytes b.1.bytes = .lt ∨ (a.1 = b.1 ∧ a.2.1 < b.2.1)

/-- **E1** (order): the deliveries are strictly ascending by (key, iterator index) -/
theorem E1_sorted (ls : List (List (Bytes × Nat))) : (triples ls).Pairwise tripleLt := by
  rw [← triples_eq, List.pairwise_map]
  exact expectedFull_lt ls

theorem tripleLt_irrefl (a : Key × Nat × Nat) : ¬ tripleLt a a := by
  rintro (h | ⟨_, h⟩)
  · exact Bytes.cmp_lt_irrefl _ h
  · exact Nat.lt_irrefl _ h

/-- **E1** (nothing duplicated) -/
theorem E1_nodup (ls : List (List (Bytes × Nat))) : (triples ls).Nodup := by
  rw [List.nodup_iff_pairwise_ne]
  exact (E1_sorted ls).imp (fun {a b} h (e : a = b) => tripleLt_irrefl a (by rw [← e] at h; exact h))

/-- the enumerator_test.go style check on the model: three iterators, the empty key in two -/
example : enumerate ([[([], 7), ([98], 1)], [], [([], 9), ([97], 2), ([98], 3)]].map VIter.fresh)
    = .ok [(none, 0, 7), (none, 2, 9), (some [97], 2, 2), (some [98], 0, 1), (some [98], 2, 3)] := by
  decide +kernel

/-- a *drained* iterator over an FST holding the empty key keeps showing (empty key, value): the
    reason for `updateMatches(true)`.  With `skipEmptyKey = false` after `Next` the enumerator
    would deliver the empty key again. -/
example : ((VIter.fresh [([], 7)]).next.1).current = (none, 7) := by decide +kernel
example : (((VIter.fresh [([], 7), ([97], 1)]).next.1).next.1).current = (some [], 7) := by decide +kernel

/-- what segment `s` contributes to term `k`: its postings of `k` outside the deletion bitmap, in
    order, with the new document number, locations re-encoded with merged field ids -/
def segEntries (cfg : Cfg) (s : Active) (k : Bytes) : List MPosting :=
  match lookupK k s.dict with
  | some ps => (iterSurvivors s.drops ps).map
      (fun p => encPosting cfg.fieldsInv (newDocOf s.newDocNums p.doc) p)
  | none => []

/-- the postings of term `k` in the merged segment: concatenation over the segments in order -/
def termEntries (cfg : Cfg) (active : List Active) (k : Bytes) : List MPosting :=
  active.flatMap (fun s => segEntries cfg s k)

theorem allItems_entries (cfg : Cfg) (active : List Active) (k : Bytes) :
    (allItems (segsOf active k)).map (encItem cfg.fieldsInv) = termEntries cfg active k :=
  map_allItems_segsOf (encItem cfg.fieldsInv) active k

/-- **M1**: on well-formed input (`WFActive`: ascending FSTs, `newDocNums` defined on every
    live document that carries a posting, a valid chunk mode, a non-empty result, no term with
    more surviving postings than the result has documents) the merge of a field does not fail.
    In particular the error "see hit with dropped docNum" (merge.go:571) is unreachable: the
    postings iterator already excludes the dropped documents. -/
theorem M1_no_failure (cfg : Cfg) (hfix : cfg.sumFreqFix = true) (segs : List SegIn)
    (hwf : WFActive cfg (setupActive segs)) : ∃ r, mergeField cfg segs = .ok r :=
  ⟨_, mergeField_closed cfg hfix segs hwf⟩

theorem M1_droppedDoc_unreachable (cfg : Cfg) (hfix : cfg.sumFreqFix = true) (segs : List SegIn)
    (hwf : WFActive cfg (setupActive segs)) : mergeField cfg segs ≠ .error .droppedDoc := by
  rw [mergeField_closed cfg hfix segs hwf]; intro h; cases h

theorem mergedResult_entries (cfg : Cfg) (active : List Active) :
    (mergedResult cfg active).dict.map (fun e => (e.term, e.entries)) =
      (mergedTerms active).filterMap (fun k =>
        if (termEntries cfg active k).isEmpty then none else some (k, termEntries cfg active k)) := by
  unfold mergedResult
  generalize mergedTerms active = ks
  induction ks with
  | nil => rfl
  | cons k ks ih =>
    simp only [List.flatMap_cons, List.map_append, ih, List.filterMap_cons]
    have he : (groupCur cfg active k).entries = termEntries cfg active k :=
      allItems_entries cfg _ k
    have hr0 : (groupCur cfg active k).roaring.length = 0 ↔ termEntries cfg active k = [] := by
      rw [← he]
      simp only [groupCur, List.length_eq_zero_iff, bmAddAll_eq_nil, List.map_eq_nil_iff]
    unfold groupCore
    by_cases hz : termEntries cfg active k = []
    · simp [hr0.2 hz, hz]
    · have : ¬ (groupCur cfg active k).roaring.length = 0 := fun h => hz (hr0.1 h)
      simp [this, hz, he]

/-- **M2 (intrinsic)**: the merged dictionary holds, in ascending order, exactly the terms that
    keep at least one posting, each with the concatenation over the segments (in order) of the
    surviving postings renumbered - a term all of whose documents are deleted is not inserted, a
    term present in several segments (the empty term included) is inserted once. -/
theorem M2_intrinsic (cfg : Cfg) (hfix : cfg.sumFreqFix = true) (segs : List SegIn)
    (hwf : WFActive cfg (setupActive segs)) :
    ∃ r, mergeField cfg segs = .ok r ∧
      r.dict.map (fun e => (e.term, e.entries)) =
        (mergedTerms (setupActive segs)).filterMap (fun k =>
          if (termEntries cfg (setupActive segs) k).isEmpty then none
          else some (k, termEntries cfg (setupActive segs) k)) :=
  ⟨_, mergeField_closed cfg hfix segs hwf, mergedResult_entries _ _⟩

theorem filterMap_nonempty {α β : Type} (l : List α) (g : α → List β) :
    l.filterMap (fun k => if (g k).isEmpty then none else some (k, g k)) =
      (l.filter (fun k => !(g k).isEmpty)).map (fun k => (k, g k)) := by
  induction l with
  | nil => rfl
  | cons a r ih =>
    rw [List.filterMap_cons, List.filter_cons, ih]
    cases (g a).isEmpty <;> rfl

/-- the merged terms are strictly ascending (so `vellum.Builder.Insert` accepts them) -/
theorem M2_terms_ascending (cfg : Cfg) (hfix : cfg.sumFreqFix = true) (segs : List SegIn)
    (hwf : WFActive cfg (setupActive segs)) :
    ∃ r, mergeField cfg segs = .ok r ∧ Asc (r.dict.map (·.term)) := by
  refine ⟨_, mergeField_closed cfg hfix segs hwf, ?_⟩
  have : ∀ r : FieldResult,
      r.dict.map (·.term) = (r.dict.map (fun e => (e.term, e.entries))).map (·.1) := by
    intro r; rw [List.map_map]; rfl
  rw [this, mergedResult_entries, filterMap_nonempty, List.map_map]
  exact (List.Pairwise.filter _ (asc_sortDedup _)).map _ (fun _ _ h => h)

/-! ## M2 against `Spec.merge`

  The abstraction function (definitions in `IceModel/Lemmas/MergeLoopSpec.lean`):
    * `absDict s f`      : the FST of field `f` of `s` := `(Spec.terms s f).map (t ↦ (t, Spec.postings s f t))`
    * `absSegIn f s d nd`: `{ dict := some (absDict s f), drops := some d, newDocNums := nd }`
    * `absSegs mode f ins`: one `absSegIn` per input `(s, d)`, with `nd` the corresponding number map
                            of `(Spec.merge mode ins).2`
    * `absCfg mode ins`  : merged field list `(Spec.merge mode ins).1.fields`, chunk mode, and
                            `newSegDocCount := numDocs` of the merge. -/

theorem termEntries_eq (cfg : Cfg) (active : List Active) (k : Bytes) :
    termEntries cfg active k =
      (termPostings active k).map (fun p => encPosting cfg.fieldsInv p.doc p) := by
  rw [← allItems_entries, termPostings_eq, List.map_map]
  rfl

theorem mergedResult_spec (mode : Nat) (f : Bytes) (ins : List (AbsSeg × List Nat)) :
    (mergedResult (absCfg mode ins) (activeFrom f ins 0)).dict.map (fun e => (e.term, e.entries)) =
      (terms (merge mode ins).1 f).map (fun t =>
        (t, (postings (merge mode ins).1 f t).map
          (fun p => encPosting (merge mode ins).1.fields p.doc p))) := by
  rw [mergedResult_entries, filterMap_nonempty]
  have hfil : (mergedTerms (activeFrom f ins 0)).filter
      (fun k => !(termEntries (absCfg mode ins) (activeFrom f ins 0) k).isEmpty) =
      terms (merge mode ins).1 f := by
    rw [← mergedTerms_spec mode f ins]
    congr 1
    funext k
    rw [termEntries_eq, List.isEmpty_map]
  rw [hfil]
  apply List.map_congr_left
  intro t _
  rw [termEntries_eq, termPostings_merge mode]
  rfl

/-- **M2 against the specification**: for the inputs abstracting `ins`, the merge loop of field
    `f` succeeds and writes, in this order, exactly the terms of the merged segment `m`, each
    with the postings `Spec.postings m f t` (document number, frequency, norm; locations
    re-encoded with the merged field ids). -/
theorem M2_spec (mode : Nat) (f : Bytes) (ins : List (AbsSeg × List Nat))
    (hmode : 1 ≤ mode ∧ mode ≤ 1025) (hdocs : 1 ≤ numDocs (merge mode ins).1) :
    ∃ r, mergeField (absCfg mode ins) (absSegs mode f ins) = .ok r ∧
      r.dict.map (fun e => (e.term, e.entries)) =
        (terms (merge mode ins).1 f).map (fun t =>
          (t, (postings (merge mode ins).1 f t).map
            (fun p => encPosting (merge mode ins).1.fields p.doc p))) :=
  ⟨_, mergeField_abs mode f ins hmode hdocs, mergedResult_spec mode f ins⟩

/-- every location of every document names a field of the merged segment (true for built
    segments whose analysis only names fields of the document; the contract of `fieldsMap[…]-1`
    at merge.go:591, 605) -/
def LocFieldsKnown (mode : Nat) (ins : List (AbsSeg × List Nat)) : Prop :=
  ∀ p ∈ ins, ∀ d ∈ p.1.docs, ∀ af ∈ d, ∀ x ∈ af.terms, ∀ l ∈ x.locs,
    l.field ∈ (merge mode ins).1.fields

/-- **M2, read back**: reading the written entries with the merged field list gives exactly
    `Spec.postings m f t` - provided fewer than 2^16 fields and `LocFieldsKnown` -/
theorem M2_spec_read (mode : Nat) (f : Bytes) (ins : List (AbsSeg × List Nat))
    (hmode : 1 ≤ mode ∧ mode ≤ 1025) (hdocs : 1 ≤ numDocs (merge mode ins).1)
    (hlen : (merge mode ins).1.fields.length ≤ 65536) (hloc : LocFieldsKnown mode ins) :
    ∃ r, mergeField (absCfg mode ins) (absSegs mode f ins) = .ok r ∧
      r.dict.map (fun e => (e.term, e.entries.map (MPosting.read (merge mode ins).1.fields))) =
        (terms (merge mode ins).1 f).map (fun t =>
          (t, (postings (merge mode ins).1 f t).map some)) := by
  obtain ⟨r, hr, hd⟩ := M2_spec mode f ins hmode hdocs
  refine ⟨r, hr, ?_⟩
  have : r.dict.map (fun e => (e.term, e.entries.map (MPosting.read (merge mode ins).1.fields))) =
      (r.dict.map (fun e => (e.term, e.entries))).map
        (fun c => (c.1, c.2.map (MPosting.read (merge mode ins).1.fields))) := by
    simp [List.map_map, Function.comp_def]
  rw [this, hd, List.map_map]
  apply List.map_congr_left
  intro t _
  simp only [Function.comp_def, List.map_map, Prod.mk.injEq, true_and]
  apply List.map_congr_left
  intro p hp
  apply read_encPosting _ hlen
  -- the locations of a merged posting come from a surviving document of some input
  obtain ⟨d, hd, hpo⟩ := mem_postings.1 hp
  have hmem := List.mem_of_getElem? hd
  rw [merge_docs, List.mem_flatMap] at hmem
  obtain ⟨pi, hpi, hsurv⟩ := hmem
  rw [survivors_eq] at hsurv
  obtain ⟨af, haf, x, hx, hl⟩ := postingOf_locs hpo
  intro l hl'
  rw [hl] at hl'
  exact hloc pi hpi d (mem_keepP hsurv) af haf x hx l hl'

theorem mergedResult_oneHit (cfg : Cfg) (active : List Active) (hd : ∀ k, DocsAsc active k) :
    ∀ e ∈ (mergedResult cfg active).dict, ∀ v,
      (e.oneHit = some v ↔
        ∃ p, e.entries = [p] ∧ p.freq = 1 ∧ p.locs = [] ∧ p.doc < 2 ^ 31 ∧
          LastHolderContributes active e.term ∧ v = encode1Hit p.doc p.norm) := by
  intro e he v
  obtain ⟨k, _, hk⟩ := List.mem_flatMap.1 he
  unfold groupCore at hk
  simp only [] at hk
  split at hk
  · cases hk
  · rw [List.mem_singleton.1 hk]
    exact use1HitC_iff cfg active k (hd k) v

/-- **M4**: `finishTerm` chooses the 1-hit encoding for a merged term iff the term has exactly
    one entry, with frequency 1, without locations, with a document number below 2^31 - *and*
    the last segment whose dictionary holds the term contributes that entry
    (`LastHolderContributes`).  The value is then the 1-hit code of that entry's document and
    norm.  Hypothesis `DocsAsc`: the new numbers written for a term ascend and fit 32 bits
    (discharged for `Spec.merge` in `M4_spec`). -/
theorem M4_oneHit (cfg : Cfg) (hfix : cfg.sumFreqFix = true) (segs : List SegIn)
    (hwf : WFActive cfg (setupActive segs)) (hd : ∀ k, DocsAsc (setupActive segs) k) :
    ∃ r, mergeField cfg segs = .ok r ∧ ∀ e ∈ r.dict, ∀ v,
      (e.oneHit = some v ↔
        ∃ p, e.entries = [p] ∧ p.freq = 1 ∧ p.locs = [] ∧ p.doc < 2 ^ 31 ∧
          LastHolderContributes (setupActive segs) e.term ∧ v = encode1Hit p.doc p.norm) :=
  ⟨_, mergeField_closed cfg hfix segs hwf, mergedResult_oneHit cfg _ hd⟩

/-- decoding the 1-hit value gives back the document number and the norm of the entry (norm
    bits of a positive float32 are below 2^31) -/
theorem M4_decode (p : MPosting) (hd : p.doc < 2 ^ 31) (hn : p.norm < 2 ^ 31) :
    Ice.Model.decode1Hit (Ice.Model.encode1Hit p.doc p.norm) = (p.doc, p.norm) :=
  Ice.Model.decode_encode1Hit p.doc p.norm hd hn

theorem docsAsc_abs (mode : Nat) (f : Bytes) (ins : List (AbsSeg × List Nat))
    (hsize : numDocs (merge mode ins).1 ≤ 2 ^ 32) (k : Bytes) :
    DocsAsc (activeFrom f ins 0) k := by
  have hd := allItems_docs (activeFrom f ins 0) k
  rw [termPostings_merge mode] at hd
  constructor
  · rw [hd]; exact postings_doc_sorted _ f k
  · intro np hnp
    have : np.1 ∈ (postings (merge mode ins).1 f k).map (·.doc) := by
      rw [← hd]; exact List.mem_map.2 ⟨np, hnp, rfl⟩
    obtain ⟨p, hp, hpe⟩ := List.mem_map.1 this
    exact hpe ▸ Nat.lt_of_lt_of_le (postings_doc_lt _ f k p hp) hsize

/-- **M4 for `Spec.merge`** -/
theorem M4_spec (mode : Nat) (f : Bytes) (ins : List (AbsSeg × List Nat))
    (hmode : 1 ≤ mode ∧ mode ≤ 1025) (hdocs : 1 ≤ numDocs (merge mode ins).1)
    (hsize : numDocs (merge mode ins).1 ≤ 2 ^ 32) :
    ∃ r, mergeField (absCfg mode ins) (absSegs mode f ins) = .ok r ∧ ∀ e ∈ r.dict, ∀ v,
      (e.oneHit = some v ↔
        ∃ p, e.entries = [p] ∧ p.freq = 1 ∧ p.locs = [] ∧ p.doc < 2 ^ 31 ∧
          LastHolderContributes (activeFrom f ins 0) e.term ∧ v = encode1Hit p.doc p.norm) :=
  ⟨_, mergeField_abs mode f ins hmode hdocs,
    mergedResult_oneHit _ _ (docsAsc_abs mode f ins hsize)⟩

private def P (d fr n : Nat) : Posting := { doc := d, freq := fr, norm := n, locs := [] }

/-- `LastHolderContributes` is needed: `lastDocNum/lastFreq/lastNorm` are overwritten by every
    call of `mergeTermFreqNormLocs` (merge.go:305), also by one that finds no surviving posting.
    Term "a" has one surviving posting (segment 0), but segment 1 holds "a" only in a deleted
    document: the general encoding is used although the entry qualifies for 1-hit.  The reversed
    order of the segments gives 1-hit.  (A missed optimisation, not a wrong result: the
    general encoding of one posting is valid.) -/
example :
    let s0 : SegIn := { dict := some [([97], [P 0 1 7])], drops := none, newDocNums := [some 0] }
    let s1 : SegIn := { dict := some [([97], [P 0 1 9])], drops := some [0], newDocNums := [none] }
    let cfg : Cfg := { fieldsInv := [idField], chunkMode := 1025, newSegDocCount := 1 }
    (mergeField cfg [s0, s1]).toOption.map (fun r => r.dict.map (fun e => (e.entries, e.oneHit)))
      = some [([⟨0, 1, 7, []⟩], none)] ∧
    (mergeField cfg [{ s1 with newDocNums := [none] }, { s0 with newDocNums := [some 0] }]).toOption.map
        (fun r => r.dict.map (fun e => (e.entries, e.oneHit)))
      = some [([⟨0, 1, 7, []⟩], some (encode1Hit 0 7))] := by
  decide +kernel

/-! ## a concrete merge against the specification (non-vacuity; checked by the kernel)

  Three abstract segments, field "f": the empty term in two segments, term "c" only in a deleted
  document, one deletion in the first and one in the third segment. -/

private def exDoc (ts : List (Bytes × Nat)) : ADoc :=
  [{ name := [102], length := 3, norm := 9,
     terms := ts.map (fun t => { term := t.1, freq := t.2, locs := [⟨[102], 1, 0, 1⟩] }),
     stored := [], dv := false }]
private def exA : AbsSeg :=
  { docs := [exDoc [([], 1), ([97], 2)], exDoc [([97], 1)]], fields := [idField, [102]],
    fieldDocs := [0, 2], fieldFreqs := [0, 4], chunkMode := 1025 }
private def exB : AbsSeg :=
  { docs := [exDoc [([], 3), ([98], 1)]], fields := [idField, [102]],
    fieldDocs := [0, 1], fieldFreqs := [0, 4], chunkMode := 1025 }
private def exC : AbsSeg :=
  { docs := [exDoc [([99], 1)], exDoc [([97], 1)]], fields := [idField, [102]],
    fieldDocs := [0, 2], fieldFreqs := [0, 2], chunkMode := 1025 }
private def exIns : List (AbsSeg × List Nat) := [(exA, [1]), (exB, []), (exC, [0])]

/-- the loop's dictionary (read back), `fieldDocs` and `fieldFreqs` are those of `Spec.merge` -/
example :
    (mergeField (absCfg 1025 exIns) (absSegs 1025 [102] exIns)).toOption.map
      (fun r => (r.dict.map (fun e =>
          (e.term, e.entries.map (MPosting.read (merge 1025 exIns).1.fields))),
        r.fieldDocs, r.fieldFreq))
    = some ((terms (merge 1025 exIns).1 [102]).map
              (fun t => (t, (postings (merge 1025 exIns).1 [102] t).map some)),
            (stats (merge 1025 exIns).1 [102]).2.1, (stats (merge 1025 exIns).1 [102]).2.2) := by
  decide +kernel

example : (terms (merge 1025 exIns).1 [102]) = [[], [97], [98]] := by decide +kernel

-- UNPROVED:
--  * `DictEntry.card = entries.length` (the cardinality `prepareNewTerm` computes up front, from
--    which the chunk size is derived, equals the number of postings then written) as a separate
--    statement: `mergeField_closed` gives `card := termCard active k` (`groupCore`), and
--    `termCard_eq` counts the postings written.
--  * `(triples ls).length = (ls.map List.length).sum` as a separate statement (it follows from
--    `E1_mem` + `E1_nodup` + the keys of each iterator being distinct).
--  * the case `numDocs = 0` of the merge: `persistMergedRest` is then not called (merge.go:137),
--    the loop is not run, all dictionaries are empty; `M2_spec`/`C16_merge_model` assume
--    `1 ≤ numDocs`.
--  * uint64 wrap-around of `fieldFreqs`, `fieldDocs`, `sumFreq`, `newCard` is not modelled (the
--    counters are naturals).

end Ice.Props.C02Model
