import IceModel.Bridge.Mutations
/-
  Property C15: reading, persisting and merging never modify a segment or the caller's bitmaps.

  Heap model: bitmaps live in cells; every cell has an *origin class* (how the code reached it).
  An operation is a sequence of mutations, each of a cell of some origin class.  The frame theorem
  says that cells of classes the operation never mutates keep their value; the instance plugs in
  the table of ALL mutation sites of the package regenerated from /repo (`Gen.Mutations`), whose
  origins are disjoint from everything a caller owns.  Segment images are immutable byte slices:
  the package never stores into a slice obtained from `segment.Data` (there is no assignment
  through such a slice; a bitmap decoded from it by `FromBuffer` shares its bytes but is marked
  copy-on-write, so a modification copies the containers first: roaring v0.9.4, roaring.go:73-94),
  which the snapshot leg of the harness checks dynamically.
-/
namespace Ice.Props.C15
open Ice

abbrev Cell := Nat

structure Mutation where
  cell : Cell
  val : List Nat
deriving Repr

def applyM (h : Cell → List Nat) (m : Mutation) : Cell → List Nat :=
  fun c => if c = m.cell then m.val else h c

theorem frame (protectedCell : Cell → Bool) (ms : List Mutation) (h : Cell → List Nat)
    (hown : ∀ m ∈ ms, protectedCell m.cell = false) :
    ∀ c, protectedCell c = true → (ms.foldl applyM h) c = h c := by
  induction ms generalizing h with
  | nil => intro c _; rfl
  | cons m ms ih =>
    intro c hc
    simp only [List.foldl_cons]
    rw [ih (applyM h m) (fun m' hm' => hown m' (List.mem_cons_of_mem _ hm')) c hc]
    have hne : c ≠ m.cell := by
      intro e
      rw [e, hown m List.mem_cons_self] at hc
      cases hc
    exact if_neg hne

/-- origin classes of bitmaps that belong to the caller: the deletion bitmaps handed to `Merge`
    (they travel through `Merger.drops` and the `drops`/`dropsIn` parameters), the exclusion
    bitmap handed to `PostingsList` (`PostingsList.except`), a replaced actual bitmap, and any
    bitmap entering through a parameter of an exported function - except the documented output
    parameter of `OrInto`; a method receiver and an origin the extractor could not resolve
    (`receiver`, `other`) count as the caller's too -/
def callerOwned (origin : String × String) : Bool :=
  origin == ("field", "Merger.drops") || origin == ("field", "PostingsList.except") ||
  origin == ("field", "PostingsIterator.ActualBM") ||
  (origin.1 == "entry-param" && origin.2 != "PostingsList.OrInto#0") ||
  origin.1 == "other" || origin.1 == "receiver"

/-- the two tables are disjoint: none of the four origins the package mutates
    (`Bridge.ownedOrigins`) is caller-owned -/
theorem C15_owned_not_caller : ∀ o ∈ Bridge.ownedOrigins, callerOwned o = false := by decide +kernel

/-- no mutation site of the package touches a caller-owned bitmap -/
theorem C15_sites_owned :
    ∀ m ∈ Gen.Mutations.mutatedRoots, callerOwned (m.2.2.1, m.2.2.2) = false :=
  fun m hm => C15_owned_not_caller _ (Bridge.mutations_owned m hm)

/-- C15 on the heap model: assign every cell its origin class; any run of operations whose
    mutations all come from the generated site table leaves caller-owned cells unchanged -/
theorem C15 (originOf : Cell → String × String) (ms : List Mutation) (h : Cell → List Nat)
    (hsites : ∀ m ∈ ms, ∃ s ∈ Gen.Mutations.mutatedRoots, originOf m.cell = (s.2.2.1, s.2.2.2)) :
    ∀ c, callerOwned (originOf c) = true → (ms.foldl applyM h) c = h c := by
  apply frame (fun c => callerOwned (originOf c)) ms h
  intro m hm
  obtain ⟨s, hs, he⟩ := hsites m hm
  show callerOwned (originOf m.cell) = false
  rw [he]
  exact C15_sites_owned s hs

/-- non-vacuity: a deletion bitmap is protected, the builder's bitmaps are not -/
example : callerOwned ("field", "Merger.drops") = true ∧ callerOwned ("field", "interim.Postings") = false ∧
    callerOwned ("entry-param", "mergeStoredAndRemap#1") = true := by decide +kernel

end Ice.Props.C15
