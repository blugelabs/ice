import IceModel.Props.C04
import IceModel.Lemmas.FormatTotalNew
import IceModel.Lemmas.FormatTotalBacking
/-
  Property C04, the three items `Props/C04.lean` left open.

  1. Totality of the writer: `C04_total`, from `serialize_ok`, which has the three hypotheses
     actually used.  No size bound is needed for it: positions are `uint64` with wrap-around,
     which never fails; the size bound of `Valid` is needed for READING the file back.
     Consequently every theorem of `Props/C04.lean` holds without the hypothesis `hs`
     (`C04_written`).  `total_needs_*`: each hypothesis is needed.
  2. One loaded value for both backings: `load_toFile` for ANY file; for a written segment
     (`C04_backing_*`) both loads succeed and the two values differ only in `data.mem`.
     `readPostings`, `store` and the doc-value visits agree wherever the memory-backed one
     succeeds, which is everywhere C04_postings / C04_dv speak about.
  3. The segment `New` returns without a file (`initSegment`; `initSegmentV0` is the code before
     commit 6ad80a3) is EQUAL to the segment loaded, memory-backed, from the persisted file,
     `Segment.CRC()` included (`C04_new_eq_load`); before the fix the two differed in one
     observable, the checksum slot of the footer (`C04_new_v0_eq_load`,
     `C04_new_crc_v0_counterexample`).
-/
namespace Ice.Props.C04
open Ice Ice.Model Ice.Model.Format
open Ice.Model.Writer (be unbe Footer footerFields persistFooter parseFooter CRC)
open Ice.Model.ChunkBytes (Entry Coder tfAdds locAdds uvarintU64 Fresh)
open Ice.Model.DocValues (add64 sub64 maxUint64 Data OkLe)

/-- `Valid` without the bound on the size of the output (the only field of `Valid` that mentions
    the result of `serialize`) -/
structure Valid' (K : Codecs) (L : LSeg) : Prop where
  id_first : L.fields.head?.map (·.name) = some idField
  nfields : L.fields.length < 2 ^ 16
  numDocs_eq : L.numDocs = L.stored.length
  numDocs_lt : L.numDocs < 2 ^ 32
  mode : 1 ≤ L.chunkMode ∧ L.chunkMode ≤ 1025
  fields : ∀ f ∈ L.fields, f.Valid L.merger L.numDocs
  empty : L.numDocs = 0 → ∀ f ∈ L.fields,
    f.terms = [] ∧ f.dv = none ∧ f.fieldDocs = 0 ∧ f.fieldFreqs = 0
  stored : C06.Valid K.stored docBlock L.fields.length L.stored
  trailer : ((storedOut K L).chunkOffsets.flatMap putUvarint).length < 2 ^ 32 ∧
    (storedOut K L).chunkOffsets.length < 2 ^ 32

theorem Valid.toValid' {K : Codecs} {L : LSeg} (hv : Valid K L) : Valid' K L :=
  ⟨hv.id_first, hv.nfields, hv.numDocs_eq, hv.numDocs_lt, hv.mode, hv.fields, hv.empty, hv.stored,
    hv.trailer⟩

/-- **C04_total: the writer is total on valid descriptions.**  Every error branch of the model
    (`getChunkSize`: unknown mode; `Coder.new` / `SetChunkSize`: division by zero, negative
    length; `Coder.add` / `Close`: chunk index out of range; `writeTerm`: 1-hit in the builder or
    beyond 31 bits; `writeField`: vellum key order; the content coder of the doc values) is
    excluded by `Valid'`. -/
theorem C04_total (K : Codecs) (L : LSeg) (hv : Valid' K L) :
    ∃ data ft, serialize K L = .ok (data, ft) :=
  serialize_ok K L hv.numDocs_lt hv.mode (fun _ => hv.fields)

theorem Valid'.toValid {K : Codecs} {L : LSeg} (hv : Valid' K L) {data : Bytes} {ft : Footer}
    (hs : serialize K L = .ok (data, ft)) (hsz : data.length + 44 < 2 ^ 62) : Valid K L :=
  ⟨hv.id_first, hv.nfields, hv.numDocs_eq, hv.numDocs_lt, hv.mode, hv.fields, hv.empty, hv.stored,
    hv.trailer, by rw [hs]; exact hsz⟩

/-- `Valid` is `Valid'` plus: the (existing) output is shorter than `2^62 - 44` bytes -/
theorem valid_iff (K : Codecs) (L : LSeg) :
    Valid K L ↔ Valid' K L ∧ ∃ data ft, serialize K L = .ok (data, ft) ∧ data.length + 44 < 2 ^ 62 := by
  constructor
  · intro hv
    obtain ⟨data, ft, hs⟩ := C04_total K L hv.toValid'
    exact ⟨hv.toValid', data, ft, hs, hv.size_lt hs⟩
  · rintro ⟨hv, data, ft, hs, hsz⟩
    exact hv.toValid hs hsz

/-- **C04 without the hypothesis "has been written".**  A valid description is written, and the
    file loads for both backings (all theorems of `Props/C04.lean` apply to `data`, `ft`). -/
theorem C04_written (K : Codecs) (L : LSeg) (hv : Valid K L) (mem : Bool) :
    ∃ data ft ld, serialize K L = .ok (data, ft) ∧ load mem (fileOf K data ft) = .ok ld := by
  obtain ⟨data, ft, hs⟩ := C04_total K L hv.toValid'
  obtain ⟨ld, hl, _⟩ := C04_fields K L hv data ft hs mem
  exact ⟨data, ft, ld, hs, hl⟩

instance (K : Codecs) (L : LSeg) : Decidable (Valid' K L) :=
  decidable_of_iff
    (L.fields.head?.map (·.name) = some idField ∧ L.fields.length < 2 ^ 16 ∧
      L.numDocs = L.stored.length ∧ L.numDocs < 2 ^ 32 ∧ (1 ≤ L.chunkMode ∧ L.chunkMode ≤ 1025) ∧
      (∀ f ∈ L.fields, f.Valid L.merger L.numDocs) ∧
      (L.numDocs = 0 → ∀ f ∈ L.fields,
        f.terms = [] ∧ f.dv = none ∧ f.fieldDocs = 0 ∧ f.fieldFreqs = 0) ∧
      C06.Valid K.stored docBlock L.fields.length L.stored ∧
      (((storedOut K L).chunkOffsets.flatMap putUvarint).length < 2 ^ 32 ∧
        (storedOut K L).chunkOffsets.length < 2 ^ 32))
    ⟨fun ⟨a, b, c, d, e, f, g, h, i⟩ => ⟨a, b, c, d, e, f, g, h, i⟩,
     fun ⟨a, b, c, d, e, f, g, h, i⟩ => ⟨a, b, c, d, e, f, g, h, i⟩⟩

/-- non-vacuity: the example segment of `Props/C04.lean` -/
theorem ex_valid' : Valid' exK exL := ex_valid.toValid'

example : ∃ data ft, serialize exK exL = .ok (data, ft) := C04_total exK exL ex_valid'

/-- a merged segment: as `exL`, written by the merger, the first `_id` term 1-hit encoded -/
def exLm : LSeg :=
  { merger := true, numDocs := 3, chunkMode := 2,
    fields := [
      { name := idField, fieldDocs := 3, fieldFreqs := 3,
        terms := [([48], .oneHit 0 7), ([49], .general [⟨1, 1, 7, []⟩]),
                  ([50], .general [⟨2, 1, 7, []⟩])],
        dv := none },
      { name := [102], fieldDocs := 3, fieldFreqs := 5,
        terms := [([97], .general [⟨0, 2, 9, [⟨1, 1, 0, 1⟩, ⟨1, 3, 4, 5⟩]⟩, ⟨1, 1, 9, []⟩, ⟨2, 1, 300, []⟩]),
                  ([98], .general [⟨1, 1, 9, [⟨1, 2, 2, 3⟩]⟩])],
        dv := some [(0, [[97]]), (1, [[97], [98]]), (2, [[97]])] } ],
    stored := exL.stored }

theorem exm_valid' : Valid' exK exLm := by
  decide +kernel

/-- non-vacuity for the merger (progressive doc-value coder, a 1-hit term) -/
example : ∃ data ft, serialize exK exLm = .ok (data, ft) := C04_total exK exLm exm_valid'

/-! ### every hypothesis the totality proof uses is needed

  One field `_id`, three documents (the stored content of `exL`); each description violates one
  hypothesis of `serialize_ok` and the writer fails in the corresponding branch. -/

def exBad (merger : Bool) (mode : Nat) (terms : List (Bytes × TermDesc))
    (dv : Option (List (Nat × List Bytes))) : LSeg :=
  { merger := merger, numDocs := 3, chunkMode := mode,
    fields := [{ name := idField, fieldDocs := 3, fieldFreqs := 3, terms := terms, dv := dv }],
    stored := exL.stored }

/-- `chunkMode ≤ 1025`: `getChunkSize` returns an error for an unknown mode -/
theorem total_needs_mode_known :
    serialize exK (exBad false 1026 [([48], .general [⟨0, 1, 7, []⟩])] none) = .err := by
  decide +kernel

/-- `1 ≤ chunkMode`: `SetChunkSize(0, …)` divides by zero -/
theorem total_needs_mode_pos :
    serialize exK (exBad false 0 [([48], .general [⟨0, 1, 7, []⟩])] none) = .panic := by
  decide +kernel

/-- `TermDesc.Valid`: the builder has no 1-hit encoding -/
theorem total_needs_no_1hit_in_builder :
    serialize exK (exBad false 2 [([48], .oneHit 0 7)] none) = .err := by
  decide +kernel

/-- `EntriesOK`: a posting for document 5 of a 3-document segment: `chunkLens[currChunk]` is out
    of range in `Close` -/
theorem total_needs_doc_range :
    serialize exK (exBad false 2 [([48], .general [⟨5, 1, 7, []⟩])] none) = .panic := by
  decide +kernel

/-- `ascKeys`: vellum's `Insert` refuses a key that is not above the previous one -/
theorem total_needs_asc_keys :
    serialize exK (exBad false 2
      [([49], .general [⟨0, 1, 7, []⟩]), ([48], .general [⟨1, 1, 7, []⟩])] none) = .err := by
  decide +kernel

/-- `C07.Valid`: a doc value for document 1024 of a 3-document segment: `chunkLens[currChunk]` is
    out of range in `flushContents` -/
theorem total_needs_dv_range :
    serialize exK (exBad false 2 [] (some [(1024, [[97]])])) = .panic := by
  decide +kernel

/-- **C04_backing_irrelevant.**  The two backings of `segment.Data` load ONE segment value from a
    written file: `load false` returns what `load true` returns with the backing flag flipped.
    The doc-value reader structures are equal (not just equivalent), so are footer, field tables,
    dictionary locations and stored chunk offsets; the stored-fields reader is the same;
    `dictionaryOf` gives the same result for every field id; `readPostings`, the record store and
    every sequence of doc-value visits from any reader state give on the file backing the result
    they give on the memory backing whenever that one succeeds - which it does for every FST
    value (`C04_postings`) and every visit sequence inside the segment (`C04_dv`). -/
theorem C04_backing_irrelevant (K : Codecs) (L : LSeg) (hv : Valid K L) (data : Bytes) (ft : Footer)
    (hs : serialize K L = .ok (data, ft)) :
    ∃ ld, load true (fileOf K data ft) = .ok ld ∧ load false (fileOf K data ft) = .ok ld.toFile ∧
      ld.data = { bytes := data, mem := true } ∧ ld.toFile.data = { bytes := data, mem := false } ∧
      ld.toFile.footer = ld.footer ∧ ld.toFile.fieldsInv = ld.fieldsInv ∧
      ld.toFile.fieldDocs = ld.fieldDocs ∧ ld.toFile.fieldFreqs = ld.fieldFreqs ∧
      ld.toFile.dictLocs = ld.dictLocs ∧ ld.toFile.storedChunkOffsets = ld.storedChunkOffsets ∧
      ld.toFile.dvReaders = ld.dvReaders ∧
      ld.toFile.storedSeg = ld.storedSeg ∧
      (∀ i, dictionaryOf K ld.toFile i = dictionaryOf K ld i) ∧
      (∀ v r, readPostings K ld v = .ok r → readPostings K ld.toFile v = .ok r) ∧
      (∀ v r, ld.store K v = some r → ld.toFile.store K v = some r) ∧
      (∀ (r0 : DocValues.Reader) (ds : List Nat) out,
        DocValues.Reader.visitAll K.dv ld.data dvChunk r0 ds = .ok out →
          DocValues.Reader.visitAll K.dv ld.toFile.data dvChunk r0 ds = .ok out) := by
  obtain ⟨ld, hl, hd, -, hR⟩ := load_written hv hs true
  refine ⟨ld, hl, load_toFile _ _ hl, hd, by show ld.data.toFile = _; rw [hd]; rfl, rfl, rfl, rfl,
    rfl, rfl, rfl, rfl, rfl, ?_,
    fun v r h => readPostings_toFile K _ v r h, fun v r h => store_toFile K _ v r h,
    fun r0 ds out h => DocValues.visitAll_toFile K.dv _ dvChunk ds r0 out h⟩
  -- the memory-backed `dictionaryOf` succeeds for every field id, so the file-backed one agrees
  intro i
  have hok : ∃ x, dictionaryOf K ld i = .ok x := by
    by_cases hnd : 0 < L.numDocs
    · cases hf : L.fields[i]? with
      | some f =>
        obtain ⟨_, hd, _⟩ := hR.dict hnd i f hf
        exact ⟨_, hd⟩
      | none => exact ⟨_, hR.dict_none (.inr hf)⟩
    · exact ⟨_, hR.dict_none (.inl (Nat.eq_zero_of_not_pos hnd))⟩
  obtain ⟨x, hx⟩ := hok
  rw [hx]
  exact dictionaryOf_toFile K _ i _ hx

/-- … for the postings of every term the two backings give the same `readPostings` result (not
    only "if the memory backing succeeds") -/
theorem C04_backing_postings (K : Codecs) (L : LSeg) (hv : Valid K L) (data : Bytes) (ft : Footer)
    (hs : serialize K L = .ok (data, ft)) (hnd : 0 < L.numDocs)
    (i : Nat) (f : FieldDesc) (hf : L.fields[i]? = some f)
    (j : Nat) (key : Bytes) (td : TermDesc) (ht : f.terms[j]? = some (key, td)) :
    ∃ ld fst v p, load true (fileOf K data ft) = .ok ld ∧ load false (fileOf K data ft) = .ok ld.toFile ∧
      dictionaryOf K ld i = .ok (some fst) ∧ dictionaryOf K ld.toFile i = .ok (some fst) ∧
      fst[j]? = some (key, v) ∧
      readPostings K ld v = .ok p ∧ readPostings K ld.toFile v = .ok p := by
  obtain ⟨ld, fst, v, hl, hd, hj, hp⟩ := C04_postings K L hv data ft hs true hnd i f hf j key td ht
  have hp' : ∃ p, readPostings K ld v = .ok p := by
    cases td with
    | oneHit d n => exact ⟨_, hp⟩
    | general es => obtain ⟨fo, lo, raw, cs, h, _⟩ := hp; exact ⟨_, h⟩
  obtain ⟨p, hp⟩ := hp'
  exact ⟨ld, fst, v, p, hl, load_toFile _ _ hl, hd, dictionaryOf_toFile K ld i _ hd, hj, hp,
    readPostings_toFile K ld v p hp⟩

/-- … and for the doc values of every field every visit sequence inside the segment gives the
    same terms and leaves the same reader on both backings, starting from the (one) reader
    `load` opened -/
theorem C04_backing_dv (K : Codecs) (L : LSeg) (hv : Valid K L) (data : Bytes) (ft : Footer)
    (hs : serialize K L = .ok (data, ft)) (hnd : 0 < L.numDocs)
    (i : Nat) (f : FieldDesc) (hf : L.fields[i]? = some f) (vals : List (Nat × List Bytes))
    (hvals : f.dv = some vals) (ds : List Nat) (hds : ∀ d ∈ ds, d ≤ L.numDocs - 1) :
    ∃ ld r0 r', load true (fileOf K data ft) = .ok ld ∧ load false (fileOf K data ft) = .ok ld.toFile ∧
      ld.dvReaders[i]? = some (some r0) ∧ ld.toFile.dvReaders[i]? = some (some r0) ∧
      DocValues.Reader.visitAll K.dv ld.data dvChunk r0 ds =
        .ok (ds.map (DocValues.termsOf vals), r') ∧
      DocValues.Reader.visitAll K.dv ld.toFile.data dvChunk r0 ds =
        .ok (ds.map (DocValues.termsOf vals), r') := by
  obtain ⟨ld, hl, _, _, hp⟩ := C04_dv K L hv data ft hs true
  obtain ⟨_, hsome⟩ := hp hnd i f hf
  obtain ⟨r0, hr0, _, _, _, _, _, hvis⟩ := hsome vals hvals
  obtain ⟨r', hr'⟩ := hvis ds hds
  exact ⟨ld, r0, r', hl, load_toFile _ _ hl, hr0, hr0, hr',
    DocValues.visitAll_toFile K.dv ld.data dvChunk ds r0 _ hr'⟩

/-- non-vacuity: the example file under both backings -/
example : load false (fileOf exK exData exFooter) = .ok (exLoaded true).toFile :=
  load_toFile _ _ ex_load.1

example : (exLoaded true).toFile = exLoaded false := rfl

example := C04_backing_irrelevant exK exL ex_valid exData exFooter ex_serialize

/-! ## 3. the segment `New` returns

  `initSegment` is the code after commit 6ad80a3 (`footer.crc = footerCRC(footer)`),
  `initSegmentV0` the code before it (`footer.crc = s.w.Sum32()` only). -/

/-- the segment `initSegmentBase` built BEFORE commit 6ad80a3 (checksum of the data section) -/
def newSegV0 (K : Codecs) (L : LSeg) (data : Bytes) (ft : Footer) (dictLocs : List Nat)
    (rs : List (Option DocValues.Reader)) : Loaded :=
  { data := { bytes := data, mem := true }, footer := { ft with crc := K.crc.upd 0 data },
    fieldsInv := L.fields.map (·.name), dictLocs := dictLocs,
    fieldDocs := L.fields.map (·.fieldDocs), fieldFreqs := L.fields.map (·.fieldFreqs),
    storedChunkOffsets := (storedOut K L).chunkOffsets, dvReaders := rs }

/-- replace the checksum slot of the footer -/
def _root_.Ice.Model.Format.Loaded.withCrc (ld : Loaded) (c : Nat) : Loaded := { ld with footer := { ld.footer with crc := c } }

theorem newSegV0_withCrc (K : Codecs) (L : LSeg) (data : Bytes) (ft : Footer) (dictLocs : List Nat)
    (rs : List (Option DocValues.Reader)) :
    (newSegV0 K L data ft dictLocs rs).withCrc (K.crc.upd 0 (data ++ footerFields ft)) =
      loadedSeg K L data ft true dictLocs rs := rfl

/-- `New` (repaired and pre-fix) and persist + `load`, side by side: the same tables, the same
    doc-value readers; the repaired `New` builds literally the value `load` builds -/
theorem new_and_load {K : Codecs} {L : LSeg} (hv : Valid K L) {data : Bytes} {ft : Footer}
    (hs : serialize K L = .ok (data, ft)) :
    ∃ mid dictLocs rs, Written K L data ft mid dictLocs ∧
      convert K L = .ok (data, ft, dictLocs, (storedOut K L).chunkOffsets) ∧
      initSegmentV0 K L = .ok (newSegV0 K L data ft dictLocs rs) ∧
      initSegment K L = .ok (loadedSeg K L data ft true dictLocs rs) ∧
      load true (fileOf K data ft) = .ok (loadedSeg K L data ft true dictLocs rs) := by
  obtain ⟨dl, offs, hc⟩ := convert_of_serialize hs
  obtain ⟨rfl, mid, h1, h2, h3⟩ := convert_inv K L data ft dl offs hv.numDocs_lt hc
  have hw : Written K L data ft mid dl := ⟨h1, h2, h3, hv.size_lt hs⟩
  obtain ⟨rs, hrs, -⟩ := loadDv_written hv hw true (K.crc.upd 0 (data ++ footerFields ft))
  -- the doc-value readers do not depend on the checksum slot
  have hrs' := hrs
  rw [loadDvReaders_crc] at hrs'
  refine ⟨mid, dl, rs, hw, hc, ?_, ?_, ?_⟩
  · unfold initSegmentV0
    rw [hc]
    simp only [ChunkBytes.ok_bind, loadDvReaders_crc, hrs', ChunkBytes.pure_eq_ok]
    rfl
  · unfold initSegment
    rw [hc]
    simp only [ChunkBytes.ok_bind, footerCRC_eq, loadDvReaders_crc, hrs', ChunkBytes.pure_eq_ok]
    rfl
  · exact load_of_written hv hs hw true hrs

/-- **C04_new_eq_load** (code after commit 6ad80a3).  The segment `New` returns (built by
    `initSegmentBase` from the builder's tables and the data section, nothing parsed) and the
    segment `load` builds, memory-backed, from the persisted file are EQUAL: `load` re-parses
    exactly the tables the builder held in memory (`fieldsInv`, `fieldDocs`, `fieldFreqs`,
    `dictLocs`, `storedFieldChunkOffsets`), opens the same doc-value readers, and finds in the
    last four bytes of the file the checksum `footerCRC` computed for the in-memory footer.
    Hence every reader of the segment - `Segment.CRC()` included - gives the same answer on
    both: "reading a freshly built segment" is "reading it after persist + load". -/
theorem C04_new_eq_load (K : Codecs) (L : LSeg) (hv : Valid K L) (data : Bytes) (ft : Footer)
    (hs : serialize K L = .ok (data, ft)) :
    ∃ nw ld, initSegment K L = .ok nw ∧ load true (fileOf K data ft) = .ok ld ∧
      ld = nw ∧
      nw.footer = { ft with crc := K.crc.upd 0 (data ++ footerFields ft) } ∧
      nw.data = { bytes := data, mem := true } := by
  obtain ⟨mid, dl, rs, _, _, _, hn, hl⟩ := new_and_load hv hs
  exact ⟨_, _, hn, hl, rfl, rfl, rfl⟩

/-- … and with totality: `New` succeeds on every valid description, and what it returns is what
    loading the persisted segment (memory-backed) gives -/
theorem C04_new (K : Codecs) (L : LSeg) (hv : Valid K L) :
    ∃ data ft nw, serialize K L = .ok (data, ft) ∧ initSegment K L = .ok nw ∧
      load true (fileOf K data ft) = .ok nw := by
  obtain ⟨data, ft, hs⟩ := C04_total K L hv.toValid'
  obtain ⟨nw, ld, hn, hl, he, _⟩ := C04_new_eq_load K L hv data ft hs
  exact ⟨data, ft, nw, hs, hn, he ▸ hl⟩

/-- **the code before commit 6ad80a3**: the segment `New` returned and the loaded one are the same
    value except for the checksum slot of the footer (`New` stored the CRC-32 of the data section,
    `load` finds the CRC-32 of the file without its last four bytes); all other components and
    all readers that do not look at the checksum agree. -/
theorem C04_new_v0_eq_load (K : Codecs) (L : LSeg) (hv : Valid K L) (data : Bytes) (ft : Footer)
    (hs : serialize K L = .ok (data, ft)) :
    ∃ nw ld, initSegmentV0 K L = .ok nw ∧ load true (fileOf K data ft) = .ok ld ∧
      ld = nw.withCrc (K.crc.upd 0 (data ++ footerFields ft)) ∧
      nw.footer = { ft with crc := K.crc.upd 0 data } ∧
      nw.data = { bytes := data, mem := true } ∧ ld.data = nw.data ∧
      ld.footer.numDocs = nw.footer.numDocs ∧
      ld.footer.storedIndexOffset = nw.footer.storedIndexOffset ∧
      ld.footer.fieldsIndexOffset = nw.footer.fieldsIndexOffset ∧
      ld.footer.docValueOffset = nw.footer.docValueOffset ∧
      ld.footer.chunkMode = nw.footer.chunkMode ∧ ld.footer.version = nw.footer.version ∧
      ld.fieldsInv = nw.fieldsInv ∧ ld.fieldDocs = nw.fieldDocs ∧ ld.fieldFreqs = nw.fieldFreqs ∧
      ld.dictLocs = nw.dictLocs ∧ ld.storedChunkOffsets = nw.storedChunkOffsets ∧
      ld.dvReaders = nw.dvReaders ∧
      ld.storedSeg = nw.storedSeg ∧
      (∀ i, dictionaryOf K ld i = dictionaryOf K nw i) ∧
      (∀ v, readPostings K ld v = readPostings K nw v) ∧
      (∀ v, ld.store K v = nw.store K v) ∧
      (∀ (r0 : DocValues.Reader) (ds : List Nat),
        DocValues.Reader.visitAll K.dv ld.data dvChunk r0 ds =
          DocValues.Reader.visitAll K.dv nw.data dvChunk r0 ds) := by
  obtain ⟨mid, dl, rs, _, _, hn, _, hl⟩ := new_and_load hv hs
  refine ⟨_, _, hn, hl, rfl, rfl, rfl, rfl, rfl, rfl, rfl, rfl, rfl, rfl, rfl, rfl, rfl, rfl, rfl,
    rfl, rfl, fun _ => rfl, fun _ => rfl, fun _ => rfl, fun _ _ => rfl⟩

/-- the repaired `New` returns the pre-fix segment with the checksum slot corrected -/
theorem C04_new_eq_v0 (K : Codecs) (L : LSeg) (hv : Valid K L) (data : Bytes) (ft : Footer)
    (hs : serialize K L = .ok (data, ft)) :
    ∃ nw nw0, initSegment K L = .ok nw ∧ initSegmentV0 K L = .ok nw0 ∧
      nw = nw0.withCrc (K.crc.upd 0 (data ++ footerFields ft)) := by
  obtain ⟨mid, dl, rs, _, _, hn0, hn, _⟩ := new_and_load hv hs
  exact ⟨_, _, hn, hn0, rfl⟩

/-- the segment `New` returned for the example BEFORE commit 6ad80a3 -/
def exNewV0 : Loaded := { exLoaded true with footer := { exFooter with crc := 9772 } }

/-- non-vacuity of `C04_new_eq_load`: for the example, the repaired `New` returns the loaded value -/
theorem ex_new : initSegment exK exL = .ok (exLoaded true) := by
  obtain ⟨nw, ld, hn, hl, he, _⟩ := C04_new_eq_load exK exL ex_valid exData exFooter ex_serialize
  rw [ex_load.1] at hl
  cases hl
  rw [← he] at hn
  exact hn

/-- **the defect commit 6ad80a3 repaired** (about `initSegmentV0`, the pre-fix code): the example
    segment as `New` returned it had checksum 9772 (data section), loaded from its file 10277
    (data section and the 40 bytes of footer fields); full equality was false. -/
theorem C04_new_crc_v0_counterexample :
    initSegmentV0 exK exL = .ok exNewV0 ∧ load true (fileOf exK exData exFooter) = .ok (exLoaded true) ∧
    exNewV0 ≠ exLoaded true ∧ exNewV0.withCrc 10277 = exLoaded true := by
  obtain ⟨nw, ld, hn, hl, he, hf, hd, _, _, _, _, _, _, _, h1, h2, h3, h4, h5, h6, _⟩ :=
    C04_new_v0_eq_load exK exL ex_valid exData exFooter ex_serialize
  rw [ex_load.1] at hl
  cases hl
  have hnw : nw = exNewV0 := by
    have hcrc : exK.crc.upd 0 exData = 9772 := by decide +kernel
    rw [hcrc] at hf
    obtain ⟨d, f, a, b, c, e, g, h⟩ := nw
    simp only at hf hd h1 h2 h3 h4 h5 h6
    subst hf hd h1 h2 h3 h4 h5 h6
    rfl
  rw [hnw] at hn
  exact ⟨hn, ex_load.1,
    fun h => absurd (congrArg (fun l : Loaded => l.footer.crc) h) (by decide), rfl⟩

/-- registered name; refers to the PRE-FIX code (`initSegmentV0`): commit 6ad80a3 repaired
    `newWithChunkMode`, and for the repaired `initSegment` the equality holds (`C04_new_eq_load`,
    `ex_new`).  Alias of `C04_new_crc_v0_counterexample`. -/
theorem C04_new_crc_counterexample :
    initSegmentV0 exK exL = .ok exNewV0 ∧ load true (fileOf exK exData exFooter) = .ok (exLoaded true) ∧
    exNewV0 ≠ exLoaded true ∧ exNewV0.withCrc 10277 = exLoaded true :=
  C04_new_crc_v0_counterexample

end Ice.Props.C04

/-! axiom audit (expected: a subset of propext, Classical.choice, Quot.sound) -/
section Audit
open Ice.Props.C04
#print axioms C04_total
#print axioms Ice.Model.Format.serialize_ok
#print axioms valid_iff
#print axioms C04_written
#print axioms exm_valid'
#print axioms total_needs_mode_known
#print axioms total_needs_mode_pos
#print axioms total_needs_no_1hit_in_builder
#print axioms total_needs_doc_range
#print axioms total_needs_asc_keys
#print axioms total_needs_dv_range
#print axioms Ice.Model.Format.load_toFile
#print axioms C04_backing_irrelevant
#print axioms C04_backing_postings
#print axioms C04_backing_dv
#print axioms C04_new_eq_load
#print axioms C04_new
#print axioms C04_new_v0_eq_load
#print axioms C04_new_eq_v0
#print axioms ex_new
#print axioms C04_new_crc_v0_counterexample
#print axioms C04_new_crc_counterexample
end Audit
