import IceModel.Lemmas.Stored
/-
  Property C06: `VisitStoredFields(n)` delivers exactly the stored values of document `n`, in
  field-list order and input order within a field, stops when the visitor returns false, delivers
  nothing for `n ≥ Count`; wherever the document sits inside a compressed block and however short
  its record is - and whatever the pooled visit context was used for before.
-/
namespace Ice.Props.C06
open Ice Ice.Model Ice.Model.Stored
open Ice.Model.Writer (be unbe)

/-- Valid input: a positive block size (Go: 128), at most 2^16 fields (field ids are `uint16` in
    the writer) and every field id of the documents among them; the uncompressed records and the
    written section fit Go's `int` (slice lengths are below 2^63). -/
def Valid (cd : Codec) (bs numFields : Nat) (docs : List Doc) : Prop :=
  0 < bs ∧ numFields ≤ 2 ^ 16 ∧ (∀ d ∈ docs, ∀ fv ∈ d, fv.1 < numFields) ∧
  (docs.map record).flatten.length < 2 ^ 63 ∧
  (writeStoredFields cd bs docs).bytes.length < 2 ^ 63

instance (cd : Codec) (bs numFields : Nat) (docs : List Doc) : Decidable (Valid cd bs numFields docs) := by
  unfold Valid; exact inferInstance

theorem flat_fields {nf : Nat} {d : Doc} (h : ∀ fv ∈ d, fv.1 < nf) (hnf : nf ≤ 2 ^ 16) :
    ∀ p ∈ flat d, p.1 < nf ∧ p.1 < 2 ^ 64 := by
  intro p hp
  simp only [flat, List.mem_flatMap, List.mem_map] at hp
  obtain ⟨fv, hfv, v, _, rfl⟩ := hp
  have := h fv hfv
  exact ⟨this, by simp only; omega⟩

/-- **C06 (visit).**  On the segment built from `docs`, for every document number below the
    count, every incoming context buffer (any content, any capacity) and every visitor stop:
    the visit neither panics nor fails and delivers exactly the stored values of the document in
    order, up to and including the one at which the visitor answers `false`. -/
theorem C06_visit (cd : Codec) (bs nf : Nat) (docs : List Doc) (tail : Bytes)
    (hv : Valid cd bs nf docs) (n : Nat) (hn : n < docs.length) (buf : Buf) (stop : Option Nat) :
    ∃ buf', visit cd (segOfNew cd bs nf docs tail) buf n stop =
      .ok (takeStop stop (flat docs[n]), buf') := by
  obtain ⟨hbs, hnf, hfields, hblk, hfile⟩ := hv
  obtain ⟨W, dso, hbytes, hsio, hdl, hloc⟩ := writeStoredFields_located cd bs hbs docs
  refine visit_located cd (segOfNew cd bs nf docs tail) buf n stop _ W dso tail
    (docs.map record).flatten.length ?_ hsio hn (hloc n _ (List.getElem?_eq_getElem hn)) hblk ?_ ?_
  · show (writeStoredFields cd bs docs).bytes ++ tail = _
    rw [hbytes, List.append_assoc]
  · rw [hbytes, List.length_append, flatMap_be8_length] at hfile
    exact hfile
  · exact flat_fields (hfields _ (List.getElem_mem hn)) hnf

/-- **C06 (beyond the count).**  Nothing is delivered and the context is left alone. -/
theorem C06_beyond (cd : Codec) (bs nf : Nat) (docs : List Doc) (tail : Bytes)
    (n : Nat) (hn : docs.length ≤ n) (buf : Buf) (stop : Option Nat) :
    visit cd (segOfNew cd bs nf docs tail) buf n stop = .ok ([], buf) := by
  unfold visit visitWith
  rw [if_neg (by show ¬ n < docs.length; omega)]

/-- the context buffer after a sequence of visits `(docNum, stop)` -/
def bufAfter (cd : Codec) (s : Seg) : List (Nat × Option Nat) → Buf → Buf
  | [], b => b
  | (n, st) :: h, b =>
    match visit cd s b n st with
    | .ok (_, b') => bufAfter cd s h b'
    | _ => bufAfter cd s h b

/-- what the visitor saw -/
def delivered (r : Res (List (Nat × Bytes) × Buf)) : Res (List (Nat × Bytes)) := Res.map Prod.fst r

/-- **C06 (history).**  What a visit delivers does not depend on the earlier visits that used the
    same pooled context: it equals the result with a fresh context.  (`C06_visit` holds for *any*
    incoming buffer, so the same is true when the context was last used on another segment.) -/
theorem C06_history (cd : Codec) (bs nf : Nat) (docs : List Doc) (tail : Bytes)
    (hv : Valid cd bs nf docs) (hist : List (Nat × Option Nat)) (n : Nat) (stop : Option Nat) :
    delivered (visit cd (segOfNew cd bs nf docs tail)
        (bufAfter cd (segOfNew cd bs nf docs tail) hist Buf.empty) n stop) =
      delivered (visit cd (segOfNew cd bs nf docs tail) Buf.empty n stop) := by
  by_cases hn : n < docs.length
  · obtain ⟨b1, h1⟩ := C06_visit cd bs nf docs tail hv n hn
      (bufAfter cd (segOfNew cd bs nf docs tail) hist Buf.empty) stop
    obtain ⟨b2, h2⟩ := C06_visit cd bs nf docs tail hv n hn Buf.empty stop
    rw [h1, h2]; rfl
  · rw [C06_beyond cd bs nf docs tail n (by omega), C06_beyond cd bs nf docs tail n (by omega)]
    rfl

/-! ## segments loaded from a file -/

/-- additionally for `load`: the trailer's byte length and the number of chunk offsets fit their
    `uint32` fields, and the stored section is not the very end of the data (the last offset is
    read through a 10-byte window; in a real file the fields section follows) -/
def ValidLoad (cd : Codec) (bs numFields : Nat) (docs : List Doc) (tail : Bytes) : Prop :=
  Valid cd bs numFields docs ∧
  ((writeStoredFields cd bs docs).chunkOffsets.flatMap putUvarint).length < 2 ^ 32 ∧
  (writeStoredFields cd bs docs).chunkOffsets.length < 2 ^ 32 ∧
  0 < docs.length + tail.length

instance (cd : Codec) (bs numFields : Nat) (docs : List Doc) (tail : Bytes) :
    Decidable (ValidLoad cd bs numFields docs tail) := by
  unfold ValidLoad; exact inferInstance

theorem loadChunk_written (cd : Codec) (bs nf : Nat) (docs : List Doc) (tail : Bytes)
    (hv : ValidLoad cd bs nf docs tail) :
    loadStoredFieldChunk ((writeStoredFields cd bs docs).bytes ++ tail)
      (writeStoredFields cd bs docs).storedIndexOffset =
      .ok (writeStoredFields cd bs docs).chunkOffsets := by
  obtain ⟨⟨hbs, _, _, _, hfile⟩, h1, h2, h3⟩ := hv
  obtain ⟨P, dso, hb, hs, hdl, ho⟩ := writeStoredFields_layout cd bs hbs docs
  exact loadStoredFieldChunk_ok P (dso.flatMap (be 8) ++ tail) _ _ _
    (by rw [hb]; simp only [List.append_assoc]) hs h1 h2
    (Nat.lt_of_le_of_lt (storedIndexOffset_le cd bs docs) hfile)
    (by rw [List.length_append, flatMap_be8_length]; omega)
    (fun o h => Nat.lt_of_le_of_lt (Nat.le_trans (ho o h) (length_le_of_eq_append hb))
      (Nat.lt_trans hfile (by decide)))

/-- **C06 (trailer).**  `loadStoredFieldChunk` recovers from the written bytes exactly the chunk
    offsets the writer held in memory: a loaded segment is the segment that was built. -/
theorem C06_load (cd : Codec) (bs nf : Nat) (docs : List Doc) (tail : Bytes)
    (hv : ValidLoad cd bs nf docs tail) :
    segOfLoad cd bs nf docs tail = .ok (segOfNew cd bs nf docs tail) := by
  unfold segOfLoad
  simp only [loadChunk_written cd bs nf docs tail hv]
  rfl

/-- **C06 (visit, loaded segment).** -/
theorem C06_visit_loaded (cd : Codec) (bs nf : Nat) (docs : List Doc) (tail : Bytes)
    (hv : ValidLoad cd bs nf docs tail) (n : Nat) (hn : n < docs.length) (buf : Buf)
    (stop : Option Nat) :
    ∃ s buf', segOfLoad cd bs nf docs tail = .ok s ∧
      visit cd s buf n stop = .ok (takeStop stop (flat docs[n]), buf') := by
  obtain ⟨buf', h⟩ := C06_visit cd bs nf docs tail hv.1 n hn buf stop
  exact ⟨_, buf', C06_load cd bs nf docs tail hv, h⟩

/-! ## concrete segments: the hypotheses are satisfiable, and the pre-fix reader panics -/

/-- no compression -/
def idCodec : Codec := ⟨id, some, fun _ => rfl⟩

theorem putUvarint_small (x : Nat) (h : x < 128) : putUvarint x = [x] :=
  putUvarint_of_lt h

/-- three documents in blocks of two; several fields, several values per field, an empty value -/
def exDocs2 : List Doc :=
  [[(0, [[1, 2], [3]]), (2, [[], [4, 5, 6]])], [(1, [[7]])], [(1, [[8, 8]])]]

/-- a non-trivial segment (two blocks) satisfies the hypotheses of the theorems -/
example : ValidLoad idCodec 2 3 exDocs2 [] := by
  decide +kernel

/-- four documents in blocks of two: block 0 is `[0,0, 0,0]` (4 bytes), block 1 is a 13-byte
    record followed by the 2-byte record `[0,0]` of a document without stored fields -/
def exDocs : List Doc := [[], [], [(0, [[1, 2, 3, 4, 5, 6, 7, 8]])], []]

def exSeg : Seg :=
  { bs := 2,
    mem := [0, 0, 0, 0, 3, 8, 0, 0, 8, 1, 2, 3, 4, 5, 6, 7, 8, 0, 0, 0, 4, 19, 19, 0, 0, 0, 4,
            0, 0, 0, 4, 0, 0, 0, 0, 0, 0, 0, 0, 0, 0, 0, 0, 0, 0, 0, 2, 0, 0, 0, 0, 0, 0, 0, 0,
            0, 0, 0, 0, 0, 0, 0, 13],
    numDocs := 4, storedIndexOffset := 31, chunkOffsets := [0, 4, 19, 19], numFields := 1 }

/-- the context after visiting document 0 with a fresh context: block 0 has 4 bytes, so the
    decoder allocated capacity 4 + 16 -/
def exBuf : Buf := ⟨List.replicate 20 0, 4⟩

/-- **C06 (pre-fix counterexample, one segment, block size 2).**  On a valid segment, the reader
    with the unclamped 10-byte look-ahead visits document 0 fine (leaving a context of capacity
    20), and then panics on document 3: block 1 (15 bytes) fits the kept buffer, the record of
    document 3 starts at 13 and `buf[13:23]` exceeds the capacity.  The reader as it stands
    delivers the (empty) document; so does the old reader with a fresh context. -/
theorem C06_v0_counterexample :
    segOfNew idCodec 2 1 exDocs [] = exSeg ∧ Valid idCodec 2 1 exDocs ∧
    visit_v0 idCodec exSeg Buf.empty 0 none = .ok ([], exBuf) ∧
    visit_v0 idCodec exSeg exBuf 3 none = .panic ∧
    visit_v0 idCodec exSeg Buf.empty 3 none =
      .ok ([], ⟨[3, 8, 0, 0, 8, 1, 2, 3, 4, 5, 6, 7, 8, 0, 0] ++ List.replicate 16 0, 15⟩) ∧
    visit idCodec exSeg exBuf 3 none =
      .ok ([], ⟨[3, 8, 0, 0, 8, 1, 2, 3, 4, 5, 6, 7, 8, 0, 0] ++ List.replicate 5 0, 15⟩) :=
  ⟨by decide +kernel, by decide +kernel, by decide +kernel, by decide +kernel, by decide +kernel,
    by decide +kernel⟩

/-- the same with Go's block size 128 and two segments sharing the pooled context: segment A is
    one document without stored fields (block `[0,0]`, the context gets capacity 18); segment B
    is a 9-byte record followed by `[0,0]` (block of 11 bytes, last record at 9, `buf[9:19]`) -/
def exSegA : Seg :=
  { bs := 128, mem := [0, 0, 0, 2, 0, 0, 0, 2, 0, 0, 0, 2, 0, 0, 0, 0, 0, 0, 0, 0],
    numDocs := 1, storedIndexOffset := 12, chunkOffsets := [0, 2], numFields := 1 }

def exSegB : Seg :=
  { bs := 128,
    mem := [3, 4, 0, 0, 4, 1, 2, 3, 4, 0, 0, 0, 11, 0, 0, 0, 2, 0, 0, 0, 2, 0, 0, 0, 0, 0, 0, 0, 0,
            0, 0, 0, 0, 0, 0, 0, 9],
    numDocs := 2, storedIndexOffset := 21, chunkOffsets := [0, 11], numFields := 1 }

theorem C06_v0_counterexample_128 :
    segOfNew idCodec 128 1 [[]] [] = exSegA ∧
    segOfNew idCodec 128 1 [[(0, [[1, 2, 3, 4]])], []] [] = exSegB ∧
    Valid idCodec 128 1 [[]] ∧ Valid idCodec 128 1 [[(0, [[1, 2, 3, 4]])], []] ∧
    visit_v0 idCodec exSegA Buf.empty 0 none = .ok ([], ⟨List.replicate 18 0, 2⟩) ∧
    visit_v0 idCodec exSegB ⟨List.replicate 18 0, 2⟩ 1 none = .panic ∧
    visit idCodec exSegB ⟨List.replicate 18 0, 2⟩ 1 none =
      .ok ([], ⟨[3, 4, 0, 0, 4, 1, 2, 3, 4, 0, 0] ++ List.replicate 7 0, 11⟩) := by
  decide +kernel

end Ice.Props.C06
