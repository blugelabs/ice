import IceModel.Gen.ErrFlow
import IceModel.Props.ErrFlow
/-
  Error flow of the read path (property C19): facts about the functions of THIS AREA only.

  The generated table `Gen.ErrFlow.flows` is restricted to the names in `readFns`; every theorem below
  speaks about `readFlows = restrict flows readFns` (or the pinned lists computed from it) and is
  therefore insensitive to a change of the error flow of a function outside the area.  A function of
  the area that disappears from the table makes `read_fns_present` fail.
  The semantics (`Sound`, `checked_sound`, …) is in `Props/ErrFlow.lean`.

  Also in the area, because they are on the path: `DictionaryIterator.Close`,
  `PostingsIterator.Close`, `PostingsIterator.nextDocNumAtOrAfterClean`,
  `PostingsIterator.skipFreqNormReadHasLocs`, `chunkedIntDecoder.readUvarint`,
  `memUvarintReader.ReadUvarint`, `getChunkSize`, `Segment.DocumentValueReader`.
-/
namespace Ice.Props.ErrFlowRead
open Ice Ice.Gen Ice.Bridge.ErrFlow Ice.ErrFlow Ice.Props.ErrFlow

/-- the functions of the area -/
def readFns : List String :=
  ["load", "Load", "parseFooter", "Segment.loadFields", "Segment.loadStoredFieldChunk",
   "Segment.loadDvReaders", "Segment.loadFieldDocValueReader", "Segment.dictionary",
   "Segment.Dictionary", "Dictionary.Close", "Dictionary.Contains", "Dictionary.PostingsList",
   "Dictionary.postingsList", "Dictionary.postingsListFromOffset", "DictionaryIterator.Next",
   "DictionaryIterator.Close", "PostingsList.read", "PostingsList.init1Hit",
   "PostingsList.iterator", "PostingsList.Iterator", "PostingsIterator.Next",
   "PostingsIterator.Advance", "PostingsIterator.Close", "PostingsIterator.nextAtOrAfter",
   "PostingsIterator.nextDocNumAtOrAfter", "PostingsIterator.nextDocNumAtOrAfterClean",
   "PostingsIterator.currChunkNext", "PostingsIterator.loadChunk",
   "PostingsIterator.readFreqNormHasLocs", "PostingsIterator.readLocation",
   "PostingsIterator.skipFreqNormReadHasLocs", "newChunkedIntDecoder",
   "chunkedIntDecoder.loadChunk", "chunkedIntDecoder.readUvarint", "memUvarintReader.ReadUvarint",
   "getChunkSize", "docValueReader.loadDvChunk", "docValueReader.visitDocValues",
   "docValueReader.iterateAllDocValues", "Segment.visitDocumentFieldTerms",
   "DocumentValueReader.VisitDocumentValues", "Segment.DocumentValueReader",
   "Segment.VisitStoredFields", "Segment.visitDocument", "Segment.getDocStoredMetaAndUnCompressed",
   "Segment.getDocStoredOffsets", "Segment.getDocStoredOffsetsOnly", "Segment.DocsMatchingTerms",
   "Segment.CollectionStats", "ZSTDDecompress"]

/-- their flows -/
def readFlows : Flows := restrict ErrFlow.flows readFns

/-- the structured program of a function of the area (`[]` for any other name) -/
def progOf (name : String) : Prog := progIn readFlows name

/-- the functions of the area without / with an unchecked call -/
def readCovered : List String := coveredIn ErrFlow.flows readFns
def readNotCovered : List String := notCoveredIn ErrFlow.flows readFns

/-- the area's table, evaluated once for presence, well-formedness, its two lists of exceptions
    (`read_unchecked_pinned`, `read_dropped_pinned`) and its covered functions (`read_covered_eq`) -/
theorem read_ok : AreaOK ErrFlow.flows readFns
    (unch := [("DictionaryIterator.Next", "Next"),
     ("PostingsIterator.nextAtOrAfter", "nextDocNumAtOrAfter"),
     ("Segment.Dictionary", "dictionary"), ("Segment.visitDocument", "ReadUvarint")])
    (drop := [("Segment.visitDocumentFieldTerms", "visitDocValues")])
    (cov := ["Dictionary.Close", "Dictionary.Contains", "Dictionary.PostingsList",
     "Dictionary.postingsList", "Dictionary.postingsListFromOffset", "DictionaryIterator.Close",
     "DocumentValueReader.VisitDocumentValues", "Load", "PostingsIterator.Advance",
     "PostingsIterator.Close", "PostingsIterator.Next", "PostingsIterator.currChunkNext",
     "PostingsIterator.loadChunk", "PostingsIterator.nextDocNumAtOrAfter",
     "PostingsIterator.nextDocNumAtOrAfterClean", "PostingsIterator.readFreqNormHasLocs",
     "PostingsIterator.readLocation", "PostingsIterator.skipFreqNormReadHasLocs",
     "PostingsList.Iterator", "PostingsList.init1Hit", "PostingsList.iterator",
     "PostingsList.read", "Segment.CollectionStats", "Segment.DocsMatchingTerms",
     "Segment.DocumentValueReader", "Segment.VisitStoredFields", "Segment.dictionary",
     "Segment.getDocStoredMetaAndUnCompressed", "Segment.getDocStoredOffsets",
     "Segment.getDocStoredOffsetsOnly", "Segment.loadDvReaders", "Segment.loadFieldDocValueReader",
     "Segment.loadFields", "Segment.loadStoredFieldChunk", "Segment.visitDocumentFieldTerms",
     "ZSTDDecompress", "chunkedIntDecoder.loadChunk", "chunkedIntDecoder.readUvarint",
     "docValueReader.iterateAllDocValues", "docValueReader.loadDvChunk",
     "docValueReader.visitDocValues", "getChunkSize", "load", "memUvarintReader.ReadUvarint",
     "newChunkedIntDecoder", "parseFooter"]) := by
  decide +kernel

/-- every function of the area is in the generated table … -/
theorem read_fns_present : ∀ n ∈ readFns, n ∈ ErrFlow.flows.map (·.1) := read_ok.present

/-- … exactly once -/
theorem read_names_nodup : (readFlows.map (·.1)).Nodup ∧ readFlows.length = readFns.length :=
  ⟨read_ok.wf.1, read_ok.length⟩

/-- for a function of the area, the area's table and the whole table give the same program -/
theorem read_progOf_whole : ∀ n ∈ readFns, progOf n = progIn ErrFlow.flows n :=
  fun _ hn => progIn_restrict _ _ hn

/-- every flow of the area parses (balanced braces, known events only) -/
theorem read_parse_ok : ∀ f ∈ readFlows, (parse f.2).isSome := fun f hf => (read_ok.wf.2 f hf).1

/-- `progOf` is the structure of the generated flat list -/
theorem read_progOf_flat : ∀ f ∈ readFlows, flat (progOf f.1) = f.2 :=
  fun _ => read_ok.wf.flat_progIn

/-- the call inside a wrapping check `{:err F w R err }` is always `fmt.Errorf` -/
theorem read_wrappers : ∀ f ∈ readFlows, ∀ w ∈ wrappers (progOf f.1), w = "Errorf" :=
  fun _ => read_ok.wf.wrappers_progIn

/-- PINNED: the calls of the area whose error is not checked at once (function, callee) -
    each reviewed by hand (comments at the end of this file) and exercised by the fault legs -/
theorem read_unchecked_pinned : uncheckedIn ErrFlow.flows readFns =
    [("DictionaryIterator.Next", "Next"),
     ("PostingsIterator.nextAtOrAfter", "nextDocNumAtOrAfter"),
     ("Segment.Dictionary", "dictionary"), ("Segment.visitDocument", "ReadUvarint")] :=
  read_ok.unchecked_eq

/-- PINNED: the discarded error results of the area (function, callee): the
    doc-value visit, whose error is turned into an empty result (what C19 allows) -/
theorem read_dropped_pinned : droppedIn ErrFlow.flows readFns =
    [("Segment.visitDocumentFieldTerms", "visitDocValues")] :=
  read_ok.dropped_eq

/-- the functions of the area without an unchecked call … -/
theorem read_covered_eq : readCovered =
    ["Dictionary.Close", "Dictionary.Contains", "Dictionary.PostingsList",
     "Dictionary.postingsList", "Dictionary.postingsListFromOffset", "DictionaryIterator.Close",
     "DocumentValueReader.VisitDocumentValues", "Load", "PostingsIterator.Advance",
     "PostingsIterator.Close", "PostingsIterator.Next", "PostingsIterator.currChunkNext",
     "PostingsIterator.loadChunk", "PostingsIterator.nextDocNumAtOrAfter",
     "PostingsIterator.nextDocNumAtOrAfterClean", "PostingsIterator.readFreqNormHasLocs",
     "PostingsIterator.readLocation", "PostingsIterator.skipFreqNormReadHasLocs",
     "PostingsList.Iterator", "PostingsList.init1Hit", "PostingsList.iterator",
     "PostingsList.read", "Segment.CollectionStats", "Segment.DocsMatchingTerms",
     "Segment.DocumentValueReader", "Segment.VisitStoredFields", "Segment.dictionary",
     "Segment.getDocStoredMetaAndUnCompressed", "Segment.getDocStoredOffsets",
     "Segment.getDocStoredOffsetsOnly", "Segment.loadDvReaders", "Segment.loadFieldDocValueReader",
     "Segment.loadFields", "Segment.loadStoredFieldChunk", "Segment.visitDocumentFieldTerms",
     "ZSTDDecompress", "chunkedIntDecoder.loadChunk", "chunkedIntDecoder.readUvarint",
     "docValueReader.iterateAllDocValues", "docValueReader.loadDvChunk",
     "docValueReader.visitDocValues", "getChunkSize", "load", "memUvarintReader.ReadUvarint",
     "newChunkedIntDecoder", "parseFooter"] :=
  read_ok.covered_eq

theorem read_notCovered_eq_pinned :
    readNotCovered = ((uncheckedIn ErrFlow.flows readFns).map (·.1)).eraseDups :=
  notCoveredOf_eq_eraseDups read_ok.wf.1

/-- … and with one: exactly the functions named in `read_unchecked_pinned` -/
theorem read_notCovered_eq : readNotCovered =
    ["DictionaryIterator.Next", "PostingsIterator.nextAtOrAfter", "Segment.Dictionary",
     "Segment.visitDocument"] := by
  rw [read_notCovered_eq_pinned, read_unchecked_pinned]; decide

/-- every covered function is disciplined: all calls checked at once, wrappers are `Errorf` -/
theorem read_disc : ∀ n ∈ readCovered, Disc (progOf n) := read_ok.wf.disc_covered

/-- SOUNDNESS for the area: in every covered function a failing call is the last thing done (but for
    wrapping the error) and makes the function return a non-nil error; a nil result means that no
    bound call failed (modulo the discarded results of `read_dropped_pinned`) -/
theorem read_sound : ∀ n ∈ readCovered, Sound (progOf n) :=
  sound_of_disc_all read_disc

/-! ### function by function -/

theorem sound_Dictionary_Close : Sound (progOf "Dictionary.Close") :=
  read_sound _ (by rw [read_covered_eq]; repeat constructor)
theorem sound_Dictionary_Contains : Sound (progOf "Dictionary.Contains") :=
  read_sound _ (by rw [read_covered_eq]; repeat constructor)
theorem sound_Dictionary_PostingsList : Sound (progOf "Dictionary.PostingsList") :=
  read_sound _ (by rw [read_covered_eq]; repeat constructor)
theorem sound_Dictionary_postingsList : Sound (progOf "Dictionary.postingsList") :=
  read_sound _ (by rw [read_covered_eq]; repeat constructor)
theorem sound_Dictionary_postingsListFromOffset : Sound (progOf "Dictionary.postingsListFromOffset") :=
  read_sound _ (by rw [read_covered_eq]; repeat constructor)
theorem sound_DictionaryIterator_Close : Sound (progOf "DictionaryIterator.Close") :=
  read_sound _ (by rw [read_covered_eq]; repeat constructor)
theorem sound_DocumentValueReader_VisitDocumentValues : Sound (progOf "DocumentValueReader.VisitDocumentValues") :=
  read_sound _ (by rw [read_covered_eq]; repeat constructor)
theorem sound_Load : Sound (progOf "Load") :=
  read_sound _ (by rw [read_covered_eq]; repeat constructor)
theorem sound_PostingsIterator_Advance : Sound (progOf "PostingsIterator.Advance") :=
  read_sound _ (by rw [read_covered_eq]; repeat constructor)
theorem sound_PostingsIterator_Close : Sound (progOf "PostingsIterator.Close") :=
  read_sound _ (by rw [read_covered_eq]; repeat constructor)
theorem sound_PostingsIterator_Next : Sound (progOf "PostingsIterator.Next") :=
  read_sound _ (by rw [read_covered_eq]; repeat constructor)
theorem sound_PostingsIterator_currChunkNext : Sound (progOf "PostingsIterator.currChunkNext") :=
  read_sound _ (by rw [read_covered_eq]; repeat constructor)
theorem sound_PostingsIterator_loadChunk : Sound (progOf "PostingsIterator.loadChunk") :=
  read_sound _ (by rw [read_covered_eq]; repeat constructor)
theorem sound_PostingsIterator_nextDocNumAtOrAfter : Sound (progOf "PostingsIterator.nextDocNumAtOrAfter") :=
  read_sound _ (by rw [read_covered_eq]; repeat constructor)
theorem sound_PostingsIterator_nextDocNumAtOrAfterClean : Sound (progOf "PostingsIterator.nextDocNumAtOrAfterClean") :=
  read_sound _ (by rw [read_covered_eq]; repeat constructor)
theorem sound_PostingsIterator_readFreqNormHasLocs : Sound (progOf "PostingsIterator.readFreqNormHasLocs") :=
  read_sound _ (by rw [read_covered_eq]; repeat constructor)
theorem sound_PostingsIterator_readLocation : Sound (progOf "PostingsIterator.readLocation") :=
  read_sound _ (by rw [read_covered_eq]; repeat constructor)
theorem sound_PostingsIterator_skipFreqNormReadHasLocs : Sound (progOf "PostingsIterator.skipFreqNormReadHasLocs") :=
  read_sound _ (by rw [read_covered_eq]; repeat constructor)
theorem sound_PostingsList_Iterator : Sound (progOf "PostingsList.Iterator") :=
  read_sound _ (by rw [read_covered_eq]; repeat constructor)
theorem sound_PostingsList_init1Hit : Sound (progOf "PostingsList.init1Hit") :=
  read_sound _ (by rw [read_covered_eq]; repeat constructor)
theorem sound_PostingsList_iterator : Sound (progOf "PostingsList.iterator") :=
  read_sound _ (by rw [read_covered_eq]; repeat constructor)
theorem sound_PostingsList_read : Sound (progOf "PostingsList.read") :=
  read_sound _ (by rw [read_covered_eq]; repeat constructor)
theorem sound_Segment_CollectionStats : Sound (progOf "Segment.CollectionStats") :=
  read_sound _ (by rw [read_covered_eq]; repeat constructor)
theorem sound_Segment_DocsMatchingTerms : Sound (progOf "Segment.DocsMatchingTerms") :=
  read_sound _ (by rw [read_covered_eq]; repeat constructor)
theorem sound_Segment_DocumentValueReader : Sound (progOf "Segment.DocumentValueReader") :=
  read_sound _ (by rw [read_covered_eq]; repeat constructor)
theorem sound_Segment_VisitStoredFields : Sound (progOf "Segment.VisitStoredFields") :=
  read_sound _ (by rw [read_covered_eq]; repeat constructor)
theorem sound_Segment_dictionary : Sound (progOf "Segment.dictionary") :=
  read_sound _ (by rw [read_covered_eq]; repeat constructor)
theorem sound_Segment_getDocStoredMetaAndUnCompressed : Sound (progOf "Segment.getDocStoredMetaAndUnCompressed") :=
  read_sound _ (by rw [read_covered_eq]; repeat constructor)
theorem sound_Segment_getDocStoredOffsets : Sound (progOf "Segment.getDocStoredOffsets") :=
  read_sound _ (by rw [read_covered_eq]; repeat constructor)
theorem sound_Segment_getDocStoredOffsetsOnly : Sound (progOf "Segment.getDocStoredOffsetsOnly") :=
  read_sound _ (by rw [read_covered_eq]; repeat constructor)
theorem sound_Segment_loadDvReaders : Sound (progOf "Segment.loadDvReaders") :=
  read_sound _ (by rw [read_covered_eq]; repeat constructor)
theorem sound_Segment_loadFieldDocValueReader : Sound (progOf "Segment.loadFieldDocValueReader") :=
  read_sound _ (by rw [read_covered_eq]; repeat constructor)
theorem sound_Segment_loadFields : Sound (progOf "Segment.loadFields") :=
  read_sound _ (by rw [read_covered_eq]; repeat constructor)
theorem sound_Segment_loadStoredFieldChunk : Sound (progOf "Segment.loadStoredFieldChunk") :=
  read_sound _ (by rw [read_covered_eq]; repeat constructor)
theorem sound_Segment_visitDocumentFieldTerms : Sound (progOf "Segment.visitDocumentFieldTerms") :=
  read_sound _ (by rw [read_covered_eq]; repeat constructor)
theorem sound_ZSTDDecompress : Sound (progOf "ZSTDDecompress") :=
  read_sound _ (by rw [read_covered_eq]; repeat constructor)
theorem sound_chunkedIntDecoder_loadChunk : Sound (progOf "chunkedIntDecoder.loadChunk") :=
  read_sound _ (by rw [read_covered_eq]; repeat constructor)
theorem sound_chunkedIntDecoder_readUvarint : Sound (progOf "chunkedIntDecoder.readUvarint") :=
  read_sound _ (by rw [read_covered_eq]; repeat constructor)
theorem sound_docValueReader_iterateAllDocValues : Sound (progOf "docValueReader.iterateAllDocValues") :=
  read_sound _ (by rw [read_covered_eq]; repeat constructor)
theorem sound_docValueReader_loadDvChunk : Sound (progOf "docValueReader.loadDvChunk") :=
  read_sound _ (by rw [read_covered_eq]; repeat constructor)
theorem sound_docValueReader_visitDocValues : Sound (progOf "docValueReader.visitDocValues") :=
  read_sound _ (by rw [read_covered_eq]; repeat constructor)
theorem sound_getChunkSize : Sound (progOf "getChunkSize") :=
  read_sound _ (by rw [read_covered_eq]; repeat constructor)
theorem sound_load : Sound (progOf "load") :=
  read_sound _ (by rw [read_covered_eq]; repeat constructor)
theorem sound_memUvarintReader_ReadUvarint : Sound (progOf "memUvarintReader.ReadUvarint") :=
  read_sound _ (by rw [read_covered_eq]; repeat constructor)
theorem sound_newChunkedIntDecoder : Sound (progOf "newChunkedIntDecoder") :=
  read_sound _ (by rw [read_covered_eq]; repeat constructor)
theorem sound_parseFooter : Sound (progOf "parseFooter") :=
  read_sound _ (by rw [read_covered_eq]; repeat constructor)

/-! ### the exceptions of the area: how each unchecked error IS examined in the source

  For the 4 functions of `readNotCovered` the discipline is genuinely violated, so `checked_sound`
  says nothing; each error is examined in another way (source read at HEAD of /repo).

  * `Segment.visitDocument` / `ReadUvarint` (segment.go): `field, err := binary.ReadUvarint(r);
    if err == io.EOF { break }; if err != nil { return err }`.  The `break` sits between the call and
    its check - exactly the shape of `Props.ErrFlow.unsound_example`.  HARMLESS BY DESIGN: `io.EOF` from
    the first varint of a (field, offset, length) triple is the regular end of the meta section, the
    function then returns nil; every other error reaches the check that follows.  The model reproduces
    the swallowed failure (`visitDocument_model_run`): this one is a TRUE report of the checker.
  * `PostingsIterator.nextAtOrAfter` / `nextDocNumAtOrAfter` (posting.go):
    `if err != nil || !exists { return nil, err }` - a COMBINED CONDITION (the translator marks `{:err`
    only for the bare `x != nil`), the error is returned.  HARMLESS.
  * `Segment.Dictionary` / `dictionary` (segment.go): `dict, err := s.dictionary(field);
    if err == nil && dict == nil { return emptyDictionary, nil }; return dict, err` - RETURNED AT THE
    END; the block in between is guarded by `err == nil`.  HARMLESS.
  * `DictionaryIterator.Next` / `Next` (dict.go): `i.err = i.itr.Next(); return &i.entry, nil` - the
    error is stored in the iterator and examined at the START OF THE NEXT CALL
    (`if i.err != nil && i.err != vellum.ErrIteratorDone { return nil, i.err }`).  The call that hit the
    failure reports success with the entry read before it; the failure surfaces one call later.  Not lost
    as long as the caller keeps calling `Next` until it gets `nil, nil` (the iterator contract, which the
    fault legs of C19 exercise); the error variable here outlives the call (assumption A2 fails).
-/

/-- `Segment.visitDocument`: in the model - as in Go when the error is `io.EOF` - the first
    `ReadUvarint` of a round can fail and the function return nil -/
theorem visitDocument_model_run :
    Run (progOf "Segment.visitDocument")
      [⟨false, "getDocStoredMetaAndUnCompressed", false⟩, ⟨false, "ReadUvarint", true⟩]
      (.returned false) := by
  rw [read_progOf_whole _ (by repeat constructor)]
  exact run_Run (fuel := 20) (orc := [1, 0, 1, 1, 1, 0, 0, 2, 0]) (orc' := []) (o := .ret false)
    (by decide +kernel)

/-- the function with the discarded result of the area (`Segment.visitDocumentFieldTerms` goes on after
    a failed `visitDocValues`, whose error only empties the result) counts as covered: a `D` is no `F` -/
theorem visitDocumentFieldTerms_covered : "Segment.visitDocumentFieldTerms" ∈ readCovered := by
  rw [read_covered_eq]; repeat constructor

end Ice.Props.ErrFlowRead
