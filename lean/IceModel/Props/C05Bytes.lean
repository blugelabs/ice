import IceModel.Model.IterBytes
import IceModel.Lemmas.IterBytesMk
import IceModel.Lemmas.IterBytesReuse
import IceModel.Props.C05
import IceModel.Props.ChunkBytes
/-
  Property C05 at the BYTE level, and property C13 (reuse of a `PostingsIterator`).

  The byte-level model of `PostingsIterator` (`Model/IterBytes.lean`: the two chunk readers are
  `chunkedIntDecoder`s with their buffers and `memUvarintReader` cursors over the bytes of the
  segment) SIMULATES the entry-level model (`Model/Iter.lean`), which by `C05_entry` equals the
  specification iterator.  Composition of: T2/T3 (one entry ↔ its bytes), T6/T7 (chunks ↔ stream),
  C05_entry (entry-level iterator = specification).

  (B1) forward simulation of one `Next`/`Advance` from every well-formed state; (B2) `runB (mkB …)`
  answers as the specification for whatever the model writer wrote; (B3) lists without locations
  (`locOffset = 0`, `termNotEncoded`); (B4) reuse (C13): under the hypotheses of (B2) (`B4_env`,
  `B4`), for the decoder alone (`B4_decoder`), and with no hypothesis on the bytes (`B4_any`).
  Nothing is partial.  No field that `reset()` leaves behind is read before it is overwritten:
  B4 holds for every `used` state, so there is no reuse defect to report at HEAD.

  Hypotheses beyond "written by the model writer" (all are input contracts of the Go code):
    * `Entry.Valid` (uint64 ranges, < 2^57 locations);
    * `#locations ≤ freq`   (`nextLocs[0:freq]`, posting.go:496-504; else `T3_freq_contract`);
    * `norm < 2^32`         (`math.Float32frombits(uint32(normBits))`, posting.go:493);
    * every field id `< len(fieldsInv)` (`fieldsInv[fieldID]`, posting.go:449);
    * documents strictly ascending and `≤ maxDoc`; `maxDoc / cs + 1 < 2^63` chunks; file shorter
      than `2^62` bytes; a non-empty prefix in front of the streams (offset 0 means
      `termNotEncoded`); on the file-backed path 10 bytes behind them (`ReadAt` of a 10-byte varint
      window fails at EOF).
-/
namespace Ice.Props.C05Bytes
open Ice Ice.Spec Ice.Model Ice.Model.ChunkBytes Ice.Model.IterBytes
open Ice.Model.Iter (RFlags It)
open Ice.Props.ChunkBytes (T6_writeAt T7_chunks T7_sorted)

/-- (B1, forward simulation) In a well-formed state, whenever the entry-level model makes a step
    from the abstraction, the byte-level model makes the same step: same answer, no `err`, no
    `panic`, well-formed successor, and the abstraction commutes. -/
theorem B1_sim {E : Env} (hE : E.OK) {i : ItB} (h : WF E i) (op : IterOp) {r : Option Posting}
    {j : It} (hj : Iter.step (absIt E i) op = some (r, j)) :
    ∃ i', stepB E.K i op = .ok (r, i') ∧ WF E i' ∧ absIt E i' = j ∧ i'.fl = i.fl := by
  obtain ⟨⟨_, i'⟩, e, rfl, w, f, a⟩ := stepB_sim hE ⟨h, rfl, rfl⟩ op _ hj
  exact ⟨i', e, w, a, f⟩

/-- well formed, and the abstraction satisfies the invariant of `C05_entry` for the remaining
    live postings `L` -/
def WFR (E : Env) (fl : RFlags) (lv : Posting → Bool) (cl : Bool) (i : ItB) (L : List Posting) : Prop :=
  WF E i ∧ Iter.StepInv E.cs (E.es.map (toP E.finv)) fl lv cl (absIt E i) L

/-- (B1) For entries in ascending document order: from a reachable (`WFR`) state every operation
    of the byte-level iterator succeeds, leads to a reachable state, is the entry-level step of the
    abstraction, and answers what the specification iterator answers. -/
theorem B1 {E : Env} (hE : E.OK) (hs : Iter.SortedP (E.es.map (toP E.finv))) {fl : RFlags}
    (hfl : fl.incL = true → fl.incFN = true) {lv : Posting → Bool} {cl : Bool}
    (hmode : cl = true → ∀ p, lv p = true) {i : ItB} {L : List Posting} (h : WFR E fl lv cl i L)
    (op : IterOp) :
    ∃ r i', stepB E.K i op = .ok (r, i') ∧ WFR E fl lv cl i' (iterStep L op).2 ∧
      Iter.step (absIt E i) op = some (r, absIt E i') ∧
      r = (iterStep L op).1.map (Iter.decoded fl) := by
  obtain ⟨j, hstep, hinv⟩ := Iter.step_spec hE.cspos hs hmode hfl (absIt E i) L op h.2
  obtain ⟨i', e, w, a, _⟩ := B1_sim hE h.1 op hstep
  exact ⟨_, i', e, ⟨w, by rw [a]; exact hinv⟩, by rw [a]; exact hstep, rfl⟩

/-- the states a script runs through (the transcript of `runB` with the state after each call) -/
def statesB (K : Codec) : ItB → List IterOp → List ItB
  | _, [] => []
  | i, op :: ops =>
    match stepB K i op with
    | .ok (_, i') => i' :: statesB K i' ops
    | _ => []

theorem run_sim {E : Env} (hE : E.OK) (ops : List IterOp) : ∀ (i : ItB), WF E i →
    (∀ x ∈ Iter.run (absIt E i) ops, x ≠ none) →
    runB E.K i ops = (Iter.run (absIt E i) ops).map resOf ∧
      ∀ s ∈ statesB E.K i ops, WF E s ∧ s.fl = i.fl := by
  induction ops with
  | nil => exact fun _ _ _ => ⟨rfl, fun _ hs => nomatch hs⟩
  | cons op ops ih =>
    intro i h hno
    rw [Iter.run] at hno ⊢
    rw [runB, statesB]
    refine (stepB_sim hE ⟨h, rfl, rfl⟩ op).elim (fun p q hpq hno => ?_)
      (fun _ hno => absurd rfl (hno none (List.mem_cons_self ..))) hno
    obtain ⟨o, i1⟩ := p
    obtain ⟨o', j1⟩ := q
    obtain ⟨rfl, h1, f1, rfl⟩ := hpq
    obtain ⟨hr, hs⟩ := ih _ h1 fun x hx => hno x (List.mem_cons_of_mem _ hx)
    refine ⟨congrArg _ hr, fun s hs' => ?_⟩
    rcases List.mem_cons.mp hs' with rfl | hs'
    · exact ⟨h1, f1⟩
    · exact ⟨(hs s hs').1, (hs s hs').2.trans f1⟩

/-- (B1) along a whole script: as long as the entry-level model does not fault, the byte-level
    transcript is the entry-level transcript -/
theorem B1_run {E : Env} (hE : E.OK) {i : ItB} (h : WF E i) (ops : List IterOp)
    (hno : ∀ x ∈ Iter.run (absIt E i) ops, x ≠ none) :
    runB E.K i ops = (Iter.run (absIt E i) ops).map resOf :=
  (run_sim hE ops i h hno).1

/-- T6/T7 in the form `Env.OK` uses -/
theorem streams_load (K : Codec) (cs maxDoc : Nat) (hpos : 0 < cs) (hm : maxDoc / cs + 1 < 2 ^ 63)
    (es : List Entry) (hs : es.Pairwise (fun a b => a.doc ≤ b.doc)) (hdoc : ∀ e ∈ es, e.doc ≤ maxDoc)
    (tf lc tf' lc' : Coder)
    (htf : Coder.new cs maxDoc = .ok tf) (hlc : Coder.new cs maxDoc = .ok lc)
    (htf' : tf.encode K (tfAdds es) = .ok tf') (hlc' : lc.encode K (locAdds es) = .ok lc')
    (file : Bool) (pre suf : Bytes) (hpre : pre ≠ [])
    (hsz : (layout pre tf' lc' suf).2.2.length < 2 ^ 62) (hsuf : file = true → 10 ≤ suf.length) :
    ∃ dt dl, Decoder.newWith file (layout pre tf' lc' suf).2.2 (layout pre tf' lc' suf).1 = .ok dt ∧
      Decoder.newWith file (layout pre tf' lc' suf).2.2 (layout pre tf' lc' suf).2.1 = .ok dl ∧
      ∀ c, c ≤ maxDoc / cs →
        dt.loadChunk K c = .ok (fnBytes (chunkE cs es c)) ∧
        dl.loadChunk K c = .ok (locBytes (chunkE cs es c)) := by
  obtain ⟨hf1, hc1, hl1⟩ := Coder.new_fresh hpos hm htf
  obtain ⟨hf2, hc2, hl2⟩ := Coder.new_fresh hpos hm hlc
  obtain ⟨dt, dl, hdt, hdl, hload⟩ := Props.ChunkBytes.postings_streams_load K cs _ hpos
    (Nat.succ_pos _) es hs (fun e he => chunk_index_lt cs e.doc maxDoc (hdoc e he)) tf lc tf' lc'
    hf1 hc1 hl1 hf2 hc2 hl2 htf' hlc' file pre suf hpre hsz hsuf
  exact ⟨dt, dl, hdt, hdl, fun c hc => hload c (Nat.lt_succ_of_le hc)⟩

/-- the input contract of the reader on the entries (the file head says where each clause comes
    from) -/
structure Contract (finv : List Bytes) (maxDoc : Nat) (es : List Entry) : Prop where
  valid : ∀ e ∈ es, e.Valid
  freq : ∀ e ∈ es, e.locs.length ≤ e.freq
  norm : ∀ e ∈ es, e.norm < 2 ^ 32
  fld : ∀ e ∈ es, ∀ l ∈ e.locs, l.fieldID < finv.length
  doc : ∀ e ∈ es, e.doc ≤ maxDoc
  sorted : es.Pairwise (fun a b => a.doc < b.doc)

/-- the `PostingsList` a term of the written segment gives -/
def plOf (cs : Nat) (file : Bool) (L : Nat × Nat × Bytes) (finv : List Bytes) (es : List Entry)
    (ex : Option (List Nat)) : PLB :=
  { cs := cs, freqOffset := L.1, locOffset := L.2.1, file := file, data := L.2.2, fieldsInv := finv,
    docs := es.map (·.doc), except := ex }

/-- everything the model writer and `writePostings` do for one term -/
structure Written (K : Codec) (cs maxDoc : Nat) (es : List Entry) (file : Bool) (pre suf : Bytes)
    (L : Nat × Nat × Bytes) : Prop where
  cspos : 0 < cs
  total : maxDoc / cs + 1 < 2 ^ 63
  coders : ∃ tf lc tf' lc', Coder.new cs maxDoc = .ok tf ∧ Coder.new cs maxDoc = .ok lc ∧
    tf.encode K (tfAdds es) = .ok tf' ∧ lc.encode K (locAdds es) = .ok lc' ∧
    L = layout pre tf' lc' suf
  pre : pre ≠ []
  size : L.2.2.length < 2 ^ 62
  suf : file = true → 10 ≤ suf.length

theorem env_of_written {K : Codec} {cs maxDoc : Nat} {es : List Entry} {file : Bool} {pre suf : Bytes}
    {L : Nat × Nat × Bytes} (hw : Written K cs maxDoc es file pre suf L) {finv : List Bytes}
    (hc : Contract finv maxDoc es) :
    ∃ E : Env, E.OK ∧ E.K = K ∧ E.es = es ∧ E.cs = cs ∧ E.finv = finv ∧ E.locOffset = L.2.1 ∧
      ∀ ex, E.pl ex = plOf cs file L finv es ex := by
  obtain ⟨tf, lc, tf', lc', htf, hlc, htf', hlc', rfl⟩ := hw.coders
  have hsle : es.Pairwise (fun a b => a.doc ≤ b.doc) := hc.sorted.imp (fun h => Nat.le_of_lt h)
  obtain ⟨dt, dl, hdt, hdl, hload⟩ := streams_load K cs maxDoc hw.cspos hw.total es hsle hc.doc
    tf lc tf' lc' htf hlc htf' hlc' file pre suf hw.pre hw.size hw.suf
  refine ⟨{ K := K, es := es, cs := cs, maxDoc := maxDoc, file := file,
            data := (layout pre tf' lc' suf).2.2, freqOffset := (layout pre tf' lc' suf).1,
            locOffset := (layout pre tf' lc' suf).2.1, finv := finv, dt := dt, dl := dl },
    ?_, rfl, rfl, rfl, rfl, rfl, fun _ => rfl⟩
  exact ⟨hw.cspos, hc.valid, hc.freq, hc.norm, hc.fld, hc.doc, hdt, hdl,
    fun c h => (hload c h).1, fun c h => (hload c h).2⟩

theorem sorted_map {finv : List Bytes} {es : List Entry} (h : es.Pairwise (fun a b => a.doc < b.doc)) :
    C05.Sorted (es.map (toP finv)) := by
  unfold C05.Sorted
  rw [List.pairwise_map]
  exact h

theorem specRun_ne_none (fl : RFlags) : ∀ (ops : List IterOp) (L : List Posting),
    ∀ x ∈ Iter.specRun fl L ops, x ≠ none := by
  intro ops
  induction ops with
  | nil => intro L x hx; cases hx
  | cons op ops ih =>
    intro L x hx
    simp only [Iter.specRun, List.mem_cons] at hx
    rcases hx with rfl | hx
    · simp
    · exact ih _ x hx

/-- (B2) for any well-formed state that abstracts to the entry-level `mk` -/
theorem run_mk {E : Env} (hE : E.OK) (hs : E.es.Pairwise (fun a b => a.doc < b.doc))
    {ex : Option (List Nat)} {fl : RFlags} (hfl : fl.incL = true → fl.incFN = true) {i : ItB}
    (hwf : WF E i) (habs : absIt E i = Iter.mk E.cs (E.es.map (toP E.finv)) ex fl) (ops : List IterOp) :
    (∀ x ∈ Iter.run (absIt E i) ops, x ≠ none) ∧
      runB E.K i ops = (Iter.specRun fl (live (E.es.map (toP E.finv)) ex) ops).map resOf := by
  have hent := C05.C05_entry E.cs hE.cspos (E.es.map (toP E.finv)) (sorted_map hs) ex fl hfl ops
  have hno : ∀ x ∈ Iter.run (absIt E i) ops, x ≠ none := by
    rw [habs, hent]; exact specRun_ne_none fl ops _
  exact ⟨hno, by rw [(run_sim hE ops i hwf hno).1, habs, hent]⟩

/-- (B2) for an environment and reader flags with `includeLocs → includeFreqNorm` -/
theorem B2_env {E : Env} (hE : E.OK) (hs : E.es.Pairwise (fun a b => a.doc < b.doc))
    (ex : Option (List Nat)) (fl : RFlags) (hfl : fl.incL = true → fl.incFN = true)
    (ops : List IterOp) :
    ∃ i0, mkB (E.pl ex) fl = .ok i0 ∧
      runB E.K i0 ops = (Iter.specRun fl (live (E.es.map (toP E.finv)) ex) ops).map resOf := by
  obtain ⟨i0, hmk, hwf, habs⟩ := iteratorB_ok hE ex fl none
  exact ⟨i0, hmk, (run_mk hE hs hfl hwf habs ops).2⟩

/-- (B2) for what the model writer wrote -/
theorem B2_rflags {K : Codec} {cs maxDoc : Nat} {es : List Entry} {file : Bool} {pre suf : Bytes}
    {L : Nat × Nat × Bytes} (hw : Written K cs maxDoc es file pre suf L) {finv : List Bytes}
    (hc : Contract finv maxDoc es) (ex : Option (List Nat)) (fl : RFlags)
    (hfl : fl.incL = true → fl.incFN = true) (ops : List IterOp) :
    ∃ i0, mkB (plOf cs file L finv es ex) fl = .ok i0 ∧
      runB K i0 ops = (Iter.specRun fl (live (es.map (toP finv)) ex) ops).map resOf := by
  obtain ⟨E, hE, rfl, rfl, rfl, rfl, _, hpl⟩ := env_of_written hw hc
  exact hpl ex ▸ B2_env hE hc.sorted ex fl hfl ops

/-- (B2) `runB (mkB …) ops` is the specification's transcript: for every chunk size `> 0`, every
    ascending valid entry list written by the model writer, every exclusion list, every flag
    triple of `PostingsList.Iterator`, every script.  No `err`, no `panic`. -/
theorem B2 {K : Codec} {cs maxDoc : Nat} {es : List Entry} {file : Bool} {pre suf : Bytes}
    {L : Nat × Nat × Bytes} (hw : Written K cs maxDoc es file pre suf L) {finv : List Bytes}
    (hc : Contract finv maxDoc es) (ex : Option (List Nat)) (fl : Flags) (ops : List IterOp) :
    ∃ i0, mkB (plOf cs file L finv es ex) (RFlags.of fl) = .ok i0 ∧
      runB K i0 ops =
        (Iter.specRun (RFlags.of fl) (live (es.map (toP finv)) ex) ops).map resOf :=
  B2_rflags hw hc ex (RFlags.of fl) (C05.RFlags.of_wf fl) ops

/-- a byte-level answer seen through the flags the caller asked for -/
def viewRes (fl : Flags) : Res (Option Posting) → Res (Option Posting)
  | .ok o => .ok (o.map (view fl))
  | .err => .err
  | .panic => .panic

theorem specRun_view (fl : Flags) (L : List Posting) (ops : List IterOp) :
    ((Iter.specRun (RFlags.of fl) L ops).map resOf).map (viewRes fl) = (iterRun fl L ops).map .ok := by
  have hview := Iter.specRun_view fl L ops
  have : (viewRes fl ∘ resOf) =
      (fun r => match r with
        | some o => Res.ok o
        | none => Res.err) ∘ (fun r : Option (Option Posting) => r.map (fun o => o.map (view fl))) := by
    funext r
    cases r <;> rfl
  rw [List.map_map, this, ← List.map_map, hview, List.map_map]
  rfl

/-- (B2) in the vocabulary of the correspondence harness (`Spec.iterRun`, `view`) -/
theorem B2_view {K : Codec} {cs maxDoc : Nat} {es : List Entry} {file : Bool} {pre suf : Bytes}
    {L : Nat × Nat × Bytes} (hw : Written K cs maxDoc es file pre suf L) {finv : List Bytes}
    (hc : Contract finv maxDoc es) (ex : Option (List Nat)) (fl : Flags) (ops : List IterOp) :
    ∃ i0, mkB (plOf cs file L finv es ex) (RFlags.of fl) = .ok i0 ∧
      (runB K i0 ops).map (viewRes fl) = (iterRun fl (live (es.map (toP finv)) ex) ops).map .ok := by
  obtain ⟨i0, h1, h2⟩ := B2 hw hc ex fl ops
  exact ⟨i0, h1, h2 ▸ specRun_view fl _ ops⟩

theorem locAdds_nil {es : List Entry} (h : ∀ e ∈ es, e.locs = []) : locAdds es = [] := by
  unfold locAdds
  apply List.flatMap_eq_nil_iff.mpr
  intro e he
  simp [locAddsOf, h e he]

/-- (B3) a list none of whose postings has locations gets `locOffset = 0` from `writeAt` -/
theorem B3_locOffset {K : Codec} {cs maxDoc : Nat} {es : List Entry} {file : Bool} {pre suf : Bytes}
    {L : Nat × Nat × Bytes} (hw : Written K cs maxDoc es file pre suf L)
    (hnl : ∀ e ∈ es, e.locs = []) : L.2.1 = 0 := by
  obtain ⟨tf, lc, tf', lc', _, hlc, _, hlc', rfl⟩ := hw.coders
  obtain ⟨c0, hnew, hf, _, _⟩ := Coder.new_ok (m := maxDoc) hw.cspos hw.total
  obtain rfl : c0 = lc := Res.ok.inj (hnew.symm.trans hlc)
  -- nothing was added: `Close` appends the compression of the empty buffer, which is empty
  rw [locAdds_nil hnl] at hlc'
  simp only [Coder.encode, Coder.addAll, Coder.close] at hlc'
  have hfin : lc'.final = [] := by
    split at hlc'
    · cases hlc'
      simp [hf.fin, hf.buf, K.z_nil]
    · cases hlc'
  simp [layout, Coder.writeAt, hfin]

/-- (B3) with `locOffset = 0` the location decoder of a well-formed iterator that includes
    locations holds at most a reader on the nil slice at cursor 0: `loadChunk` installs it
    (intdecoder.go:72-75), and no read has ever moved it.  By (B1) every state a run reaches is
    well formed, so the location reader is never touched. -/
theorem B3_idle {E : Env} (hE : E.OK) (h0 : E.locOffset = 0) {i : ItB} (h : WF E i)
    (hl : i.fl.incL = true) :
    ∃ b, i.lcR = some b ∧ b.d.startOffset = 0 ∧ ∀ r, b.r = some r → r = ⟨[], 0⟩ := by
  obtain ⟨b, hb, hok⟩ := h.lc hl
  have hs : b.d.startOffset = 0 := by
    rw [hok.dEq, Decoder.newWith_startOffset hE.newL, h0]
  exact ⟨b, hb, hs, hok.zero hs⟩

/-- (B3) end to end: a list without locations, iterated with `includeLocs`, never errs or panics
    (the transcript is the specification's), although its location stream does not exist, and in
    every state of the run the location decoder is idle (empty reader at cursor 0 or none). -/
theorem B3_run {K : Codec} {cs maxDoc : Nat} {es : List Entry} {file : Bool} {pre suf : Bytes}
    {L : Nat × Nat × Bytes} (hw : Written K cs maxDoc es file pre suf L) {finv : List Bytes}
    (hc : Contract finv maxDoc es) (hnl : ∀ e ∈ es, e.locs = []) (ex : Option (List Nat))
    (fl : Flags) (hlocs : fl.locs = true) (ops : List IterOp) :
    L.2.1 = 0 ∧
    ∃ i0, mkB (plOf cs file L finv es ex) (RFlags.of fl) = .ok i0 ∧
      runB K i0 ops =
        (Iter.specRun (RFlags.of fl) (live (es.map (toP finv)) ex) ops).map resOf ∧
      ∀ s ∈ i0 :: statesB K i0 ops,
        ∃ b, s.lcR = some b ∧ b.d.startOffset = 0 ∧ ∀ r, b.r = some r → r = ⟨[], 0⟩ := by
  have h0 := B3_locOffset hw hnl
  refine ⟨h0, ?_⟩
  obtain ⟨E, hE, rfl, rfl, rfl, rfl, hloc, hpl⟩ := env_of_written hw hc
  obtain ⟨i0, hmk, hwf, habs⟩ := iteratorB_ok hE ex (RFlags.of fl) none
  rw [hpl] at hmk
  obtain ⟨hno, hrun⟩ := run_mk hE hc.sorted (C05.RFlags.of_wf fl) hwf habs ops
  refine ⟨i0, hmk, hrun, fun s hs => ?_⟩
  have hws : WF E s ∧ s.fl = i0.fl := by
    rcases List.mem_cons.mp hs with rfl | hs
    · exact ⟨hwf, rfl⟩
    · exact (run_sim hE ops i0 hwf hno).2 s hs
  have hfl0 : i0.fl = RFlags.of fl := by
    rw [show i0.fl = (absIt E i0).fl from rfl, habs]; cases ex <;> rfl
  exact B3_idle hE (hloc.trans h0) hws.1 (by rw [hws.2, hfl0]; exact hlocs)

/-- (B4) `newChunkedIntDecoder(data, offset, rv)`, for EVERY `rv` (whatever offsets its
    `chunkOffsets` array holds, whatever its capacity), parses exactly the decoder that
    `newChunkedIntDecoder(data, offset, nil)` parses - the resliced array is overwritten index by
    index before anything reads it - keeps `rv`'s other buffers, and fails exactly when and how
    the fresh call fails. -/
theorem B4_decoder (file : Bool) (data : Bytes) (offset : Nat) (rv : Option DecB) :
    (∀ d, Decoder.newWith file data offset = .ok d →
      ∃ tail, newDecB file data offset rv =
        .ok { (rv.getD emptyDec) with d := d, dataNil := false, offsTail := tail }) ∧
    (Decoder.newWith file data offset = .err → newDecB file data offset rv = .err) ∧
    (Decoder.newWith file data offset = .panic → newDecB file data offset rv = .panic) := by
  obtain ⟨tail, h⟩ := newDecB_eq file data offset rv
  rw [h]
  exact ⟨fun d hd => ⟨tail, by rw [hd]; rfl⟩, fun hd => by rw [hd]; rfl, fun hd => by rw [hd]; rfl⟩

/-- (B4) `PostingsList.iterator(…, rv)` with ANY previously used iterator `used` - whatever chunk
    it had loaded, wherever its cursors stood, whatever its buffers hold, whatever flags it was
    created with - and `PostingsList.iterator(…, nil)` both succeed, both states are well formed,
    and `absIt` maps them to the SAME entry-level state. -/
theorem B4_env {E : Env} (hE : E.OK) (used : ItB) (ex : Option (List Nat)) (fl : RFlags) :
    ∃ i0 i1, mkB (E.pl ex) fl = .ok i0 ∧ mkBReuse used (E.pl ex) fl = .ok i1 ∧
      WF E i0 ∧ WF E i1 ∧ absIt E i1 = absIt E i0 := by
  obtain ⟨i0, h0, w0, a0⟩ := iteratorB_ok hE ex fl none
  obtain ⟨i1, h1, w1, a1⟩ := iteratorB_ok hE ex fl (some used)
  exact ⟨i0, i1, h0, h1, w0, w1, a1.trans a0.symm⟩

/-- (B4, C13) hence a reused iterator produces, for every script, the transcript of a fresh one
    (which is the specification's). -/
theorem B4 {K : Codec} {cs maxDoc : Nat} {es : List Entry} {file : Bool} {pre suf : Bytes}
    {L : Nat × Nat × Bytes} (hw : Written K cs maxDoc es file pre suf L) {finv : List Bytes}
    (hc : Contract finv maxDoc es) (used : ItB) (ex : Option (List Nat)) (fl : Flags) :
    ∃ i0 i1, mkB (plOf cs file L finv es ex) (RFlags.of fl) = .ok i0 ∧
      mkBReuse used (plOf cs file L finv es ex) (RFlags.of fl) = .ok i1 ∧
      ∀ ops, runB K i1 ops = runB K i0 ops ∧
        runB K i1 ops =
          (Iter.specRun (RFlags.of fl) (live (es.map (toP finv)) ex) ops).map resOf := by
  obtain ⟨E, hE, rfl, rfl, rfl, rfl, _, hpl⟩ := env_of_written hw hc
  obtain ⟨i0, h0, w0, a0⟩ := iteratorB_ok hE ex (RFlags.of fl) none
  obtain ⟨i1, h1, w1, a1⟩ := iteratorB_ok hE ex (RFlags.of fl) (some used)
  refine ⟨i0, i1, hpl ex ▸ h0, hpl ex ▸ h1, fun ops => ?_⟩
  have r0 := (run_mk hE hc.sorted (C05.RFlags.of_wf fl) w0 a0 ops).2
  have r1 := (run_mk hE hc.sorted (C05.RFlags.of_wf fl) w1 a1 ops).2
  exact ⟨r1.trans r0.symm, r1⟩

/-- a script on what the constructor returned (a failed construction ends the transcript) -/
def runRes (K : Codec) : Res ItB → List IterOp → List (Res (Option Posting))
  | .ok i, ops => runB K i ops
  | .err, _ => [.err]
  | .panic, _ => [.panic]

/-- (B4, C13, no hypothesis at all) For EVERY postings list and EVERY `data` - well-formed streams,
    corrupt bytes, offsets pointing anywhere - every flag pair, every `used` iterator and every
    script: constructing over `used` and running the script gives exactly the transcript of a
    fresh iterator, including where and how it errs or panics.  (The two states differ only in
    stale array tails, `cap(nextLocs)`, a nil reader versus a reader on the nil slice, and
    decoders behind a flag that is off; `ItEq` in `Lemmas/IterBytesReuse.lean` is preserved by
    every operation.) -/
theorem B4_any (K : Codec) (p : PLB) (fl : RFlags) (used : ItB) (ops : List IterOp) :
    runRes K (mkBReuse used p fl) ops = runRes K (mkB p fl) ops :=
  (reuse_run K p fl used).elim (fun _ _ h => h ops) rfl rfl

/-! ## executable instances

  Chunk size 2, documents 0,1,3,4,5 (three chunks), two fields, locations on 0, 3 and 4 (one with a
  two-byte varint), document 3 excluded, an `Advance` from chunk 0 across chunk 1 into chunk 2.
  `exData` are the bytes the model writer produces behind the prefix `[1,2,3]` (checked below,
  by evaluation in the kernel). -/

def exE : List Entry :=
  [ { doc := 0, freq := 1, norm := 10, locs := [⟨0, 0, 0, 1⟩] },
    { doc := 1, freq := 2, norm := 11, locs := [] },
    { doc := 3, freq := 3, norm := 12, locs := [⟨1, 1, 2, 3⟩] },
    { doc := 4, freq := 4, norm := 13, locs := [⟨0, 2, 4, 5⟩, ⟨1, 3, 6, 300⟩] },
    { doc := 5, freq := 5, norm := 14, locs := [] } ]

def exFinv : List Bytes := [[102], [103, 104]]

def exK : Codec := Ice.Props.ChunkBytes.exCodec

def exData : Bytes :=
  [1, 2, 3,
   3, 6, 10, 16, 7, 9, 3, 10, 4, 11, 7, 9, 7, 12, 7, 9, 9, 13, 10, 14,
   3, 7, 14, 26, 7, 9, 4, 0, 0, 0, 1, 7, 9, 4, 1, 1, 2, 3, 7, 9, 9, 0, 2, 4, 5, 1, 3, 6, 172, 2,
   0, 0, 0, 0, 0, 0, 0, 0, 0, 0]

def exL : Nat × Nat × Bytes := (3, 23, exData)

def exFlags : Flags := { freq := true, norm := true, locs := true }

def exOps : List IterOp := [.next, .advance 2, .advance 1, .next, .next]

def exAnswers : List (Res (Option Posting)) :=
  [ .ok (some { doc := 0, freq := 1, norm := 10, locs := [⟨[102], 0, 0, 1⟩] }),
    .ok (some { doc := 4, freq := 4, norm := 13, locs := [⟨[102], 2, 4, 5⟩, ⟨[103, 104], 3, 6, 300⟩] }),
    .ok (some { doc := 5, freq := 5, norm := 14, locs := [] }),
    .ok none, .ok none ]

def exTf : Coder :=
  { chunkSize := 2, lensArr := [0, 0, 0], lensLen := 3, currChunk := 0, chunkBuf := [], final := [] }

def exTf' : Coder :=
  { chunkSize := 2, lensArr := [6, 4, 6], lensLen := 3, currChunk := 3, chunkBuf := [9, 13, 10, 14],
    final := [7, 9, 3, 10, 4, 11, 7, 9, 7, 12, 7, 9, 9, 13, 10, 14] }

def exLc' : Coder :=
  { chunkSize := 2, lensArr := [7, 7, 12], lensLen := 3, currChunk := 3,
    chunkBuf := [9, 0, 2, 4, 5, 1, 3, 6, 172, 2],
    final := [7, 9, 4, 0, 0, 0, 1, 7, 9, 4, 1, 1, 2, 3, 7, 9, 9, 0, 2, 4, 5, 1, 3, 6, 172, 2] }

/-- the model writer (two `chunkedIntCoder`s, `writeAt` twice) produces `exData` and the offsets
    3 and 23 - the hypotheses of B2/B3/B4 are satisfiable -/
theorem exWritten : Written exK 2 5 exE true [1, 2, 3] (List.replicate 10 0) exL :=
  { cspos := by decide +kernel
    total := by decide +kernel
    coders := ⟨exTf, exTf, exTf', exLc', by decide +kernel, by decide +kernel, by decide +kernel,
      by decide +kernel, by decide +kernel⟩
    pre := by decide +kernel
    size := by decide +kernel
    suf := fun _ => by decide +kernel }

theorem exContract : Contract exFinv 5 exE :=
  { valid := by decide +kernel
    freq := by decide +kernel
    norm := by decide +kernel
    fld := by decide +kernel
    doc := by decide +kernel
    sorted := by decide +kernel }

/-- a fresh iterator on the literal bytes, evaluated -/
def exFresh : Res ItB := mkB (plOf 2 true exL exFinv exE (some [3])) (RFlags.of exFlags)

/-- an iterator over the same term without exclusions, advanced into the last chunk
    (`Advance(5)`: chunk 2 loaded, both cursors at the end of their chunk buffers) … -/
def exUsed : Res ItB :=
  match mkB (plOf 2 true exL exFinv exE none) (RFlags.of exFlags) with
  | .ok i =>
    (match stepB exK i (.advance 5) with
     | .ok (_, u) => .ok u
     | .err => .err
     | .panic => .panic)
  | .err => .err
  | .panic => .panic

/-- … and reused for the list with the exclusion -/
def exReused : Res ItB :=
  match exUsed with
  | .ok u => mkBReuse u (plOf 2 true exL exFinv exE (some [3])) (RFlags.of exFlags)
  | .err => .err
  | .panic => .panic

def runOf (i : Res ItB) (ops : List IterOp) : List (Res (Option Posting)) := runRes exK i ops

/-- the used iterator really stands in the last chunk with both cursors moved -/
example : (match exUsed with
    | .ok u => (u.currChunk, u.fnR.map (fun b => (b.curChunkBytes, b.r)),
                u.lcR.map (fun b => (b.curChunkBytes, b.r)))
    | _ => (0, none, none)) =
    (2, some ([9, 13, 10, 14], some ⟨[9, 13, 10, 14], 4⟩),
        some ([9, 0, 2, 4, 5, 1, 3, 6, 172, 2], some ⟨[9, 0, 2, 4, 5, 1, 3, 6, 172, 2], 10⟩)) := by
  decide +kernel

theorem ex_fresh : runOf exFresh exOps = exAnswers := by decide +kernel

theorem ex_reused : runOf exReused exOps = exAnswers := by decide +kernel

/-- a hostile `rv`: decoders of a different term with more chunk offsets than needed (so the
    array is RESLICED and keeps stale offsets until they are overwritten), a loaded chunk, a
    cursor in the middle, stale decompression buffers; freq/norm reader without a
    `memUvarintReader` -/
def exJunk : ItB :=
  { cs := 7, freqOffset := 99, locOffset := 98, file := false, data := [1, 1, 1], fieldsInv := [],
    all := [9], act := [8], clean := true, currChunk := 2,
    fnR := some { d := { file := false, data := [1, 1, 1], startOffset := 77, dataStartOffset := 80,
                         chunkOffsets := [99, 98, 97, 96, 95] },
                  dataNil := false, offsTail := [94, 93], curChunkBytes := [5, 5, 5],
                  uncompressed := [5, 5, 5], uncTail := [6, 6, 6, 6, 6, 6, 6, 6], r := none },
    lcR := some { d := { file := false, data := [], startOffset := 0, dataStartOffset := 0,
                         chunkOffsets := [1] },
                  dataNil := true, offsTail := [], curChunkBytes := [200, 1],
                  uncompressed := [200, 1], uncTail := [], r := some ⟨[200, 1], 1⟩ },
    nextLocsCap := 1, fl := { incFN := true, incL := false } }

theorem ex_junk : runOf (mkBReuse exJunk (plOf 2 true exL exFinv exE (some [3])) (RFlags.of exFlags))
    exOps = exAnswers := by decide +kernel

/-- the same transcript through the theorems: (B2) for the fresh iterator … -/
example : ∃ i0, exFresh = .ok i0 ∧ runB exK i0 exOps = exAnswers := by
  obtain ⟨i0, h1, h2⟩ := B2 exWritten exContract (some [3]) exFlags exOps
  refine ⟨i0, h1, ?_⟩
  rw [h2]
  decide +kernel

/-- … and (B4) for ANY reused iterator -/
example (used : ItB) : ∃ i1, mkBReuse used (plOf 2 true exL exFinv exE (some [3])) (RFlags.of exFlags)
    = .ok i1 ∧ runB exK i1 exOps = exAnswers := by
  obtain ⟨i0, i1, _, h1, h2⟩ := B4 exWritten exContract used (some [3]) exFlags
  refine ⟨i1, h1, ?_⟩
  rw [(h2 exOps).2]
  decide +kernel

/-- (B3) instance: a list without locations iterated with `includeLocs`; the location stream does
    not exist (`locOffset = 0`) and nothing faults.  Evaluated end to end from the writer. -/
def exNoLocs : List Entry :=
  [ { doc := 0, freq := 1, norm := 10, locs := [] }, { doc := 3, freq := 2, norm := 11, locs := [] } ]

def exNoLocsL : Nat × Nat × Bytes :=
  match Coder.new 2 3, Coder.new 2 3 with
  | .ok tf, .ok lc =>
    (match tf.encode exK (tfAdds exNoLocs), lc.encode exK (locAdds exNoLocs) with
     | .ok tf', .ok lc' => layout [1] tf' lc' []
     | _, _ => (0, 0, []))
  | _, _ => (0, 0, [])

example : exNoLocsL.2.1 = 0 ∧
    runOf (mkB (plOf 2 false exNoLocsL [] exNoLocs none) (RFlags.of exFlags)) [.next, .next, .next] =
      [ .ok (some { doc := 0, freq := 1, norm := 10, locs := [] }),
        .ok (some { doc := 3, freq := 2, norm := 11, locs := [] }), .ok none ] := by
  decide +kernel

end Ice.Props.C05Bytes

/-! axiom audit (expected: a subset of propext, Classical.choice, Quot.sound) -/
section Audit
open Ice.Props.C05Bytes
#print axioms B1_sim
#print axioms B1
#print axioms B1_run
#print axioms streams_load
#print axioms env_of_written
#print axioms B2_rflags
#print axioms B2
#print axioms B2_view
#print axioms B3_locOffset
#print axioms B3_idle
#print axioms B3_run
#print axioms B4_decoder
#print axioms B4_env
#print axioms B4
#print axioms B4_any
#print axioms exWritten
#print axioms exContract
#print axioms ex_fresh
#print axioms ex_reused
#print axioms ex_junk
end Audit
