import IceModel.Gen.ErrFlow
import IceModel.Props.ErrFlow
/-
  Error flow of the persistence functions (property C11): facts about the functions of THIS AREA only.

  The generated table `Gen.ErrFlow.flows` is restricted to the names in `persistFns`; every theorem below
  speaks about `persistFlows = restrict flows persistFns` (or the pinned lists computed from it) and is
  therefore insensitive to a change of the error flow of a function outside the area.  A function of
  the area that disappears from the table makes `persist_fns_present` fail.
  The semantics (`Sound`, `checked_sound`, …) is in `Props/ErrFlow.lean`.
-/
namespace Ice.Props.ErrFlowPersist
open Ice Ice.Gen Ice.Bridge.ErrFlow Ice.ErrFlow Ice.Props.ErrFlow

/-- the functions of the area -/
def persistFns : List String :=
  ["Segment.WriteTo", "Merger.WriteTo", "persistFooter", "countHashWriter.Write", "footerCRC"]

/-- their flows -/
def persistFlows : Flows := restrict ErrFlow.flows persistFns

/-- the structured program of a function of the area (`[]` for any other name) -/
def progOf (name : String) : Prog := progIn persistFlows name

/-- the functions of the area without / with an unchecked call -/
def persistCovered : List String := coveredIn ErrFlow.flows persistFns
def persistNotCovered : List String := notCoveredIn ErrFlow.flows persistFns

/-- the area's table, evaluated once for presence, well-formedness, its two lists of exceptions
    (`persist_unchecked_pinned`, `persist_dropped_pinned`) and its covered functions (`persist_covered_eq`) -/
theorem persist_ok : AreaOK ErrFlow.flows persistFns
    (unch := [])
    (drop := [])
    (cov := ["Merger.WriteTo", "Segment.WriteTo", "countHashWriter.Write", "footerCRC", "persistFooter"]) := by
  decide +kernel

/-- every function of the area is in the generated table … -/
theorem persist_fns_present : ∀ n ∈ persistFns, n ∈ ErrFlow.flows.map (·.1) := persist_ok.present

/-- … exactly once -/
theorem persist_names_nodup : (persistFlows.map (·.1)).Nodup ∧ persistFlows.length = persistFns.length :=
  ⟨persist_ok.wf.1, persist_ok.length⟩

/-- for a function of the area, the area's table and the whole table give the same program -/
theorem persist_progOf_whole : ∀ n ∈ persistFns, progOf n = progIn ErrFlow.flows n :=
  fun _ hn => progIn_restrict _ _ hn

/-- every flow of the area parses (balanced braces, known events only) -/
theorem persist_parse_ok : ∀ f ∈ persistFlows, (parse f.2).isSome := fun f hf => (persist_ok.wf.2 f hf).1

/-- `progOf` is the structure of the generated flat list -/
theorem persist_progOf_flat : ∀ f ∈ persistFlows, flat (progOf f.1) = f.2 :=
  fun _ => persist_ok.wf.flat_progIn

/-- the call inside a wrapping check `{:err F w R err }` is always `fmt.Errorf` -/
theorem persist_wrappers : ∀ f ∈ persistFlows, ∀ w ∈ wrappers (progOf f.1), w = "Errorf" :=
  fun _ => persist_ok.wf.wrappers_progIn

/-- PINNED: the calls of the area whose error is not checked at once (function, callee): none -/
theorem persist_unchecked_pinned : uncheckedIn ErrFlow.flows persistFns =[] :=
  persist_ok.unchecked_eq

/-- PINNED: the discarded error results of the area (function, callee): none -/
theorem persist_dropped_pinned : droppedIn ErrFlow.flows persistFns =[] :=
  persist_ok.dropped_eq

/-- the functions of the area without an unchecked call … -/
theorem persist_covered_eq : persistCovered =
    ["Merger.WriteTo", "Segment.WriteTo", "countHashWriter.Write", "footerCRC", "persistFooter"] :=
  persist_ok.covered_eq

theorem persist_notCovered_eq_pinned :
    persistNotCovered = ((uncheckedIn ErrFlow.flows persistFns).map (·.1)).eraseDups :=
  notCoveredOf_eq_eraseDups persist_ok.wf.1

/-- … and with one: exactly the functions named in `persist_unchecked_pinned` -/
theorem persist_notCovered_eq : persistNotCovered =[] := by
  rw [persist_notCovered_eq_pinned, persist_unchecked_pinned]; decide

/-- every covered function is disciplined: all calls checked at once, wrappers are `Errorf` -/
theorem persist_disc : ∀ n ∈ persistCovered, Disc (progOf n) := persist_ok.wf.disc_covered

/-- SOUNDNESS for the area: in every covered function a failing call is the last thing done (but for
    wrapping the error) and makes the function return a non-nil error; a nil result means that no
    bound call failed (modulo the discarded results of `persist_dropped_pinned`) -/
theorem persist_sound : ∀ n ∈ persistCovered, Sound (progOf n) :=
  sound_of_disc_all persist_disc

/-! ### function by function -/

theorem sound_Merger_WriteTo : Sound (progOf "Merger.WriteTo") :=
  persist_sound _ (by rw [persist_covered_eq]; repeat constructor)
theorem sound_Segment_WriteTo : Sound (progOf "Segment.WriteTo") :=
  persist_sound _ (by rw [persist_covered_eq]; repeat constructor)
theorem sound_countHashWriter_Write : Sound (progOf "countHashWriter.Write") :=
  persist_sound _ (by rw [persist_covered_eq]; repeat constructor)
theorem sound_footerCRC : Sound (progOf "footerCRC") :=
  persist_sound _ (by rw [persist_covered_eq]; repeat constructor)
theorem sound_persistFooter : Sound (progOf "persistFooter") :=
  persist_sound _ (by rw [persist_covered_eq]; repeat constructor)

/-- `Segment.WriteTo` (write.go): data, footer, flush, each checked, two of them wrapped - the program
    `Props.ErrFlow.writeToShape` used for the satisfiability examples of the generic part -/
theorem progOf_Segment_WriteTo : progOf "Segment.WriteTo" = writeToShape := by decide +kernel

/-- a run of `Segment.WriteTo` whose footer write fails: nothing is attempted afterwards (no `Flush`),
    the wrapped error is returned -/
theorem Segment_WriteTo_failing_run :
    Run (progOf "Segment.WriteTo")
      [⟨false, "WriteTo", false⟩, ⟨false, "persistFooter", true⟩, ⟨false, "Errorf", true⟩]
      (.returned true) := by
  rw [progOf_Segment_WriteTo]; exact writeToShape_failing_run

/-- … and one that succeeds -/
theorem Segment_WriteTo_ok_run :
    Run (progOf "Segment.WriteTo")
      [⟨false, "WriteTo", false⟩, ⟨false, "persistFooter", false⟩, ⟨false, "Flush", false⟩]
      (.returned false) := by
  rw [progOf_Segment_WriteTo]; exact writeToShape_ok_run

/-- of the area only `Segment.WriteTo` has wrapping checks (two); in the other four functions the failing
    call is literally the last call (`Props.ErrFlow.checked_sound_nowrap`) -/
theorem persist_nowrap : ∀ n ∈ ["persistFooter", "footerCRC", "countHashWriter.Write", "Merger.WriteTo"],
    uncheckedS (progOf n) = [] ∧ wrappers (progOf n) = [] := by decide +kernel

end Ice.Props.ErrFlowPersist
