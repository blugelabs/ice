import IceModel.Spec.Seg
import IceModel.Lemmas.Build
/-
  Property C02 on the specification level: merging built segments is the same as building the
  surviving documents directly - provided the input batches agree on which fields have doc values
  (`DVConsistent`).  Without that hypothesis the statement is false (`C02_dv_counterexample`),
  which is the known finding KF-C02-dvflag.
-/
namespace Ice.Props.C02
open Ice Ice.Spec

/-- the surviving input documents of a batch -/
def survivorsB (b : Batch) (drops : List Nat) : Batch :=
  (b.zipIdx.filter (fun p => !drops.contains p.2)).map (·.1)

/-- one input of a merge of built segments: batch, chunk mode, deletions -/
structure In where
  batch : Batch
  mode : Nat
  drops : List Nat

def allSurvivors (ins : List In) : Batch := ins.flatMap (fun i => survivorsB i.batch i.drops)

/-- every surviving document sees, for each of its fields, the same doc-values flag in its own
    batch as in the batch of all survivors -/
def DVConsistent (ins : List In) : Prop :=
  ∀ i ∈ ins, ∀ d ∈ survivorsB i.batch i.drops, ∀ f ∈ d,
    dvFlagOf i.batch f.name = dvFlagOf (allSurvivors ins) f.name

instance (ins : List In) : Decidable (DVConsistent ins) := by
  unfold DVConsistent; infer_instance

def mergeBuilt (nc : Bytes → Nat → Nat) (m : Nat) (ins : List In) : AbsSeg :=
  (merge m (ins.map (fun i => (build nc i.mode i.batch, i.drops)))).1

/-- the documents of the merge are the documents of the rebuild -/
theorem C02_docs (nc : Bytes → Nat → Nat) (m : Nat) (ins : List In) (h : DVConsistent ins) :
    (mergeBuilt nc m ins).docs = (build nc m (allSurvivors ins)).docs := by
  simp only [mergeBuilt, merge_docs, build_docs, List.flatMap_map, survivors_build]
  rw [allSurvivors, List.map_flatMap]
  apply flatMap_congr'
  intro i hi
  apply List.map_congr_left
  intro d hd
  exact rollDoc_congr nc _ _ d (h i hi d hd)

/-- … hence every observation that is a function of the documents agrees: dictionaries,
    postings with frequencies, norms and locations, doc values, DocsMatchingTerms -/
theorem C02_observations (nc : Bytes → Nat → Nat) (m : Nat) (ins : List In) (h : DVConsistent ins) :
    let a := mergeBuilt nc m ins
    let b := build nc m (allSurvivors ins)
    numDocs a = numDocs b ∧
    (∀ f, terms a f = terms b f) ∧
    (∀ f t, postings a f t = postings b f t) ∧
    (∀ n f, dvOf a n f = dvOf b n f) ∧
    (∀ ts, docsMatching a ts = docsMatching b ts) ∧
    (∀ f lo hi aut, dictEntries a f lo hi aut = dictEntries b f lo hi aut) := by
  have hd := C02_docs nc m ins h
  exact ⟨numDocs_congr hd, terms_congr hd, postings_congr hd, dvOf_congr hd,
    docsMatching_congr hd, dictEntries_congr hd⟩

/-- the merged field list contains every field of the rebuilt one (it is the union of the
    inputs' lists; fields only deleted documents used stay) -/
theorem C02_fields_superset (nc : Bytes → Nat → Nat) (m : Nat) (ins : List In) :
    ∀ f ∈ (build nc m (allSurvivors ins)).fields, f ∈ (mergeBuilt nc m ins).fields := by
  intro f hf
  rw [build_fields, mem_fieldList] at hf
  rw [mergeBuilt, merge_fields, mem_fieldList]
  rcases hf with hf | hf
  · exact Or.inl hf
  · right
    simp only [allSurvivors, List.mem_flatMap] at hf
    obtain ⟨d, ⟨i, hi, hd⟩, hfd⟩ := hf
    simp only [List.flatMap_map, List.mem_flatMap]
    refine ⟨i, hi, ?_⟩
    rw [build_fields, mem_fieldList]
    right
    exact List.mem_flatMap.2 ⟨d, mem_keepP (p := fun j => !i.drops.contains j) (k := 0) hd, hfd⟩

/-- Without `DVConsistent` the property fails: two one-document batches with the same field `f`
    (byte 102), the first asking for doc values, the second not.  After the merge the second
    survivor has no doc values; after a rebuild it has. -/
theorem C02_dv_counterexample :
    let d1 : Doc := [{ name := [102], length := 1, store := false, dv := true, value := [],
                       terms := [{ term := [97], freq := 1, locs := [] }] }]
    let d2 : Doc := [{ name := [102], length := 1, store := false, dv := false, value := [],
                       terms := [{ term := [97], freq := 1, locs := [] }] }]
    let ins : List In := [{ batch := [d1], mode := 1025, drops := [] }, { batch := [d2], mode := 1025, drops := [] }]
    let nc : Bytes → Nat → Nat := fun _ _ => 1
    dvOf (mergeBuilt nc 1025 ins) 1 [102] = [] ∧
    dvOf (build nc 1025 (allSurvivors ins)) 1 [102] = [[97]] := by
  decide +kernel

/-- non-vacuity of `DVConsistent`: a two-batch merge with a deletion that satisfies it -/
example : DVConsistent
    [{ batch := [[{ name := [102], length := 1, store := true, dv := true, value := [1],
                    terms := [{ term := [97], freq := 1, locs := [] }] }], []], mode := 2, drops := [1] },
     { batch := [[{ name := [102], length := 2, store := false, dv := true, value := [],
                    terms := [{ term := [98], freq := 2, locs := [] }] }]], mode := 1025, drops := [] }] := by
  decide +kernel

end Ice.Props.C02
