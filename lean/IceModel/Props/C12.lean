import IceModel.Model.Writer
import IceModel.Lemmas.Writer
/-
  Property C12: a failing writer or a cancelled merge never yields silent success.
-/
namespace Ice.Props.C12
open Ice Ice.Model.Writer

/-- `Merger.WriteTo` through a bufio writer of any size: if ANY call of the destination writer
    returned an error, the result is an error - even if the code ignored the error of every
    individual write (`honour` arbitrary): the bufio error is sticky and the final `Flush` is
    examined.  If no call failed, exactly the script reached the destination and the byte count
    returned is its length. -/
theorem C12_merger (s : Sink) (hs : s.WellBehaved) (h : CRC) (honour : Nat → Bool) (size : Nat)
    (hsize : 0 < size) (W : List Bytes) :
    let r := mergerWriteTo s h honour size W
    (r.2.erred = true → r.1 = .error) ∧
    (r.2.erred = false → r.1 = .ok W.flatten.length ∧ r.2.got = W.flatten) := by
  -- (`hsize` is not used: the statement also holds at `size = 0`, a buffer Go never has, since
  -- `bufio.NewWriterSize` takes 4096 for `size ≤ 0`)
  have _ := hsize
  exact mergerWriteTo_spec hs h honour size W

/-- `Segment.WriteTo`: data directly (error examined), footer through bufio, `Flush` examined. -/
theorem C12_segment (s : Sink) (hs : s.WellBehaved) (h : CRC) (data : Bytes) (f : Footer) :
    let r := segmentWriteTo s h data f
    (r.2.erred = true → r.1 = .error) ∧
    (r.2.erred = false → r.1 = .ok (data.length + 44) ∧
        r.2.got = data ++ persistFooter h { f with crc := h.upd 0 data }) := by
  exact segmentWriteTo_spec hs h data f

/-- a writer that accepts `k` bytes in total and then fails (the harness's sweep writer) -/
def failAfter (k : Nat) : Sink :=
  { beh := fun _ got n => if got + n ≤ k then ⟨n, false⟩ else ⟨k - got, true⟩ }

theorem failAfter_wellBehaved (k : Nat) : (failAfter k).WellBehaved := by
  intro i got n
  simp only [failAfter]
  split
  · exact ⟨Nat.le_refl _, fun h => absurd h (Nat.lt_irrefl _)⟩
  · exact ⟨by simp only; omega, fun _ => rfl⟩

theorem failAfter_got_le (k : Nat) : SinkPres (failAfter k) (fun st => st.got.length ≤ k) := by
  intro st p h
  simp only [sinkWrite_def, failAfter, List.length_append, List.length_take]
  split <;> simp only <;> omega

/-- the sweep of the correspondence leg, as a theorem: failing before the last byte ⇒ error -/
theorem C12_sweep (h : CRC) (honour : Nat → Bool) (size : Nat) (hsize : 0 < size) (W : List Bytes)
    (k : Nat) (hk : k < W.flatten.length) :
    (mergerWriteTo (failAfter k) h honour size W).1 = .error := by
  have hspec := C12_merger (failAfter k) (failAfter_wellBehaved k) h honour size hsize W
  have hle : (mergerWriteTo (failAfter k) h honour size W).2.got.length ≤ k :=
    mergerWriteTo_pres (failAfter_got_le k) h honour size W (Nat.zero_le _)
  cases he : (mergerWriteTo (failAfter k) h honour size W).2.erred
  · have := (hspec.2 he).2
    rw [this] at hle
    omega
  · exact hspec.1 he

/-! ### cancellation -/

/-- one step of a merge as far as cancellation is concerned -/
inductive Step where
  | write (p : Bytes)
  | poll (returnsErrClosed : Bool)     -- what the code does when it finds the channel closed

inductive MergeResult where
  | errClosed
  | done (written : Bytes)
  | partialSuccess (written : Bytes)    -- success reported although a poll saw the channel closed
deriving DecidableEq, Repr

/-- run a merge; `closedAt i` = the channel is closed when step `i` runs (monotone) -/
def runMerge (closedAt : Nat → Bool) : List Step → Nat → Bytes → Bool → MergeResult
  | [], _, out, sawClosed => if sawClosed then .partialSuccess out else .done out
  | .write p :: r, i, out, sc => runMerge closedAt r (i + 1) (out ++ p) sc
  | .poll ret :: r, i, out, sc =>
    if closedAt i then
      if ret then .errClosed else runMerge closedAt r (i + 1) out true
    else runMerge closedAt r (i + 1) out sc

def writesOf : List Step → Bytes
  | [] => []
  | .write p :: r => p ++ writesOf r
  | .poll _ :: r => writesOf r

/-- if every poll answers a closed channel with ErrClosed (the generated fact
    `Gen.WriteSites.closePolls`), a merge ends in ErrClosed or with the complete output -/
theorem C12_cancel (closedAt : Nat → Bool) (steps : List Step)
    (hp : ∀ st ∈ steps, ∀ b, st = Step.poll b → b = true) :
    runMerge closedAt steps 0 [] false = .errClosed ∨
    runMerge closedAt steps 0 [] false = .done (writesOf steps) := by
  have key : ∀ (steps : List Step), (∀ st ∈ steps, ∀ b, st = Step.poll b → b = true) →
      ∀ (i : Nat) (out : Bytes),
        runMerge closedAt steps i out false = .errClosed ∨
        runMerge closedAt steps i out false = .done (out ++ writesOf steps) := by
    intro steps
    induction steps with
    | nil => intro _ i out; right; simp [runMerge, writesOf]
    | cons st r ih =>
      intro hp i out
      have hr : ∀ st ∈ r, ∀ b, st = Step.poll b → b = true :=
        fun st hst => hp st (List.mem_cons_of_mem _ hst)
      cases st with
      | write p =>
        simp only [runMerge, writesOf]
        rw [← List.append_assoc]
        exact ih hr (i + 1) (out ++ p)
      | poll ret =>
        have hret : ret = true := hp (.poll ret) (List.mem_cons_self ..) ret rfl
        subst hret
        simp only [runMerge, writesOf]
        split
        · left; rfl
        · exact ih hr (i + 1) out
  simpa using key steps hp 0 []

/-- non-vacuity: a poll that does not return lets a partial success through -/
example : runMerge (fun _ => true) [.write [1], .poll false, .write [2]] 0 [] false
    = .partialSuccess [1, 2] := by decide +kernel

end Ice.Props.C12
