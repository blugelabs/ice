import IceModel.Model.Iter
import IceModel.Model.Dict
import IceModel.Lemmas.Iter
import IceModel.Lemmas.IterReplace
import IceModel.Props.C05
/-
  Property C05 with a REPLACED actual-bitmap: `OptimizablePostingsIterator.ReplaceActual(abm)`
  (posting.go:685-696) narrows the postings an iterator delivers to a subset `abm` of the list's
  document numbers (the searcher's conjunction optimisation ANDs the `ActualBitmap()`s of several
  iterators and hands the result back to each of them).

  Go:    i.ActualBM = abm; i.Actual = abm.Iterator()
  model: `replaceActual i abm = { i with act := abm, clean := false }`
         (`clean` is the pointer test `i.postings.postings == i.ActualBM`; see Model/Iter.lean).

  Hypotheses on `abm` and the Go-level facts behind them:
    * `abm.Pairwise (· < ·)`: a roaring iterator enumerates strictly ascending, no duplicates;
    * `∀ d ∈ abm, d ∈ P.map (·.doc)`: the caller's obligation - the optimisation only ever
      intersects `ActualBitmap()`s, each of which is a subset of the list's bitmap.  Without it the
      `for allN != n` loop runs `i.all` past its end (`C05_replace_needs_subset_counterexample`).
-/
namespace Ice.Props.C05
open Ice Ice.Spec Ice.Model Ice.Model.Iter

/-- what was there before the replacement (the exclusion, the old `Actual` cursor, the old
    `clean`) does not matter on a fresh iterator: the replacement wins -/
theorem replaceActual_mk (cs : Nat) (P : List Posting) (E : Option (List Nat)) (fl : RFlags)
    (abm : List Nat) :
    replaceActual (mk cs P E fl) abm =
      { cs := cs, P := P, all := P.map (·.doc), act := abm, clean := false, currChunk := 0,
        fnR := none, lcR := [], fl := fl } := by
  cases E <;> rfl

/-- frame: `ReplaceActual` assigns `ActualBM` / `Actual` only -/
theorem replaceActual_frame (i : It) (abm : List Nat) :
    (replaceActual i abm).cs = i.cs ∧ (replaceActual i abm).P = i.P ∧
    (replaceActual i abm).all = i.all ∧ (replaceActual i abm).currChunk = i.currChunk ∧
    (replaceActual i abm).fnR = i.fnR ∧ (replaceActual i abm).lcR = i.lcR ∧
    (replaceActual i abm).fl = i.fl ∧ (replaceActual i abm).act = abm ∧
    (replaceActual i abm).clean = false :=
  ⟨rfl, rfl, rfl, rfl, rfl, rfl, rfl, rfl, rfl⟩

/-- entry level (`specRun`, reader flags), any exclusion at creation -/
theorem C05_replace_entry (cs : Nat) (hcs : 0 < cs) (P : List Posting) (hP : Sorted P)
    (E : Option (List Nat)) (fl : RFlags) (hfl : fl.incL = true → fl.incFN = true)
    (abm : List Nat) (ha : abm.Pairwise (· < ·)) (hsub : ∀ d ∈ abm, d ∈ P.map (·.doc))
    (ops : List IterOp) :
    run (replaceActual (mk cs P E fl) abm) ops =
      specRun fl (P.filter (fun p => abm.contains p.doc)) ops :=
  run_reach hcs hP hfl ops ((mk_reach cs P E fl).replace hP ha (by rw [mk_all]; exact hsub))

/-- in the vocabulary of `C05_view`, any exclusion at creation -/
theorem C05_replace_view (cs : Nat) (hcs : 0 < cs) (P : List Posting) (hP : Sorted P)
    (E : Option (List Nat)) (fl : Flags)
    (abm : List Nat) (ha : abm.Pairwise (· < ·)) (hsub : ∀ d ∈ abm, d ∈ P.map (·.doc))
    (ops : List IterOp) :
    (run (replaceActual (mk cs P E (RFlags.of fl)) abm) ops).map
        (fun r => r.map (fun o => o.map (view fl))) =
      (iterRun fl (P.filter (fun p => abm.contains p.doc)) ops).map some := by
  rw [C05_replace_entry cs hcs P hP E (RFlags.of fl) (RFlags.of_wf fl) abm ha hsub ops]
  exact specRun_view fl _ ops

/-- C05 with a replaced actual-bitmap: an iterator created without exclusion and then narrowed
    to `abm` never faults and answers exactly like the specification iterator over the postings
    whose document is in `abm` -/
theorem C05_replace (cs : Nat) (hcs : 0 < cs) (P : List Posting) (hP : Sorted P) (fl : Flags)
    (abm : List Nat) (ha : abm.Pairwise (· < ·)) (hsub : ∀ d ∈ abm, d ∈ P.map (·.doc))
    (ops : List IterOp) :
    (run (replaceActual (mk cs P none (RFlags.of fl)) abm) ops).map
        (fun r => r.map (fun o => o.map (view fl))) =
      (iterRun fl (P.filter (fun p => abm.contains p.doc)) ops).map some :=
  C05_replace_view cs hcs P hP none fl abm ha hsub ops

/-- the same for an iterator created WITH an exclusion `e`: the replacement wins, also the
    excluded documents named by `abm` are delivered (`abm` need not avoid `e`) -/
theorem C05_replace_except (cs : Nat) (hcs : 0 < cs) (P : List Posting) (hP : Sorted P)
    (e : List Nat) (fl : Flags)
    (abm : List Nat) (ha : abm.Pairwise (· < ·)) (hsub : ∀ d ∈ abm, d ∈ P.map (·.doc))
    (ops : List IterOp) :
    (run (replaceActual (mk cs P (some e) (RFlags.of fl)) abm) ops).map
        (fun r => r.map (fun o => o.map (view fl))) =
      (iterRun fl (P.filter (fun p => abm.contains p.doc)) ops).map some :=
  C05_replace_view cs hcs P hP (some e) fl abm ha hsub ops

/-- the form the correspondence driver uses (`IceModel/Driver/Run.lean`: `{ i0 with act :=
    (P.filter (fun p => keep.contains p.doc)).map (·.doc), clean := false }`): for an ARBITRARY
    list `keep` the bitmap `keep ∩ postings` is a sorted subset, so no hypothesis on `keep` is
    left -/
theorem C05_replace_keep (cs : Nat) (hcs : 0 < cs) (P : List Posting) (hP : Sorted P)
    (E : Option (List Nat)) (fl : RFlags) (hfl : fl.incL = true → fl.incFN = true)
    (keep : List Nat) (ops : List IterOp) :
    run ({ mk cs P E fl with
            act := (P.filter (fun p => keep.contains p.doc)).map (·.doc), clean := false }) ops =
      specRun fl (P.filter (fun p => keep.contains p.doc)) ops := by
  have hsorted : ((P.filter (fun p => keep.contains p.doc)).map (·.doc)).Pairwise (· < ·) := by
    rw [List.pairwise_map]
    exact List.Pairwise.sublist List.filter_sublist hP
  have hsub : ∀ d ∈ (P.filter (fun p => keep.contains p.doc)).map (·.doc), d ∈ P.map (·.doc) :=
    fun d hd => (List.filter_sublist.map _).subset hd
  have h := C05_replace_entry cs hcs P hP E fl hfl _ hsorted hsub ops
  have hfilter : P.filter (fun p =>
        ((P.filter (fun p => keep.contains p.doc)).map (·.doc)).contains p.doc) =
      P.filter (fun p => keep.contains p.doc) := by
    apply List.filter_congr
    intro p hp
    rw [Bool.eq_iff_iff]
    simp only [List.contains_eq_mem, decide_eq_true_eq, List.mem_map, List.mem_filter]
    constructor
    · rintro ⟨q, ⟨_, hq⟩, hqd⟩
      rw [← hqd]; exact hq
    · intro hk
      exact ⟨p, ⟨hp, hk⟩, rfl⟩
  rw [hfilter] at h
  exact h

/-- when `abm` is a subset of the live documents (what the optimisation produces), the result is
    also the live postings narrowed to `abm` -/
theorem filter_abm_live (P : List Posting) (e : List Nat) (abm : List Nat)
    (hdisj : ∀ d ∈ abm, ¬ d ∈ e) :
    P.filter (fun p => abm.contains p.doc) =
      (live P (some e)).filter (fun p => abm.contains p.doc) := by
  simp only [live, List.filter_filter]
  apply List.filter_congr
  intro p _
  by_cases h : p.doc ∈ abm
  · have := hdisj _ h
    simp [h, this]
  · simp [h]

/-- `ReplaceActual` with the list's OWN bitmap object (pointer-equal to `postings.postings`):
    the state is the one of an iterator created without exclusion, so by `C05_entry` all postings
    are delivered through the clean path - also when the iterator had been created with an
    exclusion -/
theorem C05_replace_sameobj (cs : Nat) (hcs : 0 < cs) (P : List Posting) (hP : Sorted P)
    (E : Option (List Nat)) (fl : RFlags) (hfl : fl.incL = true → fl.incFN = true)
    (ops : List IterOp) :
    run (replaceActualSameObj (mk cs P E fl)) ops = specRun fl P ops := by
  have : replaceActualSameObj (mk cs P E fl) = mk cs P none fl := by cases E <;> rfl
  rw [this]
  exact C05_entry cs hcs P hP none fl hfl ops

/-- `ReplaceActual` applied LATER: after any script `ops1` that did not fault (it may have run the
    iterator to exhaustion), with an `abm` whose documents are all still ahead of the `all` cursor
    of the state reached, the rest of the run is again the specification iterator over the
    postings named by `abm` (the fresh `Actual` cursor starts at the beginning of `abm`; the chunk
    readers are where the `all` cursor left them and catch up) -/
theorem C05_replace_later_entry (cs : Nat) (hcs : 0 < cs) (P : List Posting) (hP : Sorted P)
    (E : Option (List Nat)) (fl : RFlags) (hfl : fl.incL = true → fl.incFN = true)
    (ops1 : List IterOp) (rs : List (Option Posting)) (st : It)
    (hrun : runSt (mk cs P E fl) ops1 = some (rs, st))
    (abm : List Nat) (ha : abm.Pairwise (· < ·)) (hsub : ∀ d ∈ abm, d ∈ st.all)
    (ops2 : List IterOp) :
    run (replaceActual st abm) ops2 =
      specRun fl (P.filter (fun p => abm.contains p.doc)) ops2 := by
  obtain ⟨L, h⟩ := runSt_reach hcs hP hfl ops1 (mk_reach cs P E fl) hrun
  exact run_reach hcs hP hfl ops2 (h.replace hP ha hsub)

/-- the same in the vocabulary of `C05_view`; the hypothesis `hrs` (all answers of `ops1` were
    postings) is not used -/
theorem C05_replace_later (cs : Nat) (hcs : 0 < cs) (P : List Posting) (hP : Sorted P)
    (E : Option (List Nat)) (fl : Flags)
    (ops1 : List IterOp) (rs : List (Option Posting)) (st : It)
    (hrun : runSt (mk cs P E (RFlags.of fl)) ops1 = some (rs, st)) (hrs : ∀ r ∈ rs, r ≠ none)
    (abm : List Nat) (ha : abm.Pairwise (· < ·)) (hsub : ∀ d ∈ abm, d ∈ st.all)
    (ops2 : List IterOp) :
    (run (replaceActual st abm) ops2).map (fun r => r.map (fun o => o.map (view fl))) =
      (iterRun fl (P.filter (fun p => abm.contains p.doc)) ops2).map some := by
  have _ := hrs
  rw [C05_replace_later_entry cs hcs P hP E (RFlags.of fl) (RFlags.of_wf fl) ops1 rs st hrun
    abm ha hsub ops2]
  exact specRun_view fl _ ops2

/-- `PostingsIterator.Count()` is `i.postings.Count()` (posting.go:698-704): a function of the
    postings LIST (`Dict.count`: cardinality of the bitmap minus the excluded members), which
    `ReplaceActual` does not touch - so it keeps reporting the number of live postings, not the
    number of postings the narrowed iterator delivers; the latter is
    `ActualBitmap().GetCardinality()`, the length of `abm`.  (The iterator model `It` carries no
    `Count`; the list-level `Dict.count` is the modelled function.) -/
theorem C05_replace_count (cs : Nat) (P : List Posting) (hP : Sorted P) (E : Option (List Nat))
    (fl : RFlags) (abm : List Nat) (ha : abm.Pairwise (· < ·))
    (hsub : ∀ d ∈ abm, d ∈ P.map (·.doc)) :
    -- ActualBitmap().GetCardinality() = number of postings the narrowed iterator delivers
    (replaceActual (mk cs P E fl) abm).act.length =
        (P.filter (fun p => abm.contains p.doc)).length ∧
    -- Count() = the list's count = number of live postings, independent of `abm`
    Dict.count { postings := some (P.map (·.doc)), except := E, chunkSize := cs } =
        (live P E).length := by
  constructor
  · exact (congrArg List.length (filter_inAbm_docs P hP abm ha hsub)).symm.trans (List.length_map _)
  · cases E with
    | none => simp [Dict.count, live]
    | some e =>
      simp only [Dict.count, live]
      have h1 := length_filter_not (fun d => e.contains d) (P.map (·.doc))
      have h2 : (P.filter (fun p => !e.contains p.doc)).length =
          ((P.map (·.doc)).filter (fun d => !e.contains d)).length := by
        rw [List.filter_map, List.length_map]; rfl
      rw [h2, ← h1, Nat.add_sub_cancel]
      simp

/-- the seeded variant: the clean fast path is chosen by `i.postings.except == nil` instead of
    `i.postings.postings == i.ActualBM`, so a replacement does not leave it -/
def replaceActualBad (i : It) (abm : List Nat) : It := { i with act := abm }

/-- six postings in one chunk, pairwise different freq / norm / locations -/
def kcP : List Posting :=
  [ { doc := 0, freq := 1, norm := 10, locs := [⟨[], 0, 0, 1⟩] },
    { doc := 1, freq := 2, norm := 11, locs := [⟨[], 1, 1, 2⟩] },
    { doc := 2, freq := 3, norm := 12, locs := [⟨[], 2, 2, 3⟩] },
    { doc := 3, freq := 4, norm := 13, locs := [⟨[], 3, 3, 4⟩] },
    { doc := 4, freq := 5, norm := 14, locs := [⟨[], 4, 4, 5⟩] },
    { doc := 5, freq := 6, norm := 15, locs := [⟨[], 5, 5, 6⟩] } ]

def kcFl : RFlags := RFlags.of { freq := true, norm := true, locs := true }

def kcOps : List IterOp := [.next, .advance 4, .next]

theorem kcP_sorted : Sorted kcP := by unfold Sorted; decide +kernel

/-- what the seeded variant answers: the chunk readers never skip the entries of the postings
    left out, so document 1 is delivered with document 0's freq/norm/locations and document 4
    with document 2's.
    (`cleanLoop` is defined by well-founded recursion, which `decide` cannot evaluate; the
    transcript is computed by `simp` with its unfolding equations.) -/
theorem C05_replace_keepclean_transcript :
    run (replaceActualBad (mk 8 kcP none kcFl) [1, 3, 4]) kcOps =
      [ some (some { doc := 1, freq := 1, norm := 10, locs := [⟨[], 0, 0, 1⟩] }),
        some (some { doc := 4, freq := 3, norm := 12, locs := [⟨[], 2, 2, 3⟩] }),
        some none ] := by
  simp [run, step, nextDoc, replaceActualBad, mk, kcP, kcFl, kcOps, RFlags.of, cleanLoop_step,
    cleanLoop_done, repeatSkip, currChunkNext, needLoad, loadChunk, chunkOf, hasLocs]

/-- the statement of `C05_replace` is false for the seeded variant -/
theorem C05_replace_keepclean_counterexample :
    0 < 8 ∧ Sorted kcP ∧ [1, 3, 4].Pairwise (· < ·) ∧ (∀ d ∈ [1, 3, 4], d ∈ kcP.map (·.doc)) ∧
    run (replaceActualBad (mk 8 kcP none kcFl) [1, 3, 4]) kcOps ≠
      specRun kcFl (kcP.filter (fun p => [1, 3, 4].contains p.doc)) kcOps ∧
    -- the first answer is document 1 carrying document 0's data
    (run (replaceActualBad (mk 8 kcP none kcFl) [1, 3, 4]) kcOps).head? =
      some (some (some { doc := 1, freq := 1, norm := 10, locs := [⟨[], 0, 0, 1⟩] })) ∧
    (specRun kcFl (kcP.filter (fun p => [1, 3, 4].contains p.doc)) kcOps).head? =
      some (some (some { doc := 1, freq := 2, norm := 11, locs := [⟨[], 1, 1, 2⟩] })) := by
  rw [C05_replace_keepclean_transcript]
  refine ⟨by decide, kcP_sorted, by decide, by decide, by decide +kernel, by decide +kernel,
    by decide +kernel⟩

/-- the real method on the same instance (through `C05_replace_entry`) -/
theorem C05_replace_keepclean_real :
    run (replaceActual (mk 8 kcP none kcFl) [1, 3, 4]) kcOps =
      [ some (some { doc := 1, freq := 2, norm := 11, locs := [⟨[], 1, 1, 2⟩] }),
        some (some { doc := 4, freq := 5, norm := 14, locs := [⟨[], 4, 4, 5⟩] }),
        some none ] := by
  rw [C05_replace_entry 8 (by decide) kcP kcP_sorted none kcFl (by decide) [1, 3, 4]
    (by decide) (by decide) kcOps]
  decide +kernel

/-- `abm` not a subset of the list's documents: the `for allN != n` loop exhausts `i.all`
    (Go: `Next()` on a roaring iterator without next element) - the transcript ends in a fault -/
theorem C05_replace_needs_subset_counterexample :
    run (replaceActual (mk 8 kcP none kcFl) [1, 7]) [.next, .next] =
      [ some (some { doc := 1, freq := 2, norm := 11, locs := [⟨[], 1, 1, 2⟩] }), none ] := by
  simp [run, step, nextDoc, replaceActual, mk, kcP, kcFl, RFlags.of, exclLoop_step, exclLoop_done,
    exclLoop_exhausted, currChunkNext, needLoad, loadChunk, chunkOf, hasLocs]

/-- the state of the six-posting iterator after `Advance 3` -/
def kcSt3 : It :=
  { cs := 8, P := kcP, all := [4, 5], act := [4, 5], clean := true, currChunk := 0,
    fnR := some (kcP.drop 4), lcR := kcP.drop 4, fl := kcFl }

/-- replacing LATER with an `abm` that names a document the `all` cursor has already passed
    (here: document 1 after `Advance 3`) faults in the same way: the side condition
    `∀ d ∈ abm, d ∈ st.all` of `C05_replace_later` cannot be dropped -/
theorem C05_replace_later_passed_counterexample :
    runSt (mk 8 kcP none kcFl) [.advance 3] =
      some ([some { doc := 3, freq := 4, norm := 13, locs := [⟨[], 3, 3, 4⟩] }], kcSt3) ∧
    kcSt3.all = [4, 5] ∧ run (replaceActual kcSt3 [1, 4]) [.next] = [none] := by
  refine ⟨?_, rfl, ?_⟩
  · simp [runSt, step, nextDoc, mk, kcP, kcFl, kcSt3, RFlags.of, cleanLoop_step,
      cleanLoop_done, repeatSkip, currChunkNext, needLoad, loadChunk, chunkOf, hasLocs]
  · simp [run, step, nextDoc, replaceActual, kcSt3, kcP, kcFl, RFlags.of, exclLoop_step,
      exclLoop_exhausted, currChunkNext, needLoad, hasLocs]

/-- `C05_replace`'s hypotheses on a non-trivial instance: the list `exP` of `C05.lean` (three
    chunks of size 2), narrowed to documents 1 and 4, all readers on -/
example : 0 < 2 ∧ Sorted exP ∧ [1, 4].Pairwise (· < ·) ∧ (∀ d ∈ [1, 4], d ∈ exP.map (·.doc)) ∧
    (run (replaceActual (mk 2 exP none (RFlags.of ⟨true, true, true⟩)) [1, 4]) exOps).map
        (fun r => r.map (fun o => o.map (view ⟨true, true, true⟩))) =
      (iterRun ⟨true, true, true⟩ (exP.filter (fun p => [1, 4].contains p.doc)) exOps).map some :=
  ⟨by decide, exP_sorted, by decide, by decide,
   C05_replace 2 (by decide) exP exP_sorted ⟨true, true, true⟩ [1, 4] (by decide)
     (by decide) exOps⟩

/-- its transcript, computed through the specification: Next ↦ 1, Advance 2 ↦ 4, then nothing -/
example : run (replaceActual (mk 2 exP none exFl) [1, 4]) exOps =
    [ some (some { doc := 1, freq := 2, norm := 11, locs := [] }),
      some (some { doc := 4, freq := 4, norm := 13, locs := [⟨[], 2, 4, 5⟩, ⟨[], 3, 6, 7⟩] }),
      some none, some none, some none ] := by
  rw [C05_replace_entry 2 (by decide) exP exP_sorted none exFl (by decide) [1, 4]
    (by decide) (by decide) exOps]
  decide +kernel

/-- created with the exclusion `[3, 4]`, then narrowed to `[1, 4]`: document 4 is delivered
    although it had been excluded -/
example : run (replaceActual (mk 2 exP (some [3, 4]) exFl) [1, 4]) exOps =
    [ some (some { doc := 1, freq := 2, norm := 11, locs := [] }),
      some (some { doc := 4, freq := 4, norm := 13, locs := [⟨[], 2, 4, 5⟩, ⟨[], 3, 6, 7⟩] }),
      some none, some none, some none ] := by
  rw [C05_replace_entry 2 (by decide) exP exP_sorted (some [3, 4]) exFl (by decide)
    [1, 4] (by decide) (by decide) exOps]
  decide +kernel

/-- `Count()` on the six-posting instance narrowed to `[1, 3, 4]`: still 6, while 3 postings are
    delivered -/
example : Dict.count { postings := some (kcP.map (·.doc)), except := none, chunkSize := 8 } = 6 ∧
    (replaceActual (mk 8 kcP none kcFl) [1, 3, 4]).act.length = 3 := by decide +kernel

/-- a later replacement that satisfies the side conditions of `C05_replace_later_entry`, and
    what it delivers: after `Advance 3` narrowed to `[5]` (document 4's entries are skipped) -/
example : run (replaceActual kcSt3 [5]) [.next, .next] =
    [ some (some { doc := 5, freq := 6, norm := 15, locs := [⟨[], 5, 5, 6⟩] }), some none ] := by
  rw [C05_replace_later_entry 8 (by decide) kcP kcP_sorted none kcFl (by decide)
    [.advance 3] _ kcSt3 C05_replace_later_passed_counterexample.1 [5] (by decide)
    (by decide) [.next, .next]]
  decide +kernel

end Ice.Props.C05
