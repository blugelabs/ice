import IceModel.Props.C03
import IceModel.Lemmas.Build
import IceModel.Lemmas.Merge
/-
  Property C17 on the specification level: merging is compositional.
    * `C17_flatten`   : an inner merge (carrying its own deletions) may be replaced by its inputs
    * `C17_translate` : an inner merge without deletions, followed by the deletions translated
                        through its document-number map, equals merging with the deletions directly
    * `C17_translate_reported` : that translation is what `DocumentNumbers()` of the inner merge reports
    * `C17_identity`  : merging a single merged segment without deletions changes nothing
  `Equiv` is equality of everything a reader can observe (documents, field list, statistics);
  only the chunk mode - an encoding parameter - may differ.
-/
namespace Ice.Props.C17
open Ice Ice.Spec Ice.Props.C03

def Equiv (a b : AbsSeg) : Prop :=
  a.docs = b.docs ∧ a.fields = b.fields ∧ a.fieldDocs = b.fieldDocs ∧ a.fieldFreqs = b.fieldFreqs

theorem C17_flatten (m m1 : Nat) (pre A post : List (AbsSeg × List Nat)) :
    Equiv (merge m (pre ++ [((merge m1 A).1, [])] ++ post)).1 (merge m (pre ++ A ++ post)).1 :=
  merge_replace m m pre A post _ _ (by rw [survivors_nil, merge_docs]) (mem_merge_fields m1 A)

/-- the inputs of `A` with their deletions removed -/
def noDrops (A : List (AbsSeg × List Nat)) : List (AbsSeg × List Nat) := A.map (fun p => (p.1, []))

/-- deletions of `A` renumbered into the inner (deletion-free) merge: document `d` of the segment
    starting at `base` becomes `base + d` -/
def translate : List (AbsSeg × List Nat) → Nat → List Nat
  | [], _ => []
  | (s, d) :: r, base => d.map (· + base) ++ translate r (base + s.docs.length)

theorem translate_ge (A : List (AbsSeg × List Nat)) (base x : Nat) (h : x ∈ translate A base) :
    base ≤ x := by
  induction A generalizing base with
  | nil => simp [translate] at h
  | cons p r ih =>
    obtain ⟨s, d⟩ := p
    simp only [translate, List.mem_append, List.mem_map] at h
    rcases h with ⟨y, _, rfl⟩ | h
    · exact Nat.le_add_left _ _
    · exact Nat.le_trans (Nat.le_add_right _ _) (ih _ h)

/-- filtering the concatenated documents by the renumbered deletions = concatenating the
    survivors; validity (`d < length`) keeps the numbers of different segments apart -/
theorem keepP_translate (A : List (AbsSeg × List Nat)) (base : Nat)
    (hv : ∀ p ∈ A, ∀ x ∈ p.2, x < p.1.docs.length) :
    keepP (fun i => !(translate A base).contains i) base (A.flatMap (fun p => p.1.docs)) =
      A.flatMap (fun p => survivors p.1 p.2) := by
  induction A generalizing base with
  | nil => rfl
  | cons p r ih =>
    obtain ⟨s, d⟩ := p
    have hd : ∀ x ∈ d, x < s.docs.length := hv (s, d) List.mem_cons_self
    simp only [List.flatMap_cons, keepP_append]
    rw [← ih (base + s.docs.length) fun p hp => hv p (List.mem_cons_of_mem _ hp), keepP_shift, survivors_eq]
    congr 1
    · apply keepP_congr
      intro i _ hi
      congr 1
      rw [Bool.eq_iff_iff]
      simp only [List.contains_iff_mem, translate, List.mem_append, List.mem_map]
      constructor
      · rintro (⟨y, hy, hyi⟩ | h)
        · obtain rfl : y = i := Nat.add_right_cancel hyi
          exact hy
        · have := translate_ge _ _ _ h
          omega
      · exact fun h => Or.inl ⟨i, h, rfl⟩
    · apply keepP_congr
      intro i hi _
      congr 1
      rw [Bool.eq_iff_iff]
      simp only [List.contains_iff_mem, translate, List.mem_append, List.mem_map]
      constructor
      · rintro (⟨y, hy, hyi⟩ | h)
        · have := hd y hy; omega
        · exact h
      · exact Or.inr

theorem C17_translate (m m1 : Nat) (pre A post : List (AbsSeg × List Nat))
    (hv : ∀ p ∈ A, ValidDrops p.1.docs.length p.2) :
    Equiv (merge m (pre ++ [((merge m1 (noDrops A)).1, translate A 0)] ++ post)).1
          (merge m (pre ++ A ++ post)).1 := by
  have hv' : ∀ p ∈ A, ∀ x ∈ p.2, x < p.1.docs.length := fun p hp => (hv p hp).2
  refine merge_replace m m pre A post _ _ ?_ ?_
  · rw [survivors_eq, noDrops, merge_docs_noDrops]
    exact keepP_translate A 0 hv'
  · intro x hx
    rw [noDrops, merge_fields_noDrops, mem_fieldList]; simp [hx]

/-- `translate` renumbers exactly as the inner merge's reported document numbers do -/
theorem C17_translate_reported (m1 : Nat) (A : List (AbsSeg × List Nat)) (i d : Nat) (s : AbsSeg)
    (drops : List Nat) (hi : A[i]? = some (s, drops)) (hd : d < s.docs.length) :
    lookup (merge m1 (noDrops A)).2 i d =
      some (some (d + ((A.take i).map (fun p => p.1.docs.length)).sum)) := by
  have hi' : (noDrops A)[i]? = some (s, []) := by simp [noDrops, hi]
  rw [lookup_merge m1 (noDrops A) i d s [] hi', if_pos hd]
  simp only [noDrops, ← List.map_take, List.map_map, List.contains_nil]
  simp [Function.comp_def, liveCount_nil, Nat.add_comm]

theorem C17_identity (m m0 : Nat) (X : List (AbsSeg × List Nat)) :
    Equiv (merge m [((merge m0 X).1, [])]).1 (merge m0 X).1 := by
  have := merge_replace m m0 [] X [] (merge m0 X).1 [] (by rw [survivors_nil, merge_docs])
    (mem_merge_fields m0 X)
  simpa [Equiv] using this

/-- `Equiv` segments answer every read API identically -/
theorem Equiv_observations (a b : AbsSeg) (h : Equiv a b) :
    numDocs a = numDocs b ∧ a.fields = b.fields ∧
    (∀ f, terms a f = terms b f) ∧ (∀ f t, postings a f t = postings b f t) ∧
    (∀ n, stored a n = stored b n) ∧ (∀ n f, dvOf a n f = dvOf b n f) ∧
    (∀ f, stats a f = stats b f) ∧ (∀ ts, docsMatching a ts = docsMatching b ts) := by
  obtain ⟨hd, hf, h3, h4⟩ := h
  exact ⟨numDocs_congr hd, hf, terms_congr hd, postings_congr hd, stored_congr hd hf,
    dvOf_congr hd, stats_congr hd hf h3 h4, docsMatching_congr hd⟩

end Ice.Props.C17
