import IceModel.Model.Writer
import IceModel.Lemmas.Writer
/-
  Property C11: every written file ends in the 44-byte footer whose last four bytes are the CRC-32
  of all preceding bytes; the byte count returned equals the bytes written; persisting a loaded
  segment again reproduces the file byte for byte.
-/
namespace Ice.Props.C11
open Ice Ice.Model.Writer

/-- a destination that accepts everything -/
def healthy : Sink := { beh := fun _ _ n => ⟨n, false⟩ }

/-- footer fields fit their widths (document counts and offsets are uint64, mode/version uint32) -/
def Footer.Fits (f : Footer) : Prop :=
  f.numDocs < 2 ^ 64 ∧ f.storedIndexOffset < 2 ^ 64 ∧ f.fieldsIndexOffset < 2 ^ 64 ∧
  f.docValueOffset < 2 ^ 64 ∧ f.chunkMode < 2 ^ 32 ∧ f.version = 2

theorem unbe_be (k x : Nat) (h : x < 256 ^ k) : unbe (be k x) = x :=
  unbe_be' k x h

theorem be_length (k x : Nat) : (be k x).length = k :=
  length_be k x

theorem persistFooter_length (h : CRC) (f : Footer) : (persistFooter h f).length = 44 :=
  length_persistFooter h f

theorem healthy_wellBehaved : healthy.WellBehaved := by
  intro i got n
  exact ⟨Nat.le_refl _, fun h => absurd h (Nat.lt_irrefl _)⟩

theorem healthy_noErr : SinkPres healthy (fun st => st.erred = false) :=
  noErr_pres healthy (fun _ _ _ => rfl)

theorem footerFields_crc (f : Footer) (c : Nat) : footerFields { f with crc := c } = footerFields f := rfl

/-- `Segment.WriteTo` on a healthy destination: data, the six fields, and the CRC of everything
    before it; the count returned is the file length -/
theorem C11_segment_file (h : CRC) (data : Bytes) (f : Footer) :
    segmentWriteTo healthy h data f =
      (.ok (data.length + 44),
       { got := data ++ footerFields f ++ be 4 (h.upd 0 (data ++ footerFields f)),
         calls := 2, erred := false }) := by
  have h44 := length_persistFooter h { f with crc := h.upd 0 data }
  have hne : (persistFooter h { f with crc := h.upd 0 data }).isEmpty = false := by
    cases hp : persistFooter h { f with crc := h.upd 0 data } with
    | nil => rw [hp] at h44; cases h44
    | cons _ _ => rfl
  rw [segmentWriteTo_def]
  simp only [sinkWrite_def, healthy, List.take_length, bwrite_def]
  rw [writeLoop_stop _ _ _ _ _ (by simp only [h44]; decide)]
  simp only [finish, flush_def, sinkWrite_def, List.nil_append, hne, Nat.lt_irrefl,
    decide_false, Bool.or_false, Bool.false_eq_true, if_false, List.take_length, Nat.zero_add]
  simp only [persistFooter, footerFields_crc, h.upd_append, List.append_assoc]

/-- the merge path: the data writes followed by the footer seeded with the running checksum
    (mergeSegmentBasesWriter: `footer.crc = cr.Sum32()` then `persistFooter(footer, cr)`) -/
def mergeScript (h : CRC) (dataW : List Bytes) (f : Footer) : List Bytes :=
  dataW ++ [persistFooter h { f with crc := h.upd 0 dataW.flatten }]

theorem C11_merge_file (h : CRC) (honour : Nat → Bool) (size : Nat) (hsize : 0 < size)
    (dataW : List Bytes) (f : Footer) :
    let r := mergerWriteTo healthy h honour size (mergeScript h dataW f)
    r.1 = .ok (dataW.flatten.length + 44) ∧
    r.2.got = dataW.flatten ++ footerFields f ++ be 4 (h.upd 0 (dataW.flatten ++ footerFields f)) := by
  have _ := hsize
  have hspec := mergerWriteTo_spec healthy_wellBehaved h honour size (mergeScript h dataW f)
  have hk : (mergerWriteTo healthy h honour size (mergeScript h dataW f)).2.erred = false :=
    mergerWriteTo_pres healthy_noErr h honour size _ rfl
  obtain ⟨h1, h2⟩ := hspec.2 hk
  have hfl : (mergeScript h dataW f).flatten =
      dataW.flatten ++ footerFields f ++ be 4 (h.upd 0 (dataW.flatten ++ footerFields f)) := by
    simp only [mergeScript, List.flatten_append, List.flatten_cons, List.flatten_nil, List.append_nil,
      persistFooter, footerFields_crc, h.upd_append, List.append_assoc]
  refine ⟨?_, ?_⟩
  · rw [h1, hfl]
    simp only [List.length_append, length_footerFields, length_be]
  · rw [h2, hfl]

/-- a (degenerate) checksum satisfying the `CRC` law but not `upd c [] = c` -/
def constCRC : CRC := { upd := fun _ _ => 1, upd_append := fun _ _ _ => rfl }

/-- Without a side condition the running checksum of countHashWriter over a healthy script is NOT
    `h.upd 0 W.flatten`: after the empty script it still holds its initial `0`, and the abstract
    `CRC` has no law `upd c [] = c` (`h := constCRC`, `W := []`). -/
theorem chw_healthy_false :
    ¬ (∀ (h : CRC) (honour : Nat → Bool) (size : Nat) (_ : 0 < size) (W : List Bytes),
        let r := mergeWrites healthy h honour W 0 { size := size } {}
        r.2.1 = { crc := h.upd 0 W.flatten, n := W.flatten.length } ∧ r.2.2 = false) := by
  intro H
  have := (H constCRC (fun _ => true) 1 (by decide) []).1
  revert this
  decide +kernel

/-- the running checksum of countHashWriter over a healthy script, without any side condition:
    the fold of the update function over the script (`crcFold`), which is `h.upd 0 W.flatten` for
    every non-empty script -/
theorem chw_healthy_fold (h : CRC) (honour : Nat → Bool) (size : Nat) (W : List Bytes) :
    let r := mergeWrites healthy h honour W 0 { size := size } {}
    r.2.1 = { crc := crcFold h 0 W, n := W.flatten.length } ∧ r.2.2 = false := by
  have hi : Inv ({ size := size } : Bufio) [] := inv_init size {} rfl
  obtain ⟨_, _, g3⟩ := mergeWrites_spec healthy_wellBehaved h honour W 0 _ {} [] hi
  have hk : (mergeWrites healthy h honour W 0 { size := size } {}).1.sk.erred = false :=
    mergeWrites_pres healthy_noErr h honour W 0 _ _ rfl
  obtain ⟨m1, m2⟩ := g3 hk
  refine ⟨?_, m1⟩
  rw [m2]
  simp

/-- the running checksum of countHashWriter over a healthy script is the checksum of its bytes;
    the hypothesis (only relevant for the empty script) is necessary, see `chw_healthy_false` -/
theorem chw_healthy_partial (h : CRC) (honour : Nat → Bool) (size : Nat) (hsize : 0 < size)
    (W : List Bytes) (hW : W = [] → h.upd 0 [] = 0) :
    let r := mergeWrites healthy h honour W 0 { size := size } {}
    r.2.1 = { crc := h.upd 0 W.flatten, n := W.flatten.length } ∧ r.2.2 = false := by
  have _ := hsize
  have := chw_healthy_fold h honour size W
  rwa [crcFold_flatten h 0 W hW] at this

/-- `parseFooter` reads back what `persistFooter` wrote (checksum truncated to 32 bits by its
    4-byte slot) -/
theorem C11_parse_persist (h : CRC) (data : Bytes) (f : Footer) (hf : Footer.Fits f)
    (hc : ∀ c b, h.upd c b < 2 ^ 32) :
    parseFooter (data ++ persistFooter h f) =
      some { f with crc := h.upd f.crc (footerFields f) } := by
  obtain ⟨h1, h2, h3, h4, h5, h6⟩ := hf
  have e64 : (2 : Nat) ^ 64 = 256 ^ 8 := by decide
  have e32 : (2 : Nat) ^ 32 = 256 ^ 4 := by decide
  rw [e64] at h1 h2 h3 h4
  rw [e32] at h5
  have h7 : h.upd f.crc (footerFields f) < 256 ^ 4 := by rw [← e32]; exact hc _ _
  have h6' : f.version < 256 ^ 4 := by rw [h6]; decide
  rw [persistFooter]
  generalize h.upd f.crc (footerFields f) = c at *
  rw [footerFields, parseFooter_append _ _ _ _ _ _ _ _ (length_be _ _) (length_be _ _) (length_be _ _)
    (length_be _ _) (length_be _ _) (length_be _ _) (length_be _ _)]
  rw [unbe_be' _ _ h1, unbe_be' _ _ h2, unbe_be' _ _ h3, unbe_be' _ _ h4, unbe_be' _ _ h5,
    unbe_be' _ _ h6', unbe_be' _ _ h7]
  simp [h6]

/-- Persisting a loaded segment reproduces the file byte for byte: `load` keeps the data section
    and the parsed footer; `Segment.WriteTo` re-hashes the data. -/
theorem C11_repersist (h : CRC) (data : Bytes) (f : Footer) (hf : Footer.Fits f)
    (hc : ∀ c b, h.upd c b < 2 ^ 32) :
    let file := data ++ persistFooter h { f with crc := h.upd 0 data }
    ∀ pf, parseFooter file = some pf →
      (segmentWriteTo healthy h data pf).2.got = file := by
  intro file pf hpf
  have hf' : Footer.Fits { f with crc := h.upd 0 data } := hf
  rw [C11_parse_persist h data _ hf' hc] at hpf
  cases hpf
  rw [C11_segment_file]
  simp only [file, persistFooter, footerFields_crc, h.upd_append, List.append_assoc]

/-! ### the defect that was repaired (fix: commit 45c8aa5) -/

/-- `Segment.WriteTo` before the fix: the footer checksum continues from `footer.crc` -/
def segmentWriteTo_v0 (h : CRC) (data : Bytes) (f : Footer) : Bytes :=
  data ++ persistFooter h f

/-- a concrete checksum with the update law: sum of bytes modulo 2^32 -/
def sumCRC : CRC :=
  { upd := fun c b => (c + b.sum) % 2 ^ 32,
    upd_append := by
      intro c a b
      simp only [List.sum_append]
      omega }

def exFooter : Footer :=
  { numDocs := 1, storedIndexOffset := 0, fieldsIndexOffset := 0, docValueOffset := 0,
    chunkMode := 1025, version := 2, crc := 0 }

/-- before the fix, re-persisting a loaded segment did NOT reproduce the file: witness with the
    one-byte data section `[1]` -/
theorem C11_v0_counterexample :
    let file := [1] ++ persistFooter sumCRC { exFooter with crc := sumCRC.upd 0 [1] }
    ∃ pf, parseFooter file = some pf ∧ segmentWriteTo_v0 sumCRC [1] pf ≠ file := by
  decide +kernel

/-- non-vacuity: the hypotheses of `C11_repersist` are satisfiable -/
example : Footer.Fits exFooter ∧ ∀ c b, sumCRC.upd c b < 2 ^ 32 := by
  refine ⟨by unfold Footer.Fits exFooter; decide, fun c b => Nat.mod_lt _ (by decide)⟩

end Ice.Props.C11
