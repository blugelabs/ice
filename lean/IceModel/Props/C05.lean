import IceModel.Model.Iter
import IceModel.Lemmas.Iter
/-
  Property C05 at the entry level: the model of `PostingsIterator` (general encoding) run on any
  script equals the specification iterator run on the live postings.

  The reader flags must be well formed: `includeLocs` implies `includeFreqNorm`.  Every flag pair
  computed by `PostingsList.iterator` (`RFlags.of`) is well formed; for the remaining pair
  (`incFN = false`, `incL = true`) the equation is false (`C05_entry_needs_wf`), because the code
  decodes no locations when the freq/norm reader is off while `decoded` only looks at `incL`.
-/
namespace Ice.Props.C05
open Ice Ice.Spec Ice.Model.Iter

/-- postings are strictly ascending by document number (roaring bitmaps enumerate ascending) -/
def Sorted (P : List Posting) : Prop := P.Pairwise (fun a b => a.doc < b.doc)

theorem C05_entry (cs : Nat) (hcs : 0 < cs) (P : List Posting) (hP : Sorted P)
    (E : Option (List Nat)) (fl : RFlags) (hfl : fl.incL = true → fl.incFN = true)
    (ops : List IterOp) :
    run (mk cs P E fl) ops = specRun fl (live P E) ops :=
  run_reach hcs hP hfl ops (mk_reach cs P E fl)

theorem RFlags.of_wf (fl : Flags) : (RFlags.of fl).incL = true → (RFlags.of fl).incFN = true := by
  intro h
  have h' : fl.locs = true := h
  simp [RFlags.of, h']

theorem C05_entry_of (cs : Nat) (hcs : 0 < cs) (P : List Posting) (hP : Sorted P)
    (E : Option (List Nat)) (fl : Flags) (ops : List IterOp) :
    run (mk cs P E (RFlags.of fl)) ops = specRun (RFlags.of fl) (live P E) ops :=
  C05_entry cs hcs P hP E (RFlags.of fl) (RFlags.of_wf fl) ops

/-- C05 in the vocabulary of the specification the correspondence harness uses
    (`Spec.iterRun`, answers projected to the requested components): the model never faults and
    its answers, seen through the flags, are the specification's -/
theorem C05_view (cs : Nat) (hcs : 0 < cs) (P : List Posting) (hP : Sorted P)
    (E : Option (List Nat)) (fl : Flags) (ops : List IterOp) :
    (run (mk cs P E (RFlags.of fl)) ops).map (fun r => r.map (fun o => o.map (view fl))) =
      (iterRun fl (live P E) ops).map some := by
  rw [C05_entry_of cs hcs P hP E fl ops]
  exact specRun_view fl _ ops

/-- without the well-formedness hypothesis on the flags the statement is false -/
theorem C05_entry_needs_wf :
    ¬ ∀ (cs : Nat) (_ : 0 < cs) (P : List Posting) (_ : Sorted P) (E : Option (List Nat))
        (fl : RFlags) (ops : List IterOp),
        run (mk cs P E fl) ops = specRun fl (live P E) ops := by
  intro h
  have hs : Sorted [{ doc := 0, freq := 0, norm := 0, locs := [⟨[], 0, 0, 1⟩] }] :=
    List.pairwise_singleton _ _
  have := h 1 (by decide) _ hs none ⟨false, true⟩ [.next]
  revert this
  decide +kernel

/-! a non-trivial instance: three chunks of size 2, one excluded document, all readers on -/

def exP : List Posting :=
  [ { doc := 0, freq := 1, norm := 10, locs := [⟨[], 0, 0, 1⟩] },
    { doc := 1, freq := 2, norm := 11, locs := [] },
    { doc := 3, freq := 3, norm := 12, locs := [⟨[], 1, 2, 3⟩] },
    { doc := 4, freq := 4, norm := 13, locs := [⟨[], 2, 4, 5⟩, ⟨[], 3, 6, 7⟩] },
    { doc := 5, freq := 5, norm := 14, locs := [] } ]

def exFl : RFlags := RFlags.of { freq := true, norm := true, locs := true }

def exOps : List IterOp := [.next, .advance 2, .advance 1, .next, .next]

theorem exP_sorted : Sorted exP := by unfold Sorted; decide +kernel

example : 0 < 2 ∧ Sorted exP ∧ (exFl.incL = true → exFl.incFN = true) ∧
    run (mk 2 exP (some [3]) exFl) exOps = specRun exFl (live exP (some [3])) exOps :=
  ⟨by decide, exP_sorted, by decide,
   C05_entry 2 (by decide) exP exP_sorted (some [3]) exFl (by decide) exOps⟩

/-- the transcript of that instance, computed through the specification -/
example : run (mk 2 exP (some [3]) exFl) exOps =
    [ some (some { doc := 0, freq := 1, norm := 10, locs := [⟨[], 0, 0, 1⟩] }),
      some (some { doc := 4, freq := 4, norm := 13, locs := [⟨[], 2, 4, 5⟩, ⟨[], 3, 6, 7⟩] }),
      some (some { doc := 5, freq := 5, norm := 14, locs := [] }),
      some none, some none ] := by
  rw [C05_entry 2 (by decide) exP exP_sorted (some [3]) exFl (by decide) exOps]
  decide +kernel

end Ice.Props.C05
