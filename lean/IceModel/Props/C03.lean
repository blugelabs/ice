import IceModel.Spec.Seg
import IceModel.Lemmas.Merge
/-
  Property C03 (old → new document numbers) on the specification level: `Spec.merge` defines the
  merged documents as the concatenation of the survivors and, independently, the number maps by a
  running counter (`remapAll`).  The theorems relate the two.
-/
namespace Ice.Props.C03
open Ice Ice.Spec

/-- a deletion list names existing documents only, each once (a bitmap ⊆ the segment) -/
def ValidDrops (n : Nat) (d : List Nat) : Prop := d.Nodup ∧ ∀ x ∈ d, x < n

/-- entry `d` of the map of input segment `i` -/
def lookup (dn : List (List (Option Nat))) (i d : Nat) : Option (Option Nat) :=
  (dn[i]?).bind (fun l => l[d]?)

theorem lookup_merge (m : Nat) (ins : List (AbsSeg × List Nat)) (i d : Nat) (s : AbsSeg)
    (drops : List Nat) (hi : ins[i]? = some (s, drops)) :
    lookup (merge m ins).2 i d =
      if d < s.docs.length then
        some (if drops.contains d then none
              else some (((ins.take i).map (fun p => liveCount p.2 p.1.docs.length)).sum + liveCount drops d))
      else none := by
  simp only [lookup, merge_maps, getElem?_remapAll, List.getElem?_map, hi, Option.map_some,
    Option.bind_some, getElem?_remapList, ← List.map_take, List.map_map, Nat.zero_add]
  rfl

/-- one map per input segment, as long as the segment -/
theorem C03_shape (m : Nat) (ins : List (AbsSeg × List Nat)) :
    (merge m ins).2.map List.length = ins.map (fun p => p.1.docs.length) := by
  rw [merge_maps, map_length_remapAll, List.map_map]; rfl

/-- exactly the deleted documents carry the dropped sentinel -/
theorem C03_dropped (m : Nat) (ins : List (AbsSeg × List Nat)) (i d : Nat) (s : AbsSeg)
    (drops : List Nat) (hi : ins[i]? = some (s, drops)) (hd : d < s.docs.length) :
    lookup (merge m ins).2 i d = some none ↔ d ∈ drops := by
  rw [lookup_merge m ins i d s drops hi, if_pos hd]
  by_cases h : d ∈ drops <;> simp [h]

/-- survivors are numbered 0,1,2,… consecutively in (segment, document) order, and there are
    exactly `Count()` of them -/
theorem C03_consecutive (m : Nat) (ins : List (AbsSeg × List Nat)) :
    (merge m ins).2.flatten.filterMap id = List.range (numDocs (merge m ins).1) := by
  rw [merge_maps, filterMap_remapAll, numDocs_merge, List.range_eq_range', List.map_map]; rfl

/-- the merged segment's Count equals the number of survivors -/
theorem C03_count (m : Nat) (ins : List (AbsSeg × List Nat))
    (h : ∀ p ∈ ins, ValidDrops p.1.docs.length p.2) :
    numDocs (merge m ins).1 = (ins.map (fun p => p.1.docs.length - p.2.length)).sum := by
  rw [numDocs_merge]
  congr 1
  apply List.map_congr_left
  intro p hp
  exact liveCount_valid _ _ (h p hp).1 (h p hp).2

/-- the content of every surviving old document is found at exactly its reported new number -/
theorem C03_content (m : Nat) (ins : List (AbsSeg × List Nat)) (i d k : Nat) (s : AbsSeg)
    (drops : List Nat) (hi : ins[i]? = some (s, drops))
    (hk : lookup (merge m ins).2 i d = some (some k)) :
    (merge m ins).1.docs[k]? = s.docs[d]? ∧ d < s.docs.length := by
  rw [lookup_merge m ins i d s drops hi] at hk
  split at hk
  · next hd =>
    refine ⟨?_, hd⟩
    simp only [Option.some.injEq] at hk
    split at hk
    · exact absurd hk (by simp)
    · next hnd =>
      simp only [Option.some.injEq] at hk
      subst hk
      have hget : (survivors s drops)[liveCount drops d]? = s.docs[d]? := by
        have h := zipIdx_keepP drops 0 s.docs 0
        rw [show 0 + liveCount drops 0 = 0 from rfl] at h
        rw [List.getElem?_eq_getElem hd]
        refine (List.mem_zipIdx_iff_getElem? (x := (s.docs[d], liveCount drops d))).1 ?_
        rw [survivors_eq, h]
        exact List.mem_map.2 ⟨(s.docs[d], d), List.mem_filter.2
          ⟨List.mem_zipIdx_iff_getElem?.2 (List.getElem?_eq_getElem hd), by simpa using hnd⟩, by simp⟩
      have hlt : liveCount drops d < (survivors s drops).length := by
        have h2 : (survivors s drops)[liveCount drops d]? = some s.docs[d] := by
          rw [hget, List.getElem?_eq_getElem hd]
        exact (List.getElem?_eq_some_iff.1 h2).1
      have := getElem?_flatMap_block (fun p : AbsSeg × List Nat => survivors p.1 p.2) ins i
        (liveCount drops d) (s, drops) hi hlt
      simp only [length_survivors] at this
      rw [merge_docs, this, hget]
  · exact absurd hk (by simp)

/-- non-vacuity: a two-segment merge with a deletion -/
def exSeg (n : Nat) : AbsSeg :=
  { docs := List.replicate n [], fields := [idField], fieldDocs := [0], fieldFreqs := [0], chunkMode := 1 }

example : (merge 1025 [(exSeg 2, [0]), (exSeg 1, [])]).2 = [[none, some 0], [some 1]] := by decide +kernel

end Ice.Props.C03
