import IceModel.Model.Conc
import IceModel.Lemmas.Conc
/-
  Property C09 (concurrent and re-entrant readers) and C19 (a failed storage read never wedges the
  segment) on the concurrency model: any number of threads, any programs (with arbitrary nesting
  of operations inside visitor callbacks), any schedule, any storage-fault pattern.
-/
namespace Ice.Props.C09
open Ice.Model.Conc

/-- storage that never fails -/
def healthy : Nat → Bool := fun _ => false

/-- C09(a): on healthy storage every completed top-level operation returned exactly what it returns
    alone, whatever the other threads did and however the scheduler interleaved them (an operation
    run from inside a visitor callback is not logged: `stepThread` logs only when `up.isEmpty`) -/
theorem C09_results (w : World) (progs : List (List Op)) (σ : List Tid) :
    ∀ th ∈ (run fixed w healthy (init progs) σ).ths, ∀ e ∈ th.log, e.2 = alone w e.1 := by
  intro th hth e he
  obtain ⟨t, ht⟩ := List.mem_iff_getElem?.1 hth
  rcases ((inv_reach w healthy progs σ).thread t th ht).log e he with ⟨h | ⟨⟨i, hi⟩, _⟩, _⟩
  · exact h
  · simp [healthy] at hi

abbrev flatProg (p : List Op) : List Op := p.map Op.flat

/-- operations of a thread complete in program order - modulo the nested lists of visits: the
    logged operations are a prefix of the program with every `visit n nested` replaced by
    `visit n []`.  A completed visit is logged with the frame's REMAINING nested list, which is `[]`
    at completion, so with `p` in place of `flatProg p` the statement is false
    (`C09_log_prefix_false`). -/
theorem C09_log_prefix_partial (w : World) (fails : Nat → Bool) (progs : List (List Op)) (σ : List Tid)
    (t : Nat) (th : Thread) (p : List Op)
    (ht : (run fixed w fails (init progs) σ).ths[t]? = some th) (hp : progs[t]? = some p) :
    (th.log.map (·.1)) <+: flatProg p := by
  have hI := inv_reach w fails progs σ
  have h1 := hI.prog t th p ht hp
  have h2 : th.log.map (fun e => e.1.flat) = th.log.map (·.1) :=
    List.map_congr_left (fun e he => ((hI.thread t th ht).log e he).2)
  unfold ProgInv at h1
  rw [h2, List.append_assoc] at h1
  exact ⟨_, h1⟩

/-- without `flatProg`, for programs whose top-level visits have no nested operations -/
theorem C09_log_prefix_flat (w : World) (fails : Nat → Bool) (progs : List (List Op)) (σ : List Tid)
    (t : Nat) (th : Thread) (p : List Op)
    (ht : (run fixed w fails (init progs) σ).ths[t]? = some th) (hp : progs[t]? = some p)
    (hflat : ∀ op ∈ p, op.flat = op) :
    (th.log.map (·.1)) <+: p := by
  have h := C09_log_prefix_partial w fails progs σ t th p ht hp
  have : flatProg p = p := by
    unfold flatProg
    rw [List.map_congr_left hflat, List.map_id']
  rwa [this] at h

def w0 : World := { F := fun f => 100 + f, B := fun n => 200 + n }

/-- `C09_log_prefix_partial` without `flatProg` is false: one thread, program
    `[visit 1 [dict 0]]`, run to completion - the log is `[visit 1 []]` -/
theorem C09_log_prefix_false :
    ¬ ∀ (w : World) (fails : Nat → Bool) (progs : List (List Op)) (σ : List Tid)
        (t : Nat) (th : Thread) (p : List Op),
        (run fixed w fails (init progs) σ).ths[t]? = some th → progs[t]? = some p →
        (th.log.map (·.1)) <+: p := by
  intro h
  have := h w0 healthy [[.visit 1 [.dict 0]]] (List.replicate 12 0) 0 _ _ rfl rfl
  obtain ⟨r, hr⟩ := this
  have h0 : (Op.visit 1 [] : Op) = .visit 1 [.dict 0] := (List.cons.inj hr).1
  simp at h0

/-- C09(b): no reachable configuration has two threads about to touch the same shared location
    with at least one write (all accesses to the FST cache happen under the mutex; the stored-field
    path has no shared location any more) -/
theorem C09_norace (w : World) (fails : Nat → Bool) (progs : List (List Op)) (σ : List Tid) :
    ¬ Race fixed (run fixed w fails (init progs) σ) := by
  rintro ⟨t1, t2, th1, th2, l, w1, w2, hne, h1, h2, ha1, ha2, _⟩
  have hI := inv_reach w fails progs σ
  have e1 := (hI.mutex t1 th1 h1).1 (holds_of_nextAccess ha1)
  have e2 := (hI.mutex t2 th2 h2).1 (holds_of_nextAccess ha2)
  rw [e1] at e2
  exact hne (Option.some.inj e2)

/-- C19: the mutex is held only by a thread that is inside the locked region of `dictionary` -/
theorem C19_mutex_owner (w : World) (fails : Nat → Bool) (progs : List (List Op)) (σ : List Tid)
    (t : Tid) (h : (run fixed w fails (init progs) σ).sh.mutex = some t) :
    ∃ th, (run fixed w fails (init progs) σ).ths[t]? = some th ∧
      ∃ f pc r up, th.stack = .dict f pc r :: up ∧ 1 ≤ pc := by
  have hI := inv_reach w fails progs σ
  generalize run fixed w fails (init progs) σ = c at *
  have hlt := hI.owner t h
  have ho : c.ths[t]? = some c.ths[t] := List.getElem?_eq_getElem hlt
  have hh := (hI.mutex t _ ho).2 h
  refine ⟨_, ho, ?_⟩
  generalize c.ths[t] = th at *
  obtain ⟨stack, todo, log⟩ := th
  cases stack with
  | nil => exact hh.elim
  | cons fr up =>
    cases fr with
    | dict f pc r => exact ⟨f, pc, r, up, rfl, hh⟩
    | visit n pc buf nested => exact hh.elim

/-- C19 / deadlock freedom: whatever storage reads failed, as long as some thread has work left,
    some thread can take a step (the mutex is never left held by a finished call) -/
theorem C19_never_stuck (w : World) (fails : Nat → Bool) (progs : List (List Op)) (σ : List Tid) :
    ¬ Stuck fixed w fails (run fixed w fails (init progs) σ) := by
  rintro ⟨⟨t, th, ht, hwork⟩, hall⟩
  cases hmx : (run fixed w fails (init progs) σ).sh.mutex with
  | none =>
    rcases step_none (hall t th ht) with ⟨h1, h2⟩ | ⟨h, _⟩
    · rcases hwork with h | h <;> contradiction
    · rw [hmx] at h; cases h
  | some o =>
    -- the owner is inside the locked region, so it can step
    obtain ⟨tho, ho, f, pc, r, up, hs, hpc⟩ := C19_mutex_owner w fails progs σ o hmx
    rcases step_none (hall o tho ho) with ⟨h1, _⟩ | ⟨_, f', r', up', h⟩
    · rw [hs] at h1; cases h1
    · rw [hs] at h; cases h; exact absurd hpc (by decide)

/-- C19: under storage faults every completed top-level operation returned its solo result or, for
    a dictionary lookup, an error -/
theorem C19_results (w : World) (fails : Nat → Bool) (progs : List (List Op)) (σ : List Tid) :
    ∀ th ∈ (run fixed w fails (init progs) σ).ths, ∀ e ∈ th.log,
      e.2 = alone w e.1 ∨ (∃ f, e.1 = .dict f ∧ e.2 = .dictErr) := by
  intro th hth e he
  obtain ⟨t, ht⟩ := List.mem_iff_getElem?.1 hth
  rcases ((inv_reach w fails progs σ).thread t th ht).log e he with ⟨h | ⟨_, h⟩, _⟩
  · exact Or.inl h
  · exact Or.inr h

/-- before f904785: a visit nested inside a visitor callback overwrote the outer visit's buffer -/
theorem C09_v0_reentrancy :
    ∃ σ, ∃ th ∈ (run v0 w0 healthy (init [[.visit 1 [.visit 2 []]]]) σ).ths,
      ∃ e ∈ th.log, e.2 ≠ alone w0 e.1 := by
  refine ⟨List.replicate 8 0, _, List.mem_cons_self, _, List.mem_cons_self, ?_⟩
  decide

/-- before f904785: two threads visiting different documents could see each other's block, and
    the accesses raced -/
theorem C09_v0_crosstalk :
    ∃ σ, ∃ th ∈ (run v0 w0 healthy (init [[.visit 1 []], [.visit 2 []]]) σ).ths,
      ∃ e ∈ th.log, e.2 ≠ alone w0 e.1 := by
  refine ⟨[0, 0, 1, 1, 0, 0], _, List.mem_cons_self, _, List.mem_cons_self, ?_⟩
  decide

theorem C09_v0_race :
    ∃ σ, Race v0 (run v0 w0 healthy (init [[.visit 1 []], [.visit 2 []]]) σ) := by
  exact ⟨[0, 1], 0, 1, _, _, .scratch, true, true, by decide, rfl, rfl, rfl, rfl, Or.inl rfl⟩

/-- before 8a73a25: a storage failure inside `dictionary` left the mutex held; the next lookup
    (even by the same thread) waits for ever -/
theorem C19_v0_wedged :
    ∃ σ, Stuck v0 w0 (fun i => i == 0) (run v0 w0 (fun i => i == 0) (init [[.dict 1, .dict 1]]) σ) := by
  have hc : run v0 w0 (fun i => i == 0) (init [[.dict 1, .dict 1]]) [0, 0, 0, 0, 0] =
      { sh := { cache := [], mutex := some 0, scratch := 0, reads := 1 },
        ths := [{ stack := [.dict 1 0 none], todo := [], log := [(.dict 1, .dictErr)] }] } := rfl
  refine ⟨[0, 0, 0, 0, 0], ?_⟩
  rw [hc]
  refine ⟨⟨0, _, rfl, Or.inl (by simp)⟩, ?_⟩
  intro t th h
  match t, h with
  | 0, h =>
    cases h
    rfl
  | t + 1, h => simp at h

/-- non-vacuity: a schedule on which both threads finish with a warm and a cold cache lookup -/
example : ((run fixed w0 healthy (init [[.dict 1], [.dict 1]]) [0,0,1,0,0,0,0,0,1,1,1,1,1]).ths.map
    (fun th => th.log.map (·.2))) = [[.dictOk 101], [.dictOk 101]] := by
  rfl

end Ice.Props.C09
