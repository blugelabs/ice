import IceModel.Bridge.ErrFlow
import IceModel.Props.ErrFlow
import IceModel.Props.ErrFlowWrite
import IceModel.Props.ErrFlowRead
import IceModel.Props.ErrFlowPersist
/-
  Error flow, WHOLE PACKAGE: every theorem here ranges over all of `Gen.ErrFlow.flows`, so a change of
  the error flow of any function can break this module.  It is not meant to be registered for a
  property (the per-area modules `ErrFlowWrite`, `ErrFlowRead`, `ErrFlowPersist` are); it records
  that the areas, together with the few functions outside them, account for the whole table.
  The whole-package pinned lists `unchecked_pinned`, `dropped_pinned`, `write_path_covered` are in
  `Bridge/ErrFlow.lean`.
-/
namespace Ice.Props.ErrFlowAll
open Ice Ice.Gen Ice.Bridge.ErrFlow Ice.ErrFlow Ice.Props.ErrFlow

/-- the structured program of a function of the package (`[]` for an unknown name) -/
def progOf (name : String) : Prog := progIn ErrFlow.flows name

/-- the whole table is well formed (by evaluation; its names are unique because they ascend) -/
theorem flows_wf : WellFormed ErrFlow.flows :=
  ⟨nodup_of_ascending (by decide +kernel), by decide +kernel⟩

/-- every flat event list of the package parses (balanced braces, known events only) -/
theorem parse_flows_ok : ∀ f ∈ ErrFlow.flows, (parse f.2).isSome := fun f hf => (flows_wf.2 f hf).1

/-- function names are unique in `flows`, so `progOf` picks THE flow of a function -/
theorem flows_names_nodup : (ErrFlow.flows.map (·.1)).Nodup := flows_wf.1

theorem progOf_flat : ∀ f ∈ ErrFlow.flows, flat (progOf f.1) = f.2 := fun _ => flows_wf.flat_progIn

/-- in the package, the call inside a wrapping check `{:err F w R err }` is always `fmt.Errorf` -/
theorem flows_wrappers : ∀ f ∈ ErrFlow.flows, ∀ w ∈ wrappers (progOf f.1), w = "Errorf" :=
  fun _ => flows_wf.wrappers_progIn

/-- functions without an exception … -/
def covered : List String := (ErrFlow.flows.filter (fun f => unchecked f.2 = [])).map (·.1)
/-- … and with one -/
def notCovered : List String := (ErrFlow.flows.filter (fun f => unchecked f.2 ≠ [])).map (·.1)

/-- all 90 functions without an exception are sound: a failing call makes them return a non-nil
    error at once (modulo the discarded results pinned in `dropped_pinned`) -/
theorem sound_covered : ∀ n ∈ covered, Sound (progOf n) :=
  sound_of_disc_all flows_wf.disc_covered

theorem covered_length : covered.length = 90 ∧ notCovered.length = 11 := by decide +kernel

/-- the functions NOT covered are exactly those named in `unchecked_pinned` -/
theorem notCovered_eq :
    notCovered = (allUnchecked.map (·.1)).eraseDups ∧
    notCovered =
      ["DictionaryIterator.Next", "PostingsIterator.nextAtOrAfter", "Segment.Dictionary",
       "Segment.visitDocument", "enumerator.Close", "enumerator.Next", "interim.reset",
       "mergeTermFreqNormLocs", "newWithChunkMode", "persistMergedRestField",
       "setupActiveForField"] := by
  have h : notCovered = (allUnchecked.map (·.1)).eraseDups := notCoveredOf_eq_eraseDups flows_wf.1
  refine ⟨h, ?_⟩
  rw [h, unchecked_pinned]; decide

/-- every function is in one of the two lists -/
theorem covered_or_not : ∀ f ∈ ErrFlow.flows, f.1 ∈ covered ∨ f.1 ∈ notCovered :=
  coveredOf_or_notCoveredOf _

/-- of the write path (`write_path_covered`), only `persistMergedRestField` has exceptions -/
theorem write_path_exceptions :
    (["Segment.WriteTo", "Merger.WriteTo", "mergeToWriter", "persistMergedRest",
      "persistMergedRestField", "persistFooter", "persistFields", "writePostings",
      "mergeStoredAndRemap", "interim.convert", "interim.writeStoredFields",
      "interim.writeDicts"].filter (· ∈ notCovered)) = ["persistMergedRestField"] := by
  decide +kernel

/-- the functions that belong to no area -/
theorem outside_areas :
    (ErrFlow.flows.map (·.1)).filter
        (fun n => n ∉ ErrFlowWrite.writeFns ∧ n ∉ ErrFlowRead.readFns ∧ n ∉ ErrFlowPersist.persistFns) =
      ["New", "ZSTDCompress", "enumerator.Close", "enumerator.Next", "initSegmentBase",
       "interim.reset", "newEnumerator"] := by decide +kernel

/-- the area tables agree with the whole table on their functions -/
theorem areas_agree :
    (∀ n ∈ ErrFlowWrite.writeFns, ErrFlowWrite.progOf n = progOf n) ∧
    (∀ n ∈ ErrFlowRead.readFns, ErrFlowRead.progOf n = progOf n) ∧
    (∀ n ∈ ErrFlowPersist.persistFns, ErrFlowPersist.progOf n = progOf n) :=
  ⟨ErrFlowWrite.write_progOf_whole, ErrFlowRead.read_progOf_whole,
   ErrFlowPersist.persist_progOf_whole⟩

/-! ### the exceptions outside the areas (the others are commented in `ErrFlowWrite`, `ErrFlowRead`)

  * `enumerator.Next` / `Next` (enumerator.go): `err := m.itrs[vi].Next();
    if err != nil && err != vellum.ErrIteratorDone { return err }` - a COMBINED CONDITION (the translator
    marks `{:err` only for the bare `x != nil`).  The sentinel is swallowed on purpose (an exhausted
    iterator is recognised by `updateMatches`); anything else is returned at once.  HARMLESS.
  * `enumerator.Close` / `Close` (enumerator.go): `for … { err := itr.Close(); if rv == nil { rv = err } };
    return rv` - the FIRST error is kept and returned at the end, but the remaining iterators are still
    closed: "returns non-nil after a failure" holds, "fails fast" is violated ON PURPOSE.
  * `interim.reset` / `Reset` (new.go): `if s.builder != nil { err = s.builder.Reset(&s.builderBuf) }`
    then four field resets (no calls) and `return err` - RETURNED AT THE END.  HARMLESS.
-/

end Ice.Props.ErrFlowAll
