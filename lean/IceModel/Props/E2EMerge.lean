import IceModel.Props.E2EBuild
import IceModel.Lemmas.E2EMValid
import IceModel.Lemmas.E2EMLays
import IceModel.Lemmas.E2EMFile
import IceModel.Lemmas.E2EMBuild
/-
  END TO END, merger path:  `Merge` + `WriteTo` + `load` + the byte-level readers = `Spec.merge`.

  For every list of input segments `ins : List MIn` inside the input contract of the merge models
  (`MInOK`: what `C02Model` / `C02Stored` / `C16` assume, see `Lemmas/E2EMDefs.lean`), valid
  deletion lists, and explicit numeric bounds on the RESULT (`MBounds`, `Sizes`):
    * `mergedLSeg mode ins` is what `mergeToWriter` lays out: field list from `mergeFields`,
      document count from `computeNewDocCount`, per field the dictionary / 1-hit decisions /
      statistics `MergeLoop.mergeField` produces and the doc-value column `buildMergedDocVals`
      feeds to its coder, the stored documents `mergeStoredAndRemap` writes;
    * `serialize K (mergedLSeg mode ins) = .ok (data, ft)` are the bytes (`Format.serialize` with
      `merger := true` is the model of `mergeToWriter`; it cannot fail: `C04_total`),
      `fileOf K data ft` the file `mergeSegmentBasesWriter` produces;
    * `load mem (fileOf K data ft) = .ok ld` the segment opened from it, for BOTH backings,
  and every read API of `ld`, executed on the bytes, returns what `(Spec.merge mode ins).1` says;
  the document-number maps `Merger.DocumentNumbers()` returns are `(Spec.merge mode ins).2`.

    E2EM_lays     the description lays out `Spec.merge` (fields, terms ↦ postings, stored, dv)
    E2EM_absOK    the invariants of abstract segments are preserved by the merge
    E2EM_valid    the description is a valid input of the container (`C04.Valid`)
    E2EM_written  it is written, and the file loads (both backings)
    E2EM_fields   field list, statistics (C16), document count, chunk mode, `CollectionStats`
    E2EM_dict     the FST of every field holds exactly `Spec.terms` in order
    E2EM_iter     every term: a general postings list read by the byte-level `PostingsIterator`,
                  or a 1-hit value read by the 1-hit path; every exclusion bitmap, flag triple and
                  script answers as the specification iterator over `Spec.postings`
    E2EM_iter_1hit  a term whose FST value is a 1-hit code has exactly one posting (frequency 1, no
                  locations) and the 1-hit iterator delivers it
    E2EM_iter_reuse  (C13) a general term's iterator built over ANY used iterator answers the same
    E2EM_stored   `VisitStoredFields`
    E2EM_dv       doc values
    E2EM_docnums  `mergeStoredAndRemap` (both paths) returns the maps of `Spec.merge` and writes
                  the stored section `serialize` writes
    E2EM_dv_model `buildMergedDocVals` on the inputs' files writes what `serialize` writes
    E2EM_read     all of it in one structure (`ReadsAsM`), for every backing, no `serialize`
                  hypothesis
    E2EM_norm31_counterexample   a norm with bit 31 set is not read back from a 1-hit value
  SECOND GENERATION
    E2EM_closure  a written + loaded segment (valid description laying out a well-formed abstract
                  segment) reads as its specification AND is an input inside the contract of the
                  merge models (`MInOK`; its stored reader is the models' `Src`; its doc-value
                  readers are `DvSpec`s that are OK)
    E2EM_docnums_loaded / E2EM_dv_model_loaded   the models run on the LOADED inputs; both, and
                  `E2EM_docnums` / `E2EM_dv_model`, are instances of `docnums_of` / `dv_model_of`:
                  the models run on any list of readers that are, one by one, those of inputs
                  inside the contract
    Tree, Tree.spec, Tree.lseg, Tree.OK; tree_ok / trees_ok (mutual induction: the invariant
                  `SegOK` of `Lemmas/E2EMValid.lean` holds at every node);
    E2E_tree      every segment reachable by `New` and `Merge` reads as its specification
    exT_*         a two-segment merge with a deletion, four 1-hit terms, a vanished term, a general
                  term with locations, different field lists, doc values (all kernel-checked)

  HYPOTHESES (Go-level meaning; definitions in `Lemmas/E2EMDefs.lean`)
    `MInOK K i`   per input: `AbsOK i.abs` (field list `_id`-first ascending, < 65535 fields;
                  documents only carry listed fields; documents are rolled up - no term twice in
                  a field; locations name listed fields; norm bits < 2^31; `SpecBounds`);
                  `C02Stored.InputOK` (its stored section was written by the stored writer from
                  `i.docs`, which hold what `i.abs` stores; ≤ 2^32 documents; the deletions name
                  existing documents, each once) + `InputCopyOK` (size condition of the copy path,
                  ascending field ids inside a stored document); `DvColOK` per field (the column a
                  doc-value reader of the input reads holds `Spec.dvOf`; no reader ⇒ no doc values).
                  The per-field dictionaries of the input are BY DEFINITION `absDict i.abs f`
                  (the abstraction function of `C02Model`); `E2EM_closure` shows that opened
                  segments are such inputs.
    `MBounds`     `1 ≤ mode ≤ 1025`; fewer than 2^32 merged documents; Σ input counts < 2^64;
                  fewer than 65535 merged fields; merged per-field frequency totals < 2^64.
    `Sizes K L`   as in `Props/E2EBuild.lean` (records, stored section, raw doc-value bytes, file).
    `NonemptyFrames K.stored` (only `E2EM_docnums`): a zstd frame of a non-empty block is non-empty.
-/
namespace Ice.Props.E2EM
open Ice Ice.Spec Ice.Model Ice.Model.Builder Ice.Model.Format
open Ice.Props.C03 (ValidDrops)
open Ice.Model.IterBytes (mkB runB)
open Ice.Model.Iter (RFlags)
open Ice.Model.Writer (Footer)
open Ice.Model.MergeRest (encNum NonemptyFrames mergeStored)
open Ice.Props.E2E

section
variable {K : Codecs} {mode : Nat} {ins : List MIn}
  (hok : ∀ i ∈ ins, MInOK K i) (hB : MBounds mode ins)

include hok hB in
theorem E2EM_lays : Lays (merge mode (absIns ins)).1 (mergedLSeg mode ins) := mergedLSeg_lays hok hB

include hok hB in
theorem E2EM_absOK : AbsOK (merge mode (absIns ins)).1 :=
  absOK_merge mode ins (fun i hi => (hok i hi).abs) hB

variable (hsz : Sizes K (mergedLSeg mode ins))

include hok hB hsz in
/-- **E2EM_valid.**  What `mergeToWriter` lays out for inputs inside the contract and a result
    inside the bounds is a valid input of the container: all of C04 applies to it. -/
theorem E2EM_valid : C04.Valid K (mergedLSeg mode ins) := (mergedLSeg_segOK hok hB hsz).valid

include hok hB hsz in
/-- **E2EM_written.**  The merge writes a file (the writer model is total) and the file loads,
    memory- and file-backed. -/
theorem E2EM_written (mem : Bool) :
    ∃ data ft ld, serialize K (mergedLSeg mode ins) = .ok (data, ft) ∧
      load mem (fileOf K data ft) = .ok ld :=
  C04.C04_written K _ (E2EM_valid hok hB hsz) mem

variable {data : Bytes} {ft : Footer} (hs : serialize K (mergedLSeg mode ins) = .ok (data, ft))
  (mem : Bool) {ld : Loaded} (hl : load mem (fileOf K data ft) = .ok ld)

include hok hB hsz hs hl in
/-- the loaded file reads as `Spec.merge`; `E2EM_dict` … `E2EM_dv` are its clauses -/
theorem E2EM_readsAs : ReadsAsM K (merge mode (absIns ins)).1 ld :=
  (mergedLSeg_segOK hok hB hsz).readsAs hs mem hl

include hok hB hsz hs hl in
/-- **E2EM_fields.**  Field list (`_id` first, the union of the inputs' names ascending),
    per-field statistics (C16: documents with a term in the field, total term frequency), document
    count (C03: the survivors), chunk mode; `CollectionStats` of every name is `Spec.stats`. -/
theorem E2EM_fields :
    ld.fieldsInv = (merge mode (absIns ins)).1.fields ∧
    ld.fieldDocs = (merge mode (absIns ins)).1.fieldDocs ∧
    ld.fieldFreqs = (merge mode (absIns ins)).1.fieldFreqs ∧
    ld.footer.numDocs = numDocs (merge mode (absIns ins)).1 ∧
    ld.footer.chunkMode = mode ∧ ld.data.mem = mem ∧
    ∀ f, loadedStats ld f = stats (merge mode (absIns ins)).1 f :=
  lays_fields (E2EM_valid hok hB hsz) (E2EM_lays hok hB) hs mem hl

include hok hB hsz hs hl in
theorem E2EM_dict :
    (∀ (i : Nat) (f : Bytes), (merge mode (absIns ins)).1.fields[i]? = some f →
      ∃ o, dictionaryOf K ld i = .ok o ∧ dictKeys o = terms (merge mode (absIns ins)).1 f ∧
        ((merge mode (absIns ins)).1.docs ≠ [] → o.isSome)) ∧
    (∀ i : Nat, (merge mode (absIns ins)).1.fields[i]? = none → dictionaryOf K ld i = .ok none) :=
  ⟨(E2EM_readsAs hok hB hsz hs mem hl).dict, (E2EM_readsAs hok hB hsz hs mem hl).dictNone⟩

include hok hB hsz hs hl in
/-- **E2EM_iter.**  For every field `f` (id `i`) and every term `t` of it (the `j`-th key of the
    FST): `Segment.dictionary` finds the FST value `v`; either `PostingsList.read` reads the
    term's record and the byte-level `PostingsIterator` over it answers every script, for every
    exclusion bitmap and flag triple, as the specification iterator over
    `Spec.postings (Spec.merge …) f t`; or `v` is a 1-hit code, decoded to the single posting of
    the term, and the 1-hit path of the iterator answers so. -/
theorem E2EM_iter (i : Nat) (f : Bytes) (hf : (merge mode (absIns ins)).1.fields[i]? = some f)
    (j : Nat) (t : Bytes) (ht : (terms (merge mode (absIns ins)).1 f)[j]? = some t) :
    ∃ fst v, dictionaryOf K ld i = .ok (some fst) ∧ fst[j]? = some (t, v) ∧
      ((∃ fo lo cs, readPostings K ld v =
          .ok (.general fo lo ((postings (merge mode (absIns ins)).1 f t).map (·.doc)) cs) ∧
        ∀ (ex : Option (List Nat)) (fl : Flags) (ops : List IterOp),
          ∃ i0, mkB (plbOf ld fo lo cs ((postings (merge mode (absIns ins)).1 f t).map (·.doc)) ex)
              (RFlags.of fl) = .ok i0 ∧
            (runB K.chunk i0 ops).map (C05Bytes.viewRes fl) =
              (iterRun fl (live (postings (merge mode (absIns ins)).1 f t) ex) ops).map .ok) ∨
       (∃ d n, readPostings K ld v = .ok (.oneHit d n) ∧
          postings (merge mode (absIns ins)).1 f t = [Iter1Hit.posting d n] ∧
        ∀ (ex : Option (List Nat)) (fl : Flags) (ops : List IterOp),
          viewRun fl (Iter1Hit.run (Iter1Hit.mk d n ex (RFlags.of fl)) ops) =
            (iterRun fl (live (postings (merge mode (absIns ins)).1 f t) ex) ops).map some)) :=
  (E2EM_readsAs hok hB hsz hs mem hl).iter i f hf j t ht

include hok hB hsz hs hl in
/-- **E2EM_iter_1hit.**  A term whose FST value carries the 1-hit tag: `PostingsList.read`
    decodes document number and norm from the value, the term has exactly that one posting in
    the merged segment (frequency 1, no locations), and the iterator delivers it (or nothing if
    excluded). -/
theorem E2EM_iter_1hit (i : Nat) (f : Bytes)
    (hf : (merge mode (absIns ins)).1.fields[i]? = some f)
    (j : Nat) (t : Bytes) (ht : (terms (merge mode (absIns ins)).1 f)[j]? = some t)
    (fst : List (Bytes × Nat)) (v : Nat) (hd : dictionaryOf K ld i = .ok (some fst))
    (hv : fst[j]? = some (t, v)) (h1 : is1Hit v = true) :
    readPostings K ld v = .ok (.oneHit (decode1Hit v).1 (decode1Hit v).2) ∧
    postings (merge mode (absIns ins)).1 f t =
      [{ doc := (decode1Hit v).1, freq := 1, norm := (decode1Hit v).2, locs := [] }] ∧
    ∀ (ex : Option (List Nat)) (fl : Flags) (ops : List IterOp),
      viewRun fl (Iter1Hit.run (Iter1Hit.mk (decode1Hit v).1 (decode1Hit v).2 ex (RFlags.of fl)) ops) =
        (iterRun fl (live (postings (merge mode (absIns ins)).1 f t) ex) ops).map some :=
  (E2EM_readsAs hok hB hsz hs mem hl).iter_1hit hf ht hd hv h1

include hok hB hsz hs hl in
/-- **E2EM_iter, reused iterator (C13).**  For a general term the same answers come from an
    iterator constructed over ANY previously used `PostingsIterator`, whatever state it is in. -/
theorem E2EM_iter_reuse (i : Nat) (f : Bytes)
    (hf : (merge mode (absIns ins)).1.fields[i]? = some f)
    (j : Nat) (t : Bytes) (ht : (terms (merge mode (absIns ins)).1 f)[j]? = some t)
    (fst : List (Bytes × Nat)) (v : Nat) (hd : dictionaryOf K ld i = .ok (some fst))
    (hv : fst[j]? = some (t, v)) (h1 : is1Hit v = false) :
    ∃ fo lo cs, readPostings K ld v =
        .ok (.general fo lo ((postings (merge mode (absIns ins)).1 f t).map (·.doc)) cs) ∧
      ∀ (used : Ice.Model.IterBytes.ItB) (ex : Option (List Nat)) (fl : Flags) (ops : List IterOp),
        ∃ i1, Ice.Model.IterBytes.mkBReuse used
            (plbOf ld fo lo cs ((postings (merge mode (absIns ins)).1 f t).map (·.doc)) ex)
            (RFlags.of fl) = .ok i1 ∧
          (runB K.chunk i1 ops).map (C05Bytes.viewRes fl) =
            (iterRun fl (live (postings (merge mode (absIns ins)).1 f t) ex) ops).map .ok :=
  (E2EM_readsAs hok hB hsz hs mem hl).iter_reuse hf ht hd hv h1

include hok hB hsz hs hl in
theorem E2EM_stored (n : Nat) (buf : Stored.Buf) (stop : Option Nat) :
    ∃ vs buf', Stored.visit K.stored ld.storedSeg buf n stop = .ok (vs, buf') ∧
      vs.map (fun p => (ld.fieldsInv.getD p.1 [], p.2)) =
        Stored.takeStop stop (stored (merge mode (absIns ins)).1 n) :=
  (E2EM_readsAs hok hB hsz hs mem hl).stored n buf stop

include hok hB hsz hs hl in
theorem E2EM_dv (i : Nat) (f : Bytes) (hf : (merge mode (absIns ins)).1.fields[i]? = some f) :
    ∃ ro, ld.dvReaders[i]? = some ro ∧
      match ro with
      | none => ∀ n, dvOf (merge mode (absIns ins)).1 n f = []
      | some r0 => ∀ ds : List Nat, (∀ d ∈ ds, d < (merge mode (absIns ins)).1.docs.length) →
          ∃ r', DocValues.Reader.visitAll K.dv ld.data dvChunk r0 ds =
            .ok (ds.map (fun n => dvOf (merge mode (absIns ins)).1 n f), r') :=
  (E2EM_readsAs hok hB hsz hs mem hl).dv i f hf

include hok hB hsz in
/-- **E2EM_read.**  For inputs inside the contract and a result inside the bounds: the file
    `Merge` + `WriteTo` produce exists, loads - memory- and file-backed - and every read API of
    the loaded segment, executed on the bytes, returns what `Spec.merge mode ins` says. -/
theorem E2EM_read (mem : Bool) :
    ∃ data ft ld, serialize K (mergedLSeg mode ins) = .ok (data, ft) ∧
      load mem (fileOf K data ft) = .ok ld ∧ ld.data.mem = mem ∧
      ReadsAsM K (merge mode (absIns ins)).1 ld :=
  (mergedLSeg_segOK hok hB hsz).written_read mem

end

/-- an input together with the bytes that follow the stored section in its file -/
abbrev MInT := MIn × Bytes

theorem inputOK_tail {K : Codecs} {i : MIn} (h : C02Stored.InputOK K.stored docBlock i.sIn)
    (t : Bytes) : C02Stored.InputOK K.stored docBlock (i.sIn t) :=
  ⟨h.fields, h.valid, h.small, h.rel, h.closed, h.drops⟩

theorem inputCopyOK_tail {i : MIn} (h : C02Stored.InputCopyOK i.sIn) (t : Bytes) :
    C02Stored.InputCopyOK (i.sIn t) := ⟨h.size, h.asc⟩

/-- choice along a list -/
theorem exists_zip {α β : Type} {R : α → β → Prop} : ∀ (l : List α), (∀ a ∈ l, ∃ b, R a b) →
    ∃ ps : List (α × β), ps.map (·.1) = l ∧ ∀ p ∈ ps, R p.1 p.2
  | [], _ => ⟨[], rfl, nofun⟩
  | a :: r, h => by
    obtain ⟨b, hb⟩ := h a List.mem_cons_self
    obtain ⟨ps, h1, h2⟩ := exists_zip r fun x hx => h x (List.mem_cons_of_mem _ hx)
    refine ⟨(a, b) :: ps, by rw [List.map_cons, h1], fun p hp => ?_⟩
    rcases List.mem_cons.1 hp with rfl | hp
    · exact hb
    · exact h2 p hp

/-- the stored part of the merge, run on ANY list of stored readers each of which is - for some
    bytes behind its stored section - the `Src` of an input inside the contract: `E2EM_docnums`
    (the readers given as such) and `E2EM_docnums_loaded` (the readers of opened segments) are
    its instances -/
theorem docnums_of {K : Codecs} {mode : Nat} {α : Type} (l : List α) (min : α → MIn)
    (src : α → Ice.Model.MergeRest.Src)
    (hsrc : ∀ a ∈ l, ∃ tail, src a = ((min a).sIn tail).src K.stored docBlock)
    (hok : ∀ a ∈ l, MInOK K (min a)) (hB : MBounds mode (l.map min))
    (hZ : NonemptyFrames K.stored) (vdc : Stored.Buf) :
    ∃ buf', mergeStored K.stored docBlock (l.map src) (l.map fun a => (min a).drops) vdc =
      .ok (storedOut K (mergedLSeg mode (l.map min)),
           (merge mode (absIns (l.map min))).2.map (·.map encNum), buf') := by
  obtain ⟨ps, rfl, h2⟩ := exists_zip l hsrc
  have hok' : ∀ p ∈ ps, MInOK K (min p.1) := fun p hp => hok p.1 (List.mem_map.2 ⟨p, hp, rfl⟩)
  simp only [List.map_map, Function.comp_def] at hB ⊢
  obtain ⟨buf', h⟩ := C02Stored.S_merged K.stored hZ docBlock (by decide) mode
    (ps.map fun p => (min p.1).sIn p.2) vdc
    (List.forall_mem_map.2 fun p hp => inputOK_tail (hok' p hp).stored p.2)
    (by rw [sIn_mergedFields]; exact hB.nfields)
    (fun _ => List.forall_mem_map.2 fun p hp _ => inputCopyOK_tail (hok' p hp).copy p.2)
    (by have e : ((ps.map fun p => (min p.1).sIn p.2).map fun i => i.docs.length) =
            (ps.map fun p => min p.1).map fun i => i.abs.docs.length := by
          rw [List.map_map, List.map_map]
          exact List.map_congr_left fun p hp => (hok' p hp).stored.rel.length_eq
        rw [e]; exact hB.total)
  refine ⟨buf', ?_⟩
  rw [sIn_absIns, sIn_mergedDocs] at h
  simp only [List.map_map, Function.comp_def] at h
  rw [List.map_congr_left h2]
  exact h

/-- **E2EM_docnums** (C03 on the model of `mergeStoredAndRemap`, both paths).  On the inputs'
    stored sections - `Stored.segOfNew` of each input's documents, followed by whatever the rest of
    its file holds - and the deletion bitmaps, `mergeStoredAndRemap` (copying the blocks of inputs
    without deletions when all field lists agree, re-encoding otherwise) succeeds, writes exactly
    the stored section `serialize K (mergedLSeg …)` starts with, and returns as
    `Merger.DocumentNumbers()` the maps `(Spec.merge mode ins).2` (`docDropped` for `none`).
    `hZ`: a zstd frame of a non-empty block is not empty (third-party law). -/
theorem E2EM_docnums {K : Codecs} {mode : Nat} (insT : List MInT)
    (hok : ∀ x ∈ insT, MInOK K x.1) (hB : MBounds mode (insT.map (·.1)))
    (hZ : NonemptyFrames K.stored) (vdc : Stored.Buf) :
    ∃ buf', mergeStored K.stored docBlock
        (insT.map fun x => (x.1.sIn x.2).src K.stored docBlock) (insT.map (·.1.drops)) vdc =
      .ok (storedOut K (mergedLSeg mode (insT.map (·.1))),
           (merge mode (absIns (insT.map (·.1)))).2.map (·.map encNum), buf') :=
  docnums_of insT (·.1) _ (fun x _ => ⟨x.2, rfl⟩) hok hB hZ vdc

theorem any_map_congr {α β γ : Type} {g : α → β} {h : α → γ} {p : β → Bool} {q : γ → Bool} :
    ∀ (l : List α), (∀ a ∈ l, p (g a) = q (h a)) → (l.map g).any p = (l.map h).any q
  | [], _ => rfl
  | a :: r, H => by
    rw [List.map_cons, List.map_cons, List.any_cons, List.any_cons, H a List.mem_cons_self,
      any_map_congr r fun b hb => H b (List.mem_cons_of_mem _ hb)]

/-- the input as the doc-value part (`Props/C02Stored.lean`, (D)) takes it -/
def dvInOf (f : Bytes) (x : MIn × Ice.Model.MergeRest.DvSpec) : C02Stored.DvInput :=
  { abs := x.1.abs, drops := x.1.drops, inFocus := x.1.inFocus f, spec := x.2 }

theorem dvInOf_colIn {K : Codecs} {f : Bytes} {x : MIn × Ice.Model.MergeRest.DvSpec}
    (h : DvFileOK K f x.1 x.2) : (dvInOf f x).colIn = x.1.colIn f := by
  unfold C02Stored.DvInput.colIn dvInOf MIn.colIn
  simp only [h.col]

theorem dvInputOK_of {K : Codecs} {f : Bytes} {x : MIn × Ice.Model.MergeRest.DvSpec}
    (hc : DvColOK f x.1) (h : DvFileOK K f x.1 x.2) :
    C02Stored.DvInputOK K.dv dvChunk f (dvInOf f x) := by
  refine ⟨h.ok, h.docs, ?_⟩
  rw [dvInOf_colIn h]
  exact colIn_rel hc

/-- the doc-value part of the merge for field `f`, run on ANY list of segments (data and reader
    of `f`) each of which is the segment of a reader on the column of an input inside the
    contract: `E2EM_dv_model` and `E2EM_dv_model_loaded` are its instances -/
theorem dv_model_of {K : Codecs} {mode : Nat} {α : Type} (l : List α) (min : α → MIn) (f : Bytes)
    (seg : α → Ice.Model.MergeRest.DvSeg)
    (hseg : ∀ a ∈ l, ∃ sp : Ice.Model.MergeRest.DvSpec, sp.seg = seg a ∧ DvFileOK K f (min a) sp)
    (hok : ∀ a ∈ l, MInOK K (min a)) (hB : MBounds mode (l.map min))
    (hpos : 0 < mNumDocs (l.map min)) (count : Nat) :
    Ice.Model.MergeRest.dvField K.dv dvChunk (mNumDocs (l.map min)) count l
        (fun a => (min a).inFocus f) seg
        ((merge mode (absIns (l.map min))).2.map (·.map encNum)) =
      match dvColM (l.map min) f with
      | some vals => DocValues.mergeField K.dv dvChunk (mNumDocs (l.map min) - 1) count
          (DocValues.encVals vals)
      | none => .ok ([], DocValues.maxUint64, DocValues.maxUint64) := by
  obtain ⟨ps, rfl, h2⟩ := exists_zip l hseg
  have hok' : ∀ p ∈ ps, MInOK K (min p.1) := fun p hp => hok p.1 (List.mem_map.2 ⟨p, hp, rfl⟩)
  -- `dvField` sees its segments through the focus flags and the readers only
  rw [dvField_congr K.dv dvChunk _ count (ps.map (·.1)) _ seg
    (ps.map fun p => dvInOf f (min p.1, p.2)) (·.inFocus) (fun i => i.spec.seg) _
    (by rw [List.map_map, List.map_map]; rfl)
    (by rw [List.map_map, List.map_map]
        exact List.map_congr_left fun p hp => (h2 p hp).1.symm)]
  simp only [List.map_map, Function.comp_def] at hB hpos ⊢
  have hnd := mNumDocs_eq mode (ps.map fun p => min p.1)
    (drops_valid (K := K) (List.forall_mem_map.2 hok')) hB.total
  have hsmall : mNumDocs (ps.map fun p => min p.1) < 2 ^ 32 := hnd ▸ hB.numDocs
  have habs : C02Stored.dvAbsIns (ps.map fun p => dvInOf f (min p.1, p.2)) =
      absIns (ps.map fun p => min p.1) := by
    unfold C02Stored.dvAbsIns absIns
    rw [List.map_map, List.map_map]; rfl
  have hD := C02Stored.D_merged K.dv dvChunk (by decide) f mode count
    (ps.map fun p => dvInOf f (min p.1, p.2))
    (List.forall_mem_map.2 fun p hp => dvInputOK_of ((hok' p hp).dv f) (h2 p hp).2)
    (by rw [habs, ← hnd]; exact Nat.lt_trans hsmall (by decide))
  have hany : ((ps.map fun p => dvInOf f (min p.1, p.2)).any fun i => i.inFocus && i.spec.col.isSome) =
      dvHas (ps.map fun p => min p.1) f :=
    any_map_congr ps fun p hp => by
      show ((min p.1).inFocus f && p.2.col.isSome) = _
      rw [(h2 p hp).2.col, Option.isSome_map]
  have hcol : C02Stored.mergedCol (ps.map fun p => dvInOf f (min p.1, p.2)) =
      DocValues.encVals (dvColFrom f (ps.map fun p => min p.1) 0) := by
    unfold C02Stored.mergedCol
    rw [encVals_dvColFrom, List.map_map, List.map_map]
    exact congrArg (Ice.Model.MergeRest.mergedColFrom · 0)
      (List.map_congr_left fun p hp => dvInOf_colIn (h2 p hp).2)
  rw [habs, ← hnd, hany, hcol, DocValues.sub64_small (Nat.lt_trans hsmall (by decide)) hpos] at hD
  rw [hD]
  unfold dvColM
  cases dvHas (ps.map fun p => min p.1) f <;> rfl

/-- **E2EM_dv_model.**  `buildMergedDocVals` (with the FILTERED document-number maps of
    `setupActiveForField`, merge.go:251-252, 336-337) run on the inputs' files for field `f`,
    with the writer standing at `count`, does exactly what `Format.writeField` does for the
    column `dvColM ins f` of the description: the progressive doc-value writer on the encoded
    merged column, or nothing (both offsets `fieldNotUninverted`) when no input in focus has a
    reader. -/
theorem E2EM_dv_model {K : Codecs} {mode : Nat} (f : Bytes)
    (insD : List (MIn × Ice.Model.MergeRest.DvSpec))
    (hok : ∀ x ∈ insD, MInOK K x.1) (hfile : ∀ x ∈ insD, DvFileOK K f x.1 x.2)
    (hB : MBounds mode (insD.map (·.1))) (hpos : 0 < mNumDocs (insD.map (·.1))) (count : Nat) :
    Ice.Model.MergeRest.dvField K.dv dvChunk (mNumDocs (insD.map (·.1))) count (insD.map (dvInOf f))
        (·.inFocus) (fun i => i.spec.seg)
        ((merge mode (absIns (insD.map (·.1)))).2.map (·.map encNum)) =
      match dvColM (insD.map (·.1)) f with
      | some vals => DocValues.mergeField K.dv dvChunk (mNumDocs (insD.map (·.1)) - 1) count
          (DocValues.encVals vals)
      | none => .ok ([], DocValues.maxUint64, DocValues.maxUint64) := by
  rw [← dv_model_of insD (·.1) f (·.2.seg) (fun x hx => ⟨x.2, rfl, hfile x hx⟩) hok hB hpos count]
  apply dvField_congr <;> rw [List.map_map] <;> rfl

/-! ## SECOND GENERATION: trees of merges

  Leaves are segments built by `New` from a batch, nodes are merges of their children (each with
  a deletion list).  `Tree.spec` is what the tree MEANS (nested `Spec.build` / `Spec.merge`),
  `Tree.lseg` what the writers lay out (`Built.toLSeg` / `mergedLSeg`, the inputs of a merge being
  the children's descriptions, `MIn.ofLSeg`).  `Tree.OK` collects the hypotheses node by node: the
  contract of `New` and the bounds at the leaves; valid deletions, the numeric bounds of the result
  and the copy-path size condition at the nodes.  The closure property that makes the induction
  go through is `minOK_of_lays` (`Lemmas/E2EMValid.lean`): a written segment that lays out a
  well-formed abstract segment is an input inside the contract of the merge. -/

inductive Tree where
  | leaf (mode : Nat) (b : Batch)
  | node (mode : Nat) (children : List (Tree × List Nat))

mutual
def Tree.spec (nc : Bytes → Nat → Nat) : Tree → AbsSeg
  | .leaf mode b => build nc mode b
  | .node mode cs => (merge mode (Tree.specs nc cs)).1
def Tree.specs (nc : Bytes → Nat → Nat) : List (Tree × List Nat) → List (AbsSeg × List Nat)
  | [] => []
  | (t, d) :: r => (Tree.spec nc t, d) :: Tree.specs nc r
end

mutual
def Tree.lseg (nc : Bytes → Nat → Nat) : Tree → LSeg
  | .leaf mode b => (builtOf nc b).toLSeg mode
  | .node mode cs => mergedLSeg mode (Tree.mins nc cs)
def Tree.mins (nc : Bytes → Nat → Nat) : List (Tree × List Nat) → List MIn
  | [] => []
  | (t, d) :: r => MIn.ofLSeg (Tree.spec nc t) d (Tree.lseg nc t) :: Tree.mins nc r
end

mutual
def Tree.OK (K : Codecs) (nc : Bytes → Nat → Nat) : Tree → Prop
  | .leaf mode b => ValidBatch b ∧ Bounds nc b ∧ (1 ≤ mode ∧ mode ≤ 1025) ∧
      (build nc mode b).fields.length < 65535 ∧ Sizes K ((builtOf nc b).toLSeg mode)
  | .node mode cs => Tree.OKs K nc cs ∧ MBounds mode (Tree.mins nc cs) ∧
      Sizes K (mergedLSeg mode (Tree.mins nc cs))
def Tree.OKs (K : Codecs) (nc : Bytes → Nat → Nat) : List (Tree × List Nat) → Prop
  | [] => True
  | (t, d) :: r => Tree.OK K nc t ∧ ValidDrops (Tree.spec nc t).docs.length d ∧
      (Stored.recs (Tree.lseg nc t).stored).length + 10 < 2 ^ 63 ∧ Tree.OKs K nc r
end

theorem absIns_mins (nc : Bytes → Nat → Nat) : ∀ cs, absIns (Tree.mins nc cs) = Tree.specs nc cs
  | [] => rfl
  | (t, d) :: r => by
    simp only [Tree.mins, Tree.specs, absIns, List.map_cons]
    congr 1
    exact absIns_mins nc r


section
variable {K : Codecs} {nc : Bytes → Nat → Nat}

mutual
theorem tree_ok (hn31 : ∀ n l, nc n l < 2 ^ 31) : ∀ (t : Tree), Tree.OK K nc t →
    SegOK K (t.spec nc) (t.lseg nc)
  | .leaf mode _, ⟨hv, hB, hmode, hnf, hsz⟩ =>
    .of_lays (build_lays hv mode) (absOK_build hv mode hB hn31 hnf) hmode hsz
  | .node mode cs, ⟨hcs, hB, hsz⟩ =>
    show SegOK K (merge mode (Tree.specs nc cs)).1 _ from
      absIns_mins nc cs ▸ mergedLSeg_segOK (trees_ok hn31 cs hcs) hB hsz
theorem trees_ok (hn31 : ∀ n l, nc n l < 2 ^ 31) : ∀ (cs : List (Tree × List Nat)), Tree.OKs K nc cs →
    ∀ i ∈ Tree.mins nc cs, MInOK K i
  | [], _ => nofun
  | (t, d) :: r, ⟨ht, hd, hcopy, hr⟩ =>
    List.forall_mem_cons.2 ⟨minOK_of_lays (tree_ok hn31 t ht) d hd hcopy, trees_ok hn31 r hr⟩
end

end


/-- **E2E_tree.**  Every segment reachable by `New` and `Merge` (any tree, every node inside the
    bounds) is written, loads - memory- and file-backed - and reads, through the byte-level
    readers, as its specification. -/
theorem E2E_tree {K : Codecs} {nc : Bytes → Nat → Nat} (hn31 : ∀ n l, nc n l < 2 ^ 31) (t : Tree)
    (h : Tree.OK K nc t) (mem : Bool) :
    ∃ data ft ld, serialize K (t.lseg nc) = .ok (data, ft) ∧
      load mem (fileOf K data ft) = .ok ld ∧ ld.data.mem = mem ∧ ReadsAsM K (t.spec nc) ld :=
  (tree_ok hn31 t h).written_read mem

/-- the inputs of a node are inside the contract of the merge: all of `E2EM_*` applies to it -/
theorem E2E_tree_inputs {K : Codecs} {nc : Bytes → Nat → Nat} (hn31 : ∀ n l, nc n l < 2 ^ 31)
    (mode : Nat) (cs : List (Tree × List Nat)) (h : Tree.OK K nc (.node mode cs)) :
    (∀ i ∈ Tree.mins nc cs, MInOK K i) ∧ MBounds mode (Tree.mins nc cs) ∧
      Sizes K (mergedLSeg mode (Tree.mins nc cs)) ∧
      (Tree.node mode cs).spec nc = (merge mode (absIns (Tree.mins nc cs))).1 := by
  obtain ⟨hcs, hB, hsz⟩ := h
  refine ⟨trees_ok hn31 cs hcs, hB, hsz, ?_⟩
  rw [absIns_mins]
  rfl

/-! ## the hypothesis `AbsOK.norm31` is needed

  `Bounds.norm` of the builder path only asks for 32-bit norm bits.  For the merger that is not
  enough: `fSTValEncode1Hit` keeps 31 bits of the norm (posting.go: `mask31Bits`), so a 1-hit
  encoded posting whose norm has bit 31 set (the bit pattern of a NEGATIVE float32) is read back
  with a different norm.  Real executions satisfy `norm31`: `normCalc` returns non-negative
  values (in bluge `1/sqrt(length)`), whose sign bit is clear. -/

/-- one segment, one document, term `a` with frequency 1, no location, norm bits `2^31 + 5`: the
    merge loop 1-hit encodes it, and the FST value decodes to norm `5` -/
theorem E2EM_norm31_counterexample :
    let s0 : Ice.Model.MergeLoop.SegIn :=
      { dict := some [([97], [{ doc := 0, freq := 1, norm := 2 ^ 31 + 5, locs := [] }])],
        drops := none, newDocNums := [some 0] }
    let cfg : Ice.Model.MergeLoop.Cfg := { fieldsInv := [idField], chunkMode := 1025, newSegDocCount := 1 }
    (Ice.Model.MergeLoop.mergeField cfg [s0]).toOption.map
        (fun r => r.dict.map (fun e => (e.entries.map (·.norm), e.oneHit.map decode1Hit))) =
      some [([2 ^ 31 + 5], some (0, 5))] := by
  decide +kernel

/-- … accordingly such a term description is not a valid input of the container -/
example : ¬ TermDesc.Valid true 1 (.oneHit 0 (2 ^ 31 + 5)) := by decide +kernel

/-! ## the closure property on the level of files

  `Opened.OK`: a segment that was written from a valid description laying out a well-formed
  abstract segment, and loaded back (either backing).  What the merge models read of such
  segments - field list and stored reader, data and doc-value readers - are inputs inside the
  contract of the merge models, and what they write is `serialize` of `mergedLSeg`. -/

/-- a written and loaded segment with the deletions a merge is to apply to it -/
structure Opened where
  S : AbsSeg
  drops : List Nat
  L : LSeg
  ld : Loaded

/-- the merge input it is -/
def Opened.min (o : Opened) : MIn := MIn.ofLSeg o.S o.drops o.L

structure Opened.OK (K : Codecs) (o : Opened) : Prop where
  valid : C04.Valid K o.L
  lays : Lays o.S o.L
  abs : AbsOK o.S
  drops : ValidDrops o.S.docs.length o.drops
  copy : (Stored.recs o.L.stored).length + 10 < 2 ^ 63
  loaded : ∃ data ft mem, serialize K o.L = .ok (data, ft) ∧ load mem (fileOf K data ft) = .ok o.ld

/-- **closure (one input).**  An opened segment reads as its specification, and what the merge
    reads of it satisfies the input contract of the merge models: `MInOK` (term loop, stored part
    on both paths, doc-value columns), its stored reader is the `Src` of that input, and for every
    field its doc-value reader is a reader on the input's column. -/
theorem E2EM_closure {K : Codecs} {o : Opened} (h : o.OK K) :
    ReadsAsM K o.S o.ld ∧ MInOK K o.min ∧
    (∃ tail, ({ fields := o.ld.fieldsInv, seg := o.ld.storedSeg } : Ice.Model.MergeRest.Src) =
      (o.min.sIn tail).src K.stored docBlock) ∧
    ∀ f, ∃ sp : Ice.Model.MergeRest.DvSpec, sp.seg.data = o.ld.data ∧
      sp.seg.reader = Ice.Model.MergeRest.dvReaderOf o.ld.fieldsInv o.ld.dvReaders f ∧
      DvFileOK K f o.min sp := by
  obtain ⟨data, ft, mem, hs, hl⟩ := h.loaded
  have hS : SegOK K o.S o.L := ⟨h.valid, h.lays, h.abs⟩
  exact ⟨hS.readsAs hs mem hl, minOK_of_lays hS o.drops h.drops h.copy,
    loaded_src h.valid h.lays hs mem hl o.drops,
    loaded_dvFile h.valid h.lays hs mem hl o.drops⟩

/-- **E2EM_docnums on opened segments.**  `mergeStoredAndRemap` run on the field lists and
    stored readers of the loaded inputs writes the stored section of `serialize (mergedLSeg …)`
    and returns the maps of `Spec.merge`. -/
theorem E2EM_docnums_loaded {K : Codecs} {mode : Nat} (os : List Opened) (hok : ∀ o ∈ os, o.OK K)
    (hB : MBounds mode (os.map Opened.min)) (hZ : NonemptyFrames K.stored) (vdc : Stored.Buf) :
    ∃ buf', mergeStored K.stored docBlock
        (os.map fun o => { fields := o.ld.fieldsInv, seg := o.ld.storedSeg })
        (os.map (·.drops)) vdc =
      .ok (storedOut K (mergedLSeg mode (os.map Opened.min)),
           (merge mode (absIns (os.map Opened.min))).2.map (·.map encNum), buf') :=
  docnums_of os Opened.min _ (fun o ho => (E2EM_closure (hok o ho)).2.2.1)
    (fun o ho => (E2EM_closure (hok o ho)).2.1) hB hZ vdc

/-- **E2EM_dv_model on opened segments.**  `buildMergedDocVals` for field `f`, run on the data
    and doc-value readers of the loaded inputs (in focus: the input has a term in `f`), with the
    maps `mergeStoredAndRemap` returned, does what `Format.writeField` does for the column of the
    description. -/
theorem E2EM_dv_model_loaded {K : Codecs} {mode : Nat} (f : Bytes) (os : List Opened)
    (hok : ∀ o ∈ os, o.OK K) (hB : MBounds mode (os.map Opened.min))
    (hpos : 0 < mNumDocs (os.map Opened.min)) (count : Nat) :
    Ice.Model.MergeRest.dvField K.dv dvChunk (mNumDocs (os.map Opened.min)) count os
        (fun o => o.min.inFocus f)
        (fun o => { data := o.ld.data,
                    reader := Ice.Model.MergeRest.dvReaderOf o.ld.fieldsInv o.ld.dvReaders f })
        ((merge mode (absIns (os.map Opened.min))).2.map (·.map encNum)) =
      match dvColM (os.map Opened.min) f with
      | some vals => DocValues.mergeField K.dv dvChunk (mNumDocs (os.map Opened.min) - 1) count
          (DocValues.encVals vals)
      | none => .ok ([], DocValues.maxUint64, DocValues.maxUint64) :=
  dv_model_of os Opened.min f _
    (fun o ho => by
      obtain ⟨sp, h1, h2, h3⟩ := (E2EM_closure (hok o ho)).2.2.2 f
      exact ⟨sp, by rw [← h1, ← h2], h3⟩)
    (fun o ho => (E2EM_closure (hok o ho)).2.1) hB hpos count

/-! ## a concrete merge: the hypotheses are satisfiable (kernel-checked)

  Two built segments.  The first is the three-document batch `exB` of `Props/E2EBuild.lean`
  (fields `_id`, `f`), its document 1 DELETED; the second a one-document batch with a field `g` the
  first does not know (so the field lists differ and the stored documents are re-encoded).
  In the result: the `_id` terms "0", "2", "3" and the term `c` of `g` are 1-HIT encoded (one
  posting, frequency 1, no locations); the `_id` term "1" and the term `b` of `f` vanish with the
  deleted document; term `a` of `f` keeps one posting with two locations (general encoding);
  `f` and `g` have doc values.  Chunk mode 2, the "identity" codecs of `Props/C04.lean`. -/

def fG : Bytes := [103]
def tc : Bytes := [99]

def exB2 : Batch :=
  [ [ { name := idField, length := 1, store := true, dv := false, value := [51],
        terms := [ { term := [51], freq := 1, locs := [] } ] },
      { name := fG, length := 1, store := true, dv := true, value := [122],
        terms := [ { term := tc, freq := 1, locs := [] } ] } ] ]

/-- merge of (`exB` without its document 1) and `exB2` -/
def exT : Tree := .node 2 [(.leaf 2 exB, [1]), (.leaf 2 exB2, [])]

theorem nc0_31 (n : Bytes) (l : Nat) : C01.nc0 n l < 2 ^ 31 :=
  show 1 + (3 * l + 5 * n.sum + 7) % 0x7f7fffff < 2 ^ 31 from
    Nat.lt_of_lt_of_le (Nat.add_lt_add_left (Nat.mod_lt _ (by decide)) 1) (by decide)

theorem ex2_validBatch : ValidBatch exB2 := by decide +kernel

theorem ex2_bounds : Bounds C01.nc0 exB2 :=
  ⟨by decide, fun n l => Nat.lt_trans (nc0_31 n l) (by decide), by decide +kernel,
    by decide +kernel, by decide +kernel, by decide +kernel, by decide +kernel, by decide +kernel⟩

/-- what `New` lays out for the second batch -/
def exL2 : LSeg := (builtOf C01.nc0 exB2).toLSeg 2

def exData2 : Bytes :=
  [6, 2, 0, 0, 1, 1, 1, 1, 51, 122, 0, 10, 0, 0, 0, 2, 0, 0, 0, 2, 0, 0, 0, 0, 0, 0, 0, 0, 1, 3, 2, 231, 11, 28, 0, 1,
    0, 10, 1, 51, 0, 0, 0, 0, 0, 0, 0, 33, 1, 3, 2, 142, 4, 48, 0, 1, 0, 10, 1, 99, 0, 0, 0, 0, 0, 0, 0, 53, 1, 0, 2,
    99, 255, 5, 0, 0, 0, 0, 0, 0, 0, 1, 0, 0, 0, 0, 0, 0, 0, 1, 255, 255, 255, 255, 255, 255, 255, 255, 255, 1, 255,
    255, 255, 255, 255, 255, 255, 255, 255, 1, 68, 90, 37, 3, 95, 105, 100, 1, 1, 57, 1, 103, 1, 1, 0, 0, 0, 0, 0, 0, 0,
    112, 0, 0, 0, 0, 0, 0, 0, 119]

def exFooter2 : Footer :=
  { numDocs := 1, storedIndexOffset := 20, fieldsIndexOffset := 124, docValueOffset := 90,
    chunkMode := 2, version := 2, crc := 0 }

theorem ex2_serialize : serialize C04.exK exL2 = .ok (exData2, exFooter2) := by decide +kernel

theorem ex2_sizes : Sizes C04.exK exL2 := by
  refine ⟨by decide +kernel, by decide +kernel, by decide +kernel, ?_⟩
  rw [ex2_serialize]; decide +kernel

/-- the description of the merge -/
def exML : LSeg := exT.lseg C01.nc0

/-- **the description, evaluated**: document numbers renumbered (old 0, 2 of the first input ↦ 0, 1;
    old 0 of the second ↦ 2), four 1-hit terms, one general term with its locations in merged
    field ids, the vanished terms absent, stored values regrouped by merged field id -/
theorem exT_layout : exML =
    { merger := true, numDocs := 3, chunkMode := 2,
      fields := [
        { name := idField, fieldDocs := 3, fieldFreqs := 3,
          terms := [([48], .oneHit 0 1511), ([50], .oneHit 1 1511), ([51], .oneHit 2 1511)],
          dv := none },
        { name := fF, fieldDocs := 1, fieldFreqs := 2,
          terms := [(ta, .general [⟨0, 2, 524, [⟨1, 1, 0, 1⟩, ⟨1, 3, 4, 5⟩]⟩])],
          dv := some [(0, [ta])] },
        { name := fG, fieldDocs := 1, fieldFreqs := 1,
          terms := [(tc, .oneHit 2 526)],
          dv := some [(2, [tc])] } ],
      stored := [[(0, [[48]]), (1, [[120, 121]]), (2, [])],
                 [(0, [[50]]), (1, []), (2, [])],
                 [(0, [[51]]), (1, []), (2, [[122]])]] } := by
  decide +kernel

def exMData : Bytes :=
  [6, 3, 0, 0, 1, 1, 1, 2, 48, 120, 121, 3, 1, 0, 0, 1, 50, 6, 2, 0, 0, 1, 2, 1, 1, 51, 122, 0, 27, 0, 0, 0, 2, 0, 0,
    0, 2, 0, 0, 0, 0, 0, 0, 0, 0, 0, 0, 0, 0, 0, 0, 0, 11, 0, 0, 0, 0, 0, 0, 0, 17, 30, 1, 48, 128, 0, 2, 243, 128, 0,
    0, 0, 1, 50, 128, 0, 2, 243, 128, 0, 0, 1, 1, 51, 128, 0, 2, 243, 128, 0, 0, 2, 2, 3, 3, 5, 140, 4, 2, 9, 9, 8, 1,
    1, 0, 1, 1, 3, 4, 5, 92, 6, 1, 0, 10, 1, 97, 0, 0, 0, 0, 0, 0, 0, 110, 1, 0, 2, 97, 255, 5, 0, 0, 0, 0, 0, 0, 0, 1,
    0, 0, 0, 0, 0, 0, 0, 1, 10, 1, 99, 128, 0, 1, 7, 0, 0, 0, 2, 1, 2, 2, 99, 255, 5, 0, 0, 0, 0, 0, 0, 0, 1, 0, 0, 0,
    0, 0, 0, 0, 1, 255, 255, 255, 255, 255, 255, 255, 255, 255, 1, 255, 255, 255, 255, 255, 255, 255, 255, 255, 1, 125,
    147, 1, 158, 1, 180, 1, 61, 3, 95, 105, 100, 3, 3, 114, 1, 102, 1, 2, 147, 1, 1, 103, 1, 1, 0, 0, 0, 0, 0, 0, 0,
    207, 0, 0, 0, 0, 0, 0, 0, 214, 0, 0, 0, 0, 0, 0, 0, 219]

def exMFooter : Footer :=
  { numDocs := 3, storedIndexOffset := 37, fieldsIndexOffset := 225, docValueOffset := 180,
    chunkMode := 2, version := 2, crc := 0 }

/-- the bytes `mergeToWriter` writes for it (evaluated in the kernel) -/
theorem exT_serialize : serialize C04.exK exML = .ok (exMData, exMFooter) := by
  rw [exT_layout]; decide +kernel

theorem exT_sizes : Sizes C04.exK exML := by
  have hs := exT_serialize
  rw [exT_layout] at hs ⊢
  exact ⟨by decide +kernel, by decide +kernel, by decide +kernel, by rw [hs]; decide +kernel⟩

theorem exT_mbounds : MBounds 2 (Tree.mins C01.nc0 [(.leaf 2 exB, [1]), (.leaf 2 exB2, [])]) := by
  refine ⟨by decide, by decide +kernel, by decide +kernel, by decide +kernel, by decide +kernel⟩

/-- **every hypothesis of the tree theorem holds for the example** -/
theorem exT_ok : Tree.OK C04.exK C01.nc0 exT := by
  refine ⟨⟨⟨ex_validBatch, ex_bounds, by decide, by decide +kernel, ex_sizes⟩, ?_, ?_,
    ⟨ex2_validBatch, ex2_bounds, by decide, by decide +kernel, ex2_sizes⟩, ?_, ?_, trivial⟩,
    exT_mbounds, exT_sizes⟩
  · exact ⟨by decide, by decide +kernel⟩
  · decide +kernel
  · exact ⟨by decide +kernel, by decide +kernel⟩
  · decide +kernel

/-- … so the merged file reads as `Spec.merge` says, for both backings -/
theorem exT_read (mem : Bool) :
    ∃ ld, load mem (fileOf C04.exK exMData exMFooter) = .ok ld ∧ ld.data.mem = mem ∧
      ReadsAsM C04.exK (exT.spec C01.nc0) ld := by
  obtain ⟨data, ft, ld, hs, hl, hm, hr⟩ := E2E_tree nc0_31 exT exT_ok mem
  cases (show serialize C04.exK exML = .ok (data, ft) from hs).symm.trans exT_serialize
  exact ⟨ld, hl, hm, hr⟩

/-- the observations of the specification of the example -/
theorem exT_spec :
    (exT.spec C01.nc0).fields = [idField, fF, fG] ∧
    numDocs (exT.spec C01.nc0) = 3 ∧
    terms (exT.spec C01.nc0) idField = [[48], [50], [51]] ∧
    terms (exT.spec C01.nc0) fF = [ta] ∧
    postings (exT.spec C01.nc0) fG tc = [{ doc := 2, freq := 1, norm := 526, locs := [] }] ∧
    stored (exT.spec C01.nc0) 0 = [(idField, [48]), (fF, [120, 121])] ∧
    dvOf (exT.spec C01.nc0) 2 fG = [tc] ∧
    stats (exT.spec C01.nc0) fF = (3, 1, 2) ∧
    (merge 2 (absIns (Tree.mins C01.nc0 [(.leaf 2 exB, [1]), (.leaf 2 exB2, [])]))).2 =
      [[some 0, none, some 1], [some 2]] := by
  decide +kernel

/-- the left-hand sides of `E2EM_iter`, evaluated on the bytes: the general term `a` of field
    `f` (id 1, key 0) through the byte-level iterator, the 1-hit term `c` of field `g` (id 2,
    key 0) through the 1-hit path; all flags, script `Next, Next, Advance 0` -/
def exMTranscript (mem : Bool) (field : Nat) : List (Res (Option Posting)) :=
  match load mem (fileOf C04.exK exMData exMFooter) with
  | .ok ld =>
    (match dictionaryOf C04.exK ld field with
     | .ok (some fst) =>
       (match fst[0]? with
        | some (_, v) =>
          (match readPostings C04.exK ld v with
           | .ok (.general fo lo docs cs) =>
             C05Bytes.runRes C04.exK.chunk
               (mkB (plbOf ld fo lo cs docs none) (RFlags.of ⟨true, true, true⟩))
               [.next, .next, .advance 0]
           | .ok (.oneHit d n) =>
             (Iter1Hit.run (Iter1Hit.mk d n none (RFlags.of ⟨true, true, true⟩))
               [.next, .next, .advance 0]).map Ice.Model.IterBytes.resOf
           | _ => [])
        | none => [])
     | _ => [])
  | _ => []

/-- the segment `load` builds from the merged file -/
def exMLd (mem : Bool) : Loaded :=
  { data := { bytes := exMData, mem := mem }, footer := { exMFooter with crc := 10923 },
    fieldsInv := [idField, fF, fG], dictLocs := [61, 114, 147], fieldDocs := [3, 1, 1],
    fieldFreqs := [3, 2, 1], storedChunkOffsets := [0, 27],
    dvReaders := [none,
      some { curChunkNum := 2 ^ 63 - 1, chunkOffsets := [5], dvDataLoc := 125,
             curChunkHeader := [], curChunkData := none, uncompressed := [] },
      some { curChunkNum := 2 ^ 63 - 1, chunkOffsets := [5], dvDataLoc := 158,
             curChunkHeader := [], curChunkData := none, uncompressed := [] }] }

/-- the loader, evaluated once on the bytes; the file-backed segment differs in the backing only -/
theorem exT_load (mem : Bool) : load mem (fileOf C04.exK exMData exMFooter) = .ok (exMLd mem) := by
  have h : load true (fileOf C04.exK exMData exMFooter) = .ok (exMLd true) := by decide +kernel
  cases mem
  · exact load_toFile _ _ h
  · exact h

theorem exT_transcript (mem : Bool) :
    exMTranscript mem 1 =
      [ .ok (some { doc := 0, freq := 2, norm := 524, locs := [⟨fF, 1, 0, 1⟩, ⟨fF, 3, 4, 5⟩] }),
        .ok none, .ok none ] ∧
    exMTranscript mem 2 =
      [ .ok (some { doc := 2, freq := 1, norm := 526, locs := [] }), .ok none, .ok none ] := by
  unfold exMTranscript
  simp only [exT_load]
  -- the readers, evaluated on the loaded segment, per backing
  cases mem <;> decide +kernel

/-- `E2EM_docnums` for the example: on the two built segments' stored sections (followed by any
    bytes) `mergeStoredAndRemap` writes the stored section of the merged file and returns the
    maps `[[0, dropped, 1], [2]]` -/
theorem exT_docnums (t1 t2 : Bytes) (vdc : Stored.Buf) :
    ∃ buf', mergeStored C04.exK.stored docBlock
        [((MIn.ofLSeg (build C01.nc0 2 exB) [1] exL).sIn t1).src C04.exK.stored docBlock,
         ((MIn.ofLSeg (build C01.nc0 2 exB2) [] exL2).sIn t2).src C04.exK.stored docBlock]
        [[1], []] vdc =
      .ok (storedOut C04.exK exML, [[0, Ice.Model.MergeRest.docDropped, 1], [2]], buf') := by
  obtain ⟨hok, hB, _, _⟩ := E2E_tree_inputs nc0_31 2 _ exT_ok
  obtain ⟨buf', h⟩ := E2EM_docnums (K := C04.exK) (mode := 2)
    [(MIn.ofLSeg (build C01.nc0 2 exB) [1] exL, t1), (MIn.ofLSeg (build C01.nc0 2 exB2) [] exL2, t2)]
    (by intro x hx
        simp only [List.mem_cons, List.not_mem_nil, or_false] at hx
        rcases hx with rfl | rfl
        · exact hok _ List.mem_cons_self
        · exact hok _ (List.mem_cons_of_mem _ List.mem_cons_self))
    hB (fun _ h => h) vdc
  refine ⟨buf', ?_⟩
  rw [show (merge 2 (absIns (List.map (fun x => x.1)
      [(MIn.ofLSeg (build C01.nc0 2 exB) [1] exL, t1),
       (MIn.ofLSeg (build C01.nc0 2 exB2) [] exL2, t2)]))).2 = [[some 0, none, some 1], [some 2]]
    from exT_spec.2.2.2.2.2.2.2.2] at h
  exact h

end Ice.Props.E2EM

/-! axiom audit (expected: a subset of propext, Classical.choice, Quot.sound) -/
section Audit
open Ice.Props.E2EM
#print axioms lays_read
#print axioms lays_valid
#print axioms mergedLSeg_lays
#print axioms absOK_merge
#print axioms fieldOf_spec
#print axioms dvColFrom_dvOf
#print axioms minOK_of_lays
#print axioms build_lays
#print axioms absOK_build
#print axioms E2EM_lays
#print axioms E2EM_valid
#print axioms E2EM_written
#print axioms E2EM_fields
#print axioms E2EM_dict
#print axioms E2EM_iter
#print axioms E2EM_iter_1hit
#print axioms E2EM_iter_reuse
#print axioms E2EM_stored
#print axioms E2EM_dv
#print axioms E2EM_read
#print axioms E2EM_docnums
#print axioms E2EM_dv_model
#print axioms E2EM_norm31_counterexample
#print axioms E2EM_closure
#print axioms E2EM_docnums_loaded
#print axioms E2EM_dv_model_loaded
#print axioms tree_ok
#print axioms trees_ok
#print axioms E2E_tree
#print axioms E2E_tree_inputs
#print axioms exT_layout
#print axioms exT_serialize
#print axioms exT_ok
#print axioms exT_read
#print axioms exT_spec
#print axioms exT_transcript
#print axioms exT_docnums
end Audit
