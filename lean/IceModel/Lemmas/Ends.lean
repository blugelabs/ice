import IceModel.Model.ChunkBytes
import IceModel.Model.DocValues
import IceModel.Lemmas.Lists
/-
  The table of end offsets that follows a run of consecutive pieces (chunks, blocks): `ends s L` for
  pieces of lengths `L` starting at `s`.  Both chunked coders write it (`ChunkBytes.endOffsets`,
  `DocValues.endOffsets`: the same function, on `uint64`), and it is `ends` as long as nothing wraps.
-/
namespace Ice

def ends (s : Nat) : List Nat → List Nat
  | [] => []
  | n :: L => (s + n) :: ends (s + n) L

theorem ends_length (L : List Nat) : ∀ s, (ends s L).length = L.length := by
  induction L with
  | nil => intro _; rfl
  | cons n L ih => intro s; rw [ends, List.length_cons, ih, List.length_cons]

/-- with the start in front, entry `i` is where piece `i` starts and piece `i - 1` ends -/
theorem ends_getElem? (L : List Nat) : ∀ (s i : Nat), i ≤ L.length →
    (s :: ends s L)[i]? = some (s + (L.take i).sum) := by
  induction L with
  | nil => intro s i h; obtain rfl : i = 0 := Nat.le_zero.mp h; rfl
  | cons n L ih =>
    intro s i h
    cases i with
    | zero => rfl
    | succ i =>
      rw [List.getElem?_cons_succ, ends, ih (s + n) i (Nat.le_of_succ_le_succ h), List.take_succ_cons,
        List.sum_cons, Nat.add_assoc]

/-- the two table entries both readers fetch for piece `i` (`readChunkBoundary`): its start, which
    is the end of the piece before it or `0`, and its end -/
theorem ends_boundary (L : List Nat) {i : Nat} (hi : i < L.length) :
    (if i > 0 then (ends 0 L)[i - 1]? else some 0) = some (L.take i).sum ∧
      (ends 0 L)[i]? = some (L.take (i + 1)).sum := by
  have h := fun j hj => (ends_getElem? L 0 j hj).trans (congrArg some (Nat.zero_add _))
  refine ⟨?_, (List.getElem?_cons_succ ..).symm.trans (h (i + 1) hi)⟩
  cases i with
  | zero => rfl
  | succ j => exact (List.getElem?_cons_succ ..).symm.trans (h (j + 1) (Nat.le_of_lt hi))

theorem ends_le (L : List Nat) : ∀ s, ∀ o ∈ s :: ends s L, o ≤ s + L.sum := by
  induction L with
  | nil => intro s o ho; rw [ends, List.mem_singleton] at ho; exact ho ▸ Nat.le_add_right _ _
  | cons n L ih =>
    intro s o ho
    rw [List.sum_cons, ← Nat.add_assoc]
    rcases List.mem_cons.mp ho with rfl | ho
    · exact Nat.le_trans (Nat.le_add_right _ n) (Nat.le_add_right _ _)
    · exact ih _ o ho

theorem sum_take_map_length {α : Type} (zs : List (List α)) (k : Nat) :
    ((zs.map List.length).take k).sum = (zs.take k).flatten.length := by
  rw [← List.map_take, List.length_flatten]

section pieces
variable {α : Type}

theorem ends_getElem?_pieces (zs : List (List α)) (s i : Nat) (h : i ≤ zs.length) :
    (s :: ends s (zs.map List.length))[i]? = some (s + (zs.take i).flatten.length) := by
  rw [ends_getElem? _ s i (by rwa [List.length_map]), sum_take_map_length]

/-- piece `j` of `w`, delimited by entries `j` and `j + 1` of `offs`, is `z` -/
def PieceAt (w : List α) (offs : List Nat) (j : Nat) (z : List α) : Prop :=
  ∃ a, offs[j]? = some a ∧ offs[j + 1]? = some (a + z.length) ∧
    a + z.length ≤ w.length ∧ (w.drop a).take z.length = z

/-- pieces laid end to end from `0` on, followed by anything, under the table of their ends -/
theorem piece_at (zs : List (List α)) (j : Nat) (h : j < zs.length) (X : List α) :
    PieceAt (zs.flatten ++ X) (0 :: ends 0 (zs.map List.length)) j zs[j] := by
  refine ⟨(zs.take j).flatten.length, ?_, ?_, ?_, ?_⟩
  · rw [ends_getElem?_pieces zs 0 j (Nat.le_of_lt h), Nat.zero_add]
  · rw [ends_getElem?_pieces zs 0 (j + 1) h, Nat.zero_add, List.take_succ_eq_append_getElem h,
      List.flatten_append, List.length_append, List.flatten_cons, List.flatten_nil, List.append_nil]
  · rw [flatten_split zs j h]; simp only [List.length_append]; omega
  · rw [flatten_split zs j h, List.append_assoc, List.drop_left, List.append_assoc, List.take_left]

end pieces

namespace Model

theorem ChunkBytes.endOffsets_length : ∀ (L : List Nat) (run : Nat),
    (ChunkBytes.endOffsets run L).length = L.length := by
  intro L
  induction L with
  | nil => intro _; rfl
  | cons l ls ih => intro run; simp [ChunkBytes.endOffsets, ih]

theorem ChunkBytes.endOffsets_lt : ∀ (L : List Nat) (run : Nat),
    ∀ o ∈ ChunkBytes.endOffsets run L, o < two64 := by
  intro L
  induction L with
  | nil => intro _ o ho; simp [ChunkBytes.endOffsets] at ho
  | cons l ls ih =>
    intro run o ho
    simp only [ChunkBytes.endOffsets, List.mem_cons] at ho
    rcases ho with rfl | ho
    · exact Nat.mod_lt _ (by decide)
    · exact ih _ o ho

theorem ChunkBytes.endOffsets_eq_ends : ∀ (L : List Nat) (run : Nat), run + L.sum < two64 →
    ChunkBytes.endOffsets run L = ends run L := by
  intro L
  induction L with
  | nil => intro _ _; rfl
  | cons l ls ih =>
    intro run h
    rw [List.sum_cons, ← Nat.add_assoc] at h
    rw [ChunkBytes.endOffsets, Nat.mod_eq_of_lt (Nat.lt_of_le_of_lt (Nat.le_add_right _ _) h),
      ih _ h, ends]

theorem DocValues.endOffsets_eq : ∀ (L : List Nat) (acc : Nat),
    DocValues.endOffsets acc L = ChunkBytes.endOffsets acc L
  | [], _ => rfl
  | l :: L, acc => by
    rw [DocValues.endOffsets, ChunkBytes.endOffsets, DocValues.endOffsets_eq L]; rfl

end Model
end Ice
