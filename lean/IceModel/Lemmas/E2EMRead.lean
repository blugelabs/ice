import IceModel.Lemmas.E2EMDefs
/-
  END-TO-END, generic half: a valid description `L` that lays out the abstract segment `S`
  (`Lays S L`, `Lemmas/E2EMDefs.lean`), written by `serialize` and loaded by `load`, reads as `S`
  through the byte-level readers (`ReadsAsM`; `ReadsAs` when the description is a builder's: no
  1-hit term).  Composition of C04 (container), C05Bytes / C05OneHit (iterators), C06 (stored),
  C07 (doc values); nothing here is specific to the merger.
-/
namespace Ice.Props.E2EM
open Ice Ice.Spec Ice.Model Ice.Model.Format
open Ice.Model.MergeRest (stored_eq)
open Ice.Model.IterBytes (mkB runB)
open Ice.Model.Iter (RFlags)
open Ice.Model.Writer (Footer)
open Ice.Props.E2E

theorem readPostings_of_1hit (K : Codecs) (ld : Loaded) {v : Nat} (h : is1Hit v = true) :
    readPostings K ld v = .ok (.oneHit (decode1Hit v).1 (decode1Hit v).2) := by
  unfold readPostings
  rw [if_pos h]

theorem is1Hit_of_readPostings {K : Codecs} {ld : Loaded} {v d n : Nat}
    (h : readPostings K ld v = .ok (.oneHit d n)) : is1Hit v = true := by
  unfold readPostings at h
  split at h
  · assumption
  · cases hr : readRecord K ld v with
    | ok r =>
      rw [hr, ChunkBytes.ok_bind] at h
      cases hcs : getChunkSize ld.footer.chunkMode r.docs.length ld.footer.numDocs <;>
        rw [hcs] at h <;> cases h
    | err => rw [hr] at h; cases h
    | panic => rw [hr] at h; cases h

section
variable {K : Codecs} {S : AbsSeg} {L : LSeg} (hV : C04.Valid K L) (hL : Lays S L)
  {data : Bytes} {ft : Footer} (hs : serialize K L = .ok (data, ft)) (mem : Bool)
  {ld : Loaded} (hl : load mem (fileOf K data ft) = .ok ld)

include hV hs hl in
/-- the segment `load` returned reads as the description says (`C04.load_written`) -/
theorem loaded_reads : ld.data = { bytes := data, mem := mem } ∧ C04.Reads K L ld := by
  obtain ⟨ld', hl', hd, -, hR⟩ := C04.load_written hV hs mem
  cases hl'.symm.trans hl
  exact ⟨hd, hR⟩

include hV hL hs hl in
theorem lays_fields :
    ld.fieldsInv = S.fields ∧ ld.fieldDocs = S.fieldDocs ∧ ld.fieldFreqs = S.fieldFreqs ∧
    ld.footer.numDocs = numDocs S ∧ ld.footer.chunkMode = S.chunkMode ∧ ld.data.mem = mem ∧
    ∀ f, loadedStats ld f = stats S f := by
  obtain ⟨hdata, hR⟩ := loaded_reads hV hs mem hl
  have hfi := hR.names.trans hL.names
  have hfd := hR.fieldDocs.trans hL.fieldDocs
  have hff := hR.fieldFreqs.trans hL.fieldFreqs
  have hnd := hR.numDocs.trans hL.numDocs
  refine ⟨hfi, hfd, hff, hnd, hR.mode.trans hL.mode, by rw [hdata], fun f => ?_⟩
  unfold loadedStats stats numDocs
  rw [hfi, hfd, hff, hnd]
  cases S.fields.idxOf? f <;> rfl

variable (hA : AbsRd L.merger S)

include hL in
theorem lays_term {i : Nat} {f : Bytes} {fd : FieldDesc} (hf : S.fields[i]? = some f)
    (hfd : L.fields[i]? = some fd) {j : Nat} {t : Bytes} (ht : (terms S f)[j]? = some t) :
    ∃ td, fd.terms[j]? = some (t, td) ∧ TermRep S.fields td (postings S f t) ∧ 0 < L.numDocs := by
  have hpos : 0 < L.numDocs := by
    refine lays_numDocs_pos hL fun hb => ?_
    rw [terms_of_no_docs hb] at ht
    cases ht
  obtain ⟨hkeys, hrep⟩ := hL.terms i f fd hf hfd
  rw [← hkeys, List.getElem?_map] at ht
  cases hq : fd.terms[j]? with
  | none => rw [hq] at ht; cases ht
  | some q =>
    rw [hq] at ht
    cases Option.some.inj ht
    exact ⟨q.2, rfl, hrep j q.1 q.2 hq, hpos⟩

include hV hL hs hl hA in
/-- a general term: `dictionary` finds its FST value, `PostingsList.read` its record, and the
    byte-level `PostingsIterator` over it answers every script as the specification iterator over
    the term's postings (`term_env` puts the written bytes into the vocabulary of the iterator's
    invariant, `iter_env` is (B2) there) -/
theorem lays_iter {i : Nat} {f : Bytes} {fd : FieldDesc} (hfd : L.fields[i]? = some fd)
    {j : Nat} {t : Bytes} {es : List ChunkBytes.Entry}
    (htd : fd.terms[j]? = some (t, .general es)) (hr : TermRep S.fields (.general es) (postings S f t))
    (hpos : 0 < L.numDocs) :
    ∃ fst v fo lo cs, dictionaryOf K ld i = .ok (some fst) ∧ fst[j]? = some (t, v) ∧
      readPostings K ld v = .ok (.general fo lo ((postings S f t).map (·.doc)) cs) ∧
      ∀ (ex : Option (List Nat)) (fl : Flags) (ops : List IterOp),
        ∃ i0, mkB (plbOf ld fo lo cs ((postings S f t).map (·.doc)) ex) (RFlags.of fl) = .ok i0 ∧
          (runB K.chunk i0 ops).map (C05Bytes.viewRes fl) =
            (iterRun fl (live (postings S f t) ex) ops).map .ok := by
  have hes : es = (postings S f t).map (postingToE S.fields) := hr
  subst hes
  have hloc : ∀ p ∈ postings S f t, ∀ l ∈ p.locs, l.field ∈ S.fields := fun p hp => hA.posting_locs hp
  obtain ⟨hfi, -, -, -, -, hmem, -⟩ := lays_fields hV hL hs mem hl
  have hc := contract_postings hA.bounds hA.nfields f t hloc
  rw [← hL.numDocs] at hc
  obtain ⟨fst, v, fo, lo, cs, hdict, hfj, hread, dt, dl, hE⟩ :=
    term_env (loaded_reads hV hs mem hl).2 hpos i fd hfd j t _ htd _ hc (!mem)
  refine ⟨fst, v, fo, lo, cs, hdict, hfj, by rw [hread, List.map_map]; rfl, fun ex fl ops => ?_⟩
  obtain ⟨i0, hmk, hrunB⟩ := iter_env hE hc.sorted ex fl ops
  dsimp only at hrunB
  rw [map_toP_postingToE hloc] at hrunB
  refine ⟨i0, ?_, hrunB⟩
  rw [← hmk]
  simp only [Ice.Model.IterBytes.Env.pl, plbOf, hfi, hmem, List.map_map]
  rfl

include hV hL hs hl hA in
/-- **a laid-out segment reads as the segment it lays out**: field list and statistics; the FST
    of every field holds the terms of the specification in order; general terms through the
    byte-level `PostingsIterator`, 1-hit terms through the 1-hit path; `VisitStoredFields`; doc
    values -/
theorem lays_read : ReadsAsM K S ld := by
  obtain ⟨hfi, h2, h3, h4, h5, _, h7⟩ := lays_fields hV hL hs mem hl
  have hR := (loaded_reads hV hs mem hl).2
  refine
    { fields := ⟨hfi, h2, h3, h4, h5⟩, stats := h7, dict := fun i f hf => ?_,
      dictNone := fun i hi => ?_, iter := fun i f hf j t ht => ?_,
      stored := fun n buf stop => ?_, dv := fun i f hf => ?_ }
  · by_cases hb : S.docs = []
    · refine ⟨none, hR.dict_none (.inl (by rw [hL.numDocs, hb]; rfl)), ?_, fun h => absurd hb h⟩
      rw [terms_of_no_docs hb]; rfl
    · obtain ⟨fd, hfd, _⟩ := lays_field hL hf
      obtain ⟨fst, hd, hkeys, _⟩ := hR.dict (lays_numDocs_pos hL hb) i fd hfd
      refine ⟨some fst, hd, ?_, fun _ => rfl⟩
      simp only [dictKeys, hkeys]
      exact (hL.terms i f fd hf hfd).1
  · refine hR.dict_none (.inr ?_)
    rw [List.getElem?_eq_none_iff] at hi ⊢
    rw [lays_fields_length hL]
    exact hi
  · obtain ⟨fd, hfd, _⟩ := lays_field hL hf
    obtain ⟨td, htd, hr, hpos⟩ := lays_term hL hf hfd ht
    cases td with
    | general es =>
      obtain ⟨fst, v, fo, lo, cs, hdict, hfj, h⟩ := lays_iter hV hL hs mem hl hA hfd htd hr hpos
      exact ⟨fst, v, hdict, hfj, .inl ⟨fo, lo, cs, h⟩⟩
    | oneHit d n =>
      obtain ⟨_, p, hps, hpd, hpn, hpf, hpl⟩ := hr
      obtain ⟨fst, hdict, _, hterm⟩ := hR.dict hpos i fd hfd
      obtain ⟨v, hfj, hv⟩ := hterm j t _ htd
      have hp1 : postings S f t = [Iter1Hit.posting d n] := by
        rw [hps]
        show [Posting.mk p.doc p.freq p.norm p.locs] = _
        rw [hpd, hpf, hpn, hpl]
        rfl
      refine ⟨fst, v, hdict, hfj, .inr ⟨d, n, hv.2, hp1, fun ex fl ops => ?_⟩⟩
      rw [hp1, C05.C05_onehit]
      exact Iter.specRun_view fl _ ops
  · obtain ⟨ld', tail, hl', _, _, hvisit, hbeyond⟩ := C04.C04_stored K L hV data ft hs mem
    cases hl'.symm.trans hl
    have hslen := lays_stored_length hL
    by_cases hn : n < S.docs.length
    · have hn' : n < L.stored.length := hslen ▸ hn
      obtain ⟨buf', hvis⟩ := hvisit n hn' buf stop
      refine ⟨_, buf', hvis, ?_⟩
      rw [← takeStop_map]
      refine congrArg (Stored.takeStop stop) ?_
      have hrel := hL.stored.get n _ _ (List.getElem?_eq_getElem hn') (List.getElem?_eq_getElem hn)
      rw [stored_eq, List.getElem?_eq_getElem hn, hfi]
      exact hrel.2
    · refine ⟨[], buf, hbeyond n (hslen ▸ Nat.le_of_not_lt hn) buf stop, ?_⟩
      have : stored S n = [] := by
        unfold stored
        rw [List.getElem?_eq_none (Nat.le_of_not_lt hn)]
      rw [this, Stored.takeStop_nil]
      rfl
  · obtain ⟨ld', hl', hlen, h0, hpos⟩ := C04.C04_dv K L hV data ft hs mem
    cases hl'.symm.trans hl
    obtain ⟨fd, hfd, _⟩ := lays_field hL hf
    have hdv := hL.dv i f fd hf hfd
    by_cases hb : S.docs = []
    · have hi : i < ld.dvReaders.length := hlen ▸ (List.getElem?_eq_some_iff.1 hfd).1
      refine ⟨none, ?_, (dvOf_of_no_docs hb · f)⟩
      rw [List.getElem?_eq_getElem hi]
      exact congrArg some (h0 (by rw [hL.numDocs, hb]; rfl) _ (List.getElem_mem hi))
    · obtain ⟨hn, hs'⟩ := hpos (lays_numDocs_pos hL hb) i fd hfd
      cases hfdv : fd.dv with
      | none =>
        rw [hfdv] at hdv
        exact ⟨none, hn hfdv, hdv⟩
      | some vals =>
        rw [hfdv] at hdv
        obtain ⟨r0, hr0, _, _, _, _, _, hvis⟩ := hs' vals hfdv
        refine ⟨some r0, hr0, fun ds hds => ?_⟩
        obtain ⟨r', hr'⟩ := hvis ds fun d hd => Nat.le_sub_one_of_lt (hL.numDocs ▸ hds d hd)
        refine ⟨r', ?_⟩
        rw [hr', show ds.map (DocValues.termsOf vals) = ds.map (fun n => dvOf S n f) from
          List.map_congr_left fun n _ => hdv.2.2 n]

include hV hL hA in
/-- the writer is total on valid descriptions (`C04_written`): no hypothesis about its success -/
theorem lays_written_read :
    ∃ data ft ld, serialize K L = .ok (data, ft) ∧ load mem (fileOf K data ft) = .ok ld ∧
      ld.data.mem = mem ∧ ReadsAsM K S ld := by
  obtain ⟨data, ft, ld, hs, hl⟩ := C04.C04_written K L hV mem
  exact ⟨data, ft, ld, hs, hl, (lays_fields hV hL hs mem hl).2.2.2.2.2.1,
    lays_read hV hL hs mem hl hA⟩

include hV hL hs hl hA in
/-- the builder's description has no 1-hit term (`Lays.oneHit`): it reads as `S` in the sense of
    `ReadsAs` -/
theorem lays_readsAs (hm : L.merger = false) : ReadsAs K S ld :=
  have h := lays_read hV hL hs mem hl hA
  { fields := h.fields, stats := h.stats, dict := h.dict, dictNone := h.dictNone,
    stored := h.stored, dv := h.dv,
    iter := fun i f hf j t ht => by
      obtain ⟨fd, hfd, _⟩ := lays_field hL hf
      obtain ⟨td, htd, hr, hpos⟩ := lays_term hL hf hfd ht
      cases td with
      | general es => exact lays_iter hV hL hs mem hl hA hfd htd hr hpos
      | oneHit d n =>
        rw [hL.oneHit fd (List.mem_of_getElem? hfd) _ (List.mem_of_getElem? htd) d n rfl] at hm
        cases hm }

end

section
variable {K : Codecs} {S : AbsSeg} {ld : Loaded} (h : ReadsAsM K S ld)
  {i : Nat} {f : Bytes} (hf : S.fields[i]? = some f) {j : Nat} {t : Bytes}
  (ht : (terms S f)[j]? = some t) {fst : List (Bytes × Nat)} {v : Nat}
  (hd : dictionaryOf K ld i = .ok (some fst)) (hv : fst[j]? = some (t, v))

include h hf ht hd hv

/-- a term whose FST value carries the 1-hit tag has exactly the posting the value encodes, and
    the 1-hit path of the iterator delivers it -/
theorem ReadsAsM.iter_1hit (h1 : is1Hit v = true) :
    readPostings K ld v = .ok (.oneHit (decode1Hit v).1 (decode1Hit v).2) ∧
    postings S f t = [{ doc := (decode1Hit v).1, freq := 1, norm := (decode1Hit v).2, locs := [] }] ∧
    ∀ (ex : Option (List Nat)) (fl : Flags) (ops : List IterOp),
      viewRun fl (Iter1Hit.run (Iter1Hit.mk (decode1Hit v).1 (decode1Hit v).2 ex (RFlags.of fl)) ops) =
        (iterRun fl (live (postings S f t) ex) ops).map some := by
  have hread := readPostings_of_1hit K ld h1
  obtain ⟨fst', v', hd', hv', hcase⟩ := h.iter i f hf j t ht
  cases Option.some.inj (Res.ok.inj (hd.symm.trans hd'))
  cases (Prod.mk.inj (Option.some.inj (hv.symm.trans hv'))).2
  rcases hcase with ⟨fo, lo, cs, hr, _⟩ | ⟨d, n, hr, hp, hrun⟩
  · rw [hread] at hr
    cases hr
  · rw [hread] at hr
    injection hr with hr
    injection hr with hdd hnn
    rw [hdd, hnn]
    exact ⟨hdd ▸ hnn ▸ hread, hp, hrun⟩

/-- (C13) a general term's iterator constructed over any used `PostingsIterator` answers as a
    fresh one -/
theorem ReadsAsM.iter_reuse (h1 : is1Hit v = false) :
    ∃ fo lo cs, readPostings K ld v = .ok (.general fo lo ((postings S f t).map (·.doc)) cs) ∧
      ∀ (used : Ice.Model.IterBytes.ItB) (ex : Option (List Nat)) (fl : Flags) (ops : List IterOp),
        ∃ i1, Ice.Model.IterBytes.mkBReuse used
            (plbOf ld fo lo cs ((postings S f t).map (·.doc)) ex) (RFlags.of fl) = .ok i1 ∧
          (runB K.chunk i1 ops).map (C05Bytes.viewRes fl) =
            (iterRun fl (live (postings S f t) ex) ops).map .ok := by
  obtain ⟨fst', v', hd', hv', hcase⟩ := h.iter i f hf j t ht
  cases Option.some.inj (Res.ok.inj (hd.symm.trans hd'))
  cases (Prod.mk.inj (Option.some.inj (hv.symm.trans hv'))).2
  rcases hcase with ⟨fo, lo, cs, hr, h4⟩ | ⟨d, n, hr, _, _⟩
  · exact ⟨fo, lo, cs, hr, fun used ex fl ops => reuse_answers K (h4 ex fl ops) used⟩
  · rw [is1Hit_of_readPostings hr] at h1
    cases h1

end

end Ice.Props.E2EM
