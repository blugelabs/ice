import IceModel.Lemmas.IterBytesAbs
import IceModel.Props.ChunkBytes
/-
  Single-step simulation lemmas: `loadChunkB`, `ensureB`, `consumeB`, `currChunkNextB` commute with
  the abstraction `absIt` (from T2/T3 and the load facts of `Env.OK`, i.e. T6/T7).  Each lemma has
  the shape
     Abs E fl i j → the byte-level operation on `i` simulates the entry-level operation on `j`
-/
namespace Ice.Model.IterBytes
open Ice Ice.Spec Ice.Model Ice.Model.ChunkBytes
open Ice.Model.Iter (RFlags It)
open Ice.Props.ChunkBytes (T2_read T2_skip T3_skip)

/-- `x` simulates `y`: unless `y` faults, `x` succeeds with a related value -/
def SimR {α β : Type} (R : α → β → Prop) (x : Res α) (y : Option β) : Prop :=
  ∀ b, y = some b → ∃ a, x = .ok a ∧ R a b

theorem SimR.ok {α β : Type} {R : α → β → Prop} {a : α} {b : β} (h : R a b) :
    SimR R (.ok a) (some b) :=
  fun _ e => ⟨a, rfl, Option.some.inj e ▸ h⟩

theorem SimR.none {α β : Type} {R : α → β → Prop} {x : Res α} : SimR R x (none : Option β) :=
  nofun

@[elab_as_elim]
theorem SimR.elim {α β : Type} {R : α → β → Prop} {P : Res α → Option β → Prop} {x : Res α}
    {y : Option β} (h : SimR R x y) (ok : ∀ a b, R a b → P (.ok a) (some b))
    (fault : ∀ x, P x Option.none) : P x y := by
  cases y with
  | none => exact fault x
  | some b =>
    obtain ⟨a, rfl, hab⟩ := h b rfl
    exact ok a b hab

structure Abs (E : Env) (fl : RFlags) (i : ItB) (j : It) : Prop where
  wf : WF E i
  fl : i.fl = fl
  abs : absIt E i = j

theorem Abs.flj {E : Env} {fl : RFlags} {i : ItB} {j : It} (h : Abs E fl i j) : j.fl = fl :=
  h.abs ▸ h.fl

theorem Aligned.pop {j j' : It} {e : Posting} {ls : List Loc} (h : Aligned j)
    (hp : Iter.pop j = some (e, ls, j')) : Aligned j' := by
  obtain ⟨r, hf, hcase⟩ := Iter.pop_some hp
  rcases hcase with ⟨hb, _, rfl⟩ | ⟨hb, x, lr, hlc, _, rfl⟩
  · intro hl l hfl
    have hl' : j.fl.incL = true := hl
    cases (hfl : some r = some l)
    have hh : Iter.hasLocs e = false := by simpa [hl'] using hb
    show j.lcR = _
    rw [h hl' _ hf, List.filter_cons_of_neg (by simp [hh])]
  · intro hl l hfl
    have hl' : j.fl.incL = true := hl
    cases (hfl : some r = some l)
    have hh : Iter.hasLocs e = true := by simpa [hl'] using hb
    have := h hl' _ hf
    rw [hlc, List.filter_cons_of_pos (by simp [hh])] at this
    exact (List.cons.inj this).2

theorem Aligned.consume {j j' : It} (h : Aligned j) (hc : Iter.consume j = some j') : Aligned j' := by
  rw [Iter.consume_eq_pop] at hc
  obtain ⟨⟨e, ls, j''⟩, hp, rfl⟩ := Option.map_eq_some_iff.mp hc
  exact h.pop hp

theorem Aligned.deliver {n : Nat} {j j' : It} {o : Option Posting} (h : Aligned j)
    (hd : Iter.deliver n j = some (o, j')) : Aligned j' := by
  rw [Iter.deliver_eq_pop] at hd
  split at hd
  · cases hd
    exact h
  · obtain ⟨⟨e, ls, j''⟩, hp, hd⟩ := Option.map_eq_some_iff.mp hd
    cases hd
    exact h.pop hp

theorem Aligned.loadChunk {j : It} (hno : j.fl.incFN = false → j.fnR = none) (c : Nat) :
    Aligned (Iter.loadChunk j c) := by
  intro hl l hf
  have hl' : j.fl.incL = true := hl
  cases hfn : j.fl.incFN with
  | false =>
    have : (Iter.loadChunk j c).fnR = j.fnR := by simp [Iter.loadChunk, hfn]
    rw [this, hno hfn] at hf; cases hf
  | true =>
    have e1 : (Iter.loadChunk j c).fnR =
        if (Iter.chunkOf j.cs j.P c).isEmpty then none else some (Iter.chunkOf j.cs j.P c) := by
      simp [Iter.loadChunk, hfn]
    have e2 : (Iter.loadChunk j c).lcR = (Iter.chunkOf j.cs j.P c).filter Iter.hasLocs := by
      simp [Iter.loadChunk, hl']
    rw [e1] at hf
    rw [e2]
    split at hf
    · cases hf
    · cases hf; rfl

theorem absIt_noFn (E : Env) (i : ItB) : (absIt E i).fl.incFN = false → (absIt E i).fnR = none := by
  intro h
  have h' : i.fl.incFN = false := h
  simp [absIt, absFnR, h']

theorem DecB.loadChunk_ok {K : Codec} {b : DecB} {c : Nat} {bytes : Bytes} (hd : b.dataNil = false)
    (hl : b.d.loadChunk K c = .ok bytes) :
    (b.d.startOffset = 0 ∧ bytes = [] ∧ b.loadChunk K c = .ok { b with r := some ⟨[], 0⟩ }) ∨
    (b.d.startOffset ≠ 0 ∧ b.loadChunk K c = .ok { b with
      uncompressed := bytes, uncTail := (b.uncompressed ++ b.uncTail).drop bytes.length,
      curChunkBytes := bytes, r := some ⟨bytes, 0⟩ }) := by
  unfold DecB.loadChunk
  by_cases h0 : b.d.startOffset = 0
  · rw [if_pos h0]
    simp only [Decoder.loadChunk, h0, if_true, Res.ok.injEq] at hl
    exact Or.inl ⟨h0, hl.symm, rfl⟩
  · have hlt : ¬ (c ≥ b.d.chunkOffsets.length) := fun hge => by
      simp [Decoder.loadChunk, h0, hge] at hl
    rw [if_neg h0, if_neg hlt, hd, hl]
    exact Or.inr ⟨h0, rfl⟩

theorem fn_load {E : Env} (hE : E.OK) {b : DecB} {c0 c : Nat} (hb : FnOK E c0 b)
    (hc : c ≤ E.maxDoc / E.cs) :
    ∃ b', b.loadChunk E.K c = .ok b' ∧ FnOK E c b' ∧
      absFn E.finv (chunkE E.cs E.es c) b' =
        (if (chunkE E.cs E.es c).isEmpty then none
         else some ((chunkE E.cs E.es c).map (toP E.finv))) := by
  rcases DecB.loadChunk_ok hb.dataOk (hb.dEq ▸ hE.loadT c hc) with ⟨h0, hnil, e⟩ | ⟨h0, e⟩
  · have hcur := hb.zero h0
    refine ⟨_, e, ⟨hb.dEq, hb.dataOk, fun _ => hcur, fun h => absurd hcur h⟩, ?_⟩
    rw [absFn_nil (b := { b with r := some ⟨[], 0⟩ }) hcur, fnBytes_eq_nil hnil]
    rfl
  · refine ⟨_, e, ⟨hb.dEq, hb.dataOk, fun h => absurd h h0, fun _ => ⟨[], _, rfl, rfl, rfl⟩⟩, ?_⟩
    cases hch : chunkE E.cs E.es c with
    | nil => exact absFn_nil rfl
    | cons x t =>
      exact absFn_pos (pre := []) (rest := x :: t)
        (fun h => List.cons_ne_nil x t (fnBytes_eq_nil h)) rfl

theorem lc_load {E : Env} (hE : E.OK) {b : DecB} {c0 c : Nat} (hb : LcOK E c0 b)
    (hc : c ≤ E.maxDoc / E.cs) :
    ∃ b', b.loadChunk E.K c = .ok b' ∧ LcOK E c b' ∧
      absLc E.finv (chunkE E.cs E.es c) b' = ((chunkE E.cs E.es c).filter hasLocsE).map (toP E.finv) := by
  have hfil := locBytes_filter (chunkE E.cs E.es c)
  rcases DecB.loadChunk_ok hb.dataOk (hb.dEq ▸ hE.loadL c hc) with ⟨h0, hnil, e⟩ | ⟨h0, e⟩
  · refine ⟨_, e, ⟨hb.dEq, hb.dataOk, fun _ r hr => ?_, fun r hr hS => ?_⟩, ?_⟩
    · cases (hr : some _ = some r); rfl
    · cases (hr : some _ = some r); exact absurd rfl hS
    · rw [locBytes_eq_nil hnil]
      exact absLc_empty (r := ⟨[], 0⟩) rfl rfl
  · refine ⟨_, e, ⟨hb.dEq, hb.dataOk, fun h => absurd h h0, fun r hr _ => ?_⟩, ?_⟩
    · cases (hr : some _ = some r)
      exact ⟨[], _, rfl, by rw [List.nil_append, hfil]; rfl⟩
    · exact absLc_pos (pre := []) rfl (by rw [List.nil_append, hfil]; rfl)

theorem optLoad_ok {K : Codec} {on : Bool} {d : Option DecB} {c : Nat} {Q : DecB → Prop}
    (h : on = true → ∃ b, d = some b ∧ ∃ b', b.loadChunk K c = .ok b' ∧ Q b') :
    ∃ d', optLoad K on d c = .ok d' ∧ (on = true → ∃ b', d' = some b' ∧ Q b') := by
  cases on with
  | false => exact ⟨d, rfl, nofun⟩
  | true =>
    obtain ⟨b, rfl, b', h1, h2⟩ := h rfl
    exact ⟨some b', by simp [optLoad, h1], fun _ => ⟨b', rfl, h2⟩⟩

theorem loadChunkB_sim {E : Env} (hE : E.OK) {fl : RFlags} {i : ItB} {j : It} (h : Abs E fl i j)
    {c : Nat} (hc : c ≤ E.maxDoc / E.cs) :
    ∃ i', loadChunkB E.K i c = .ok i' ∧ Abs E fl i' (Iter.loadChunk j c) := by
  obtain ⟨h, rfl, rfl⟩ := h
  obtain ⟨f', hf1, hf2⟩ := optLoad_ok (c := c) fun hfn =>
    let ⟨b, hb, hok⟩ := h.fn hfn
    ⟨b, hb, fn_load hE hok hc⟩
  obtain ⟨l', hl1, hl2⟩ := optLoad_ok (c := c) fun hl =>
    let ⟨b, hb, hok⟩ := h.lc hl
    ⟨b, hb, lc_load hE hok hc⟩
  have habs : absIt E { i with fnR := f', lcR := l', currChunk := c } =
      Iter.loadChunk (absIt E i) c := by
    refine It.ext' rfl rfl rfl rfl rfl rfl ?_ ?_ rfl
    · show absFnR E { i with fnR := f', lcR := l', currChunk := c } =
        if i.fl.incFN then
          (if (Iter.chunkOf i.cs (E.es.map (toP E.finv)) c).isEmpty then none
           else some (Iter.chunkOf i.cs (E.es.map (toP E.finv)) c))
        else absFnR E i
      rw [h.cs, chunkOf_map, List.isEmpty_map]
      cases hfn : i.fl.incFN with
      | false => simp [absFnR, hfn]
      | true =>
        obtain ⟨b', rfl, _, h3⟩ := hf2 hfn
        exact (absFnR_some (by exact hfn) rfl).trans h3
    · show absLcR E { i with fnR := f', lcR := l', currChunk := c } =
        if i.fl.incL then (Iter.chunkOf i.cs (E.es.map (toP E.finv)) c).filter Iter.hasLocs
        else absLcR E i
      rw [h.cs, chunkOf_map, filter_hasLocs_map]
      cases hl : i.fl.incL with
      | false => simp [absLcR, hl]
      | true =>
        obtain ⟨b', rfl, _, h3⟩ := hl2 hl
        exact (absLcR_some (by exact hl) rfl).trans h3
  refine ⟨{ i with fnR := f', lcR := l', currChunk := c }, ?_, ?_, rfl, habs⟩
  · simp [loadChunkB, hf1, hl1]
  · refine ⟨h.cs, h.finv, h.act, ?_, ?_, ?_⟩
    · intro hfn
      obtain ⟨b', rfl, h2, _⟩ := hf2 hfn
      exact ⟨b', rfl, h2⟩
    · intro hl
      obtain ⟨b', rfl, h2, _⟩ := hl2 hl
      exact ⟨b', rfl, h2⟩
    · rw [habs]
      exact Aligned.loadChunk (absIt_noFn E i) c

theorem needLoadB_sim {E : Env} {i : ItB} (h : WF E i) (hfn : i.fl.incFN = true) (c : Nat) :
    needLoadB i c = .ok (Iter.needLoad (absIt E i) c) := by
  obtain ⟨b, hb, _⟩ := h.fn hfn
  unfold needLoadB Iter.needLoad
  have e1 : (absIt E i).currChunk = i.currChunk := rfl
  have e2 : (absIt E i).fnR.isNone = b.isNil :=
    (congrArg Option.isNone (absFnR_some hfn hb)).trans (absFn_isNone _ _ _)
  rw [e1, e2, hb]
  cases hcc : (i.currChunk != c) <;> simp

theorem ensureB_sim {E : Env} (hE : E.OK) {fl : RFlags} {i : ItB} {j : It} (h : Abs E fl i j)
    (hfn : fl.incFN = true) {c : Nat} (hc : c ≤ E.maxDoc / E.cs) :
    ∃ i', ensureB E.K i c = .ok i' ∧ Abs E fl i' (Iter.ensure j c) := by
  unfold ensureB Iter.ensure
  rw [needLoadB_sim h.wf (h.fl ▸ hfn) c, h.abs]
  cases hn : Iter.needLoad j c with
  | true => exact loadChunkB_sim hE h hc
  | false => exact ⟨i, rfl, h⟩

theorem FnOK.advance {E : Env} {c : Nat} {fb : DecB} (hok : FnOK E c fb) {e' : Posting}
    {r' : List Posting} (hf : absFn E.finv (chunkE E.cs E.es c) fb = some (e' :: r')) :
    ∃ pre e r, e ∈ E.es ∧ e' = toP E.finv e ∧
      fb.r = some ⟨fnBytes (pre ++ e :: r), (fnBytes pre).length⟩ ∧
      FnOK E c { fb with r := some ⟨fnBytes (pre ++ e :: r), (fnBytes (pre ++ [e])).length⟩ } ∧
      absFn E.finv (chunkE E.cs E.es c)
        { fb with r := some ⟨fnBytes (pre ++ e :: r), (fnBytes (pre ++ [e])).length⟩ } = some r' := by
  have hne : fb.curChunkBytes ≠ [] := fun h0 => by rw [absFn_nil h0] at hf; cases hf
  obtain ⟨pre, rest, hsplit, hcur, hr⟩ := hok.pos hne
  rw [hsplit, absFn_pos hne hr] at hf
  cases rest with
  | nil => cases hf
  | cons e r =>
    cases hf
    have e1 : pre ++ e :: r = (pre ++ [e]) ++ r := List.append_cons ..
    refine ⟨pre, e, r, mem_chunkE (c := c) (by rw [hsplit]; simp), rfl, hr,
      ⟨hok.dEq, hok.dataOk, hok.zero, fun _ => ⟨pre ++ [e], r, e1 ▸ hsplit, e1 ▸ hcur, e1 ▸ rfl⟩⟩, ?_⟩
    rw [hsplit, e1]
    exact absFn_pos (b := { fb with r := some ⟨_, _⟩ }) hne rfl

theorem LcOK.advance {E : Env} {c : Nat} {lb : DecB} (hok : LcOK E c lb) {x : Posting}
    {lr : List Posting} (hf : absLc E.finv (chunkE E.cs E.es c) lb = x :: lr) :
    ∃ pre e r, e ∈ E.es ∧ e.locs ≠ [] ∧ x = toP E.finv e ∧
      lb.r = some ⟨locBytes (pre ++ e :: r), (locBytes pre).length⟩ ∧
      LcOK E c { lb with r := some ⟨locBytes (pre ++ e :: r), (locBytes (pre ++ [e])).length⟩ } ∧
      absLc E.finv (chunkE E.cs E.es c)
        { lb with r := some ⟨locBytes (pre ++ e :: r), (locBytes (pre ++ [e])).length⟩ } = lr := by
  cases hr0 : lb.r with
  | none => rw [absLc_none hr0] at hf; cases hf
  | some r0 =>
  by_cases hS : r0.S = []
  · rw [absLc_empty hr0 hS] at hf; cases hf
  obtain ⟨pre, rest, hsplit, rfl⟩ := hok.pos r0 hr0 hS
  rw [absLc_pos hsplit hr0] at hf
  cases rest with
  | nil => cases hf
  | cons e r =>
    cases hf
    have hmem : e ∈ (chunkE E.cs E.es c).filter hasLocsE := by rw [hsplit]; simp
    have hne := mem_filter_hasLocsE hmem
    have e1 : pre ++ e :: r = (pre ++ [e]) ++ r := List.append_cons ..
    refine ⟨pre, e, r, mem_chunkE (List.mem_filter.mp hmem).1, hne, rfl, rfl, ⟨hok.dEq, hok.dataOk, ?_, ?_⟩,
      absLc_pos (e1 ▸ hsplit) (e1 ▸ rfl)⟩
    · -- a stream that was not written has no entry with locations
      intro h0 _ _
      have hl := congrArg (fun r : Rd => r.S.length) (hok.zero h0 _ hr0)
      simp only [locBytes, List.flatMap_append, List.flatMap_cons, List.length_append,
        List.length_nil] at hl
      exact absurd (Nat.eq_zero_of_add_eq_zero_right (Nat.eq_zero_of_add_eq_zero_left hl))
        (Nat.ne_of_gt (encLocs_length_pos hne))
    · intro r1 hr1 _
      cases (hr1 : some _ = some r1)
      exact ⟨pre ++ [e], r, e1 ▸ hsplit, e1 ▸ rfl⟩

/-- In a well-formed state whose abstraction has a head entry, the freq/norm reader stands in front
    of the bytes of an entry `e` of the list; if locations are decoded and `e` has some, the location
    reader stands in front of the location bytes of an entry `le` with the same abstraction.  Moving
    the reader(s) behind these bytes gives a well-formed state whose abstraction is the one `pop`
    leaves. -/
theorem pop_sim {E : Env} {fl : RFlags} {i : ItB} {j j' : It} (h : Abs E fl i j)
    (hfn : fl.incFN = true) {e' : Posting} {ls : List Loc} (hp : Iter.pop j = some (e', ls, j')) :
    ∃ fb pre e r, i.fnR = some fb ∧ e ∈ E.es ∧ e' = toP E.finv e ∧
      fb.r = some ⟨fnBytes (pre ++ e :: r), (fnBytes pre).length⟩ ∧
      (((fl.incL && !e.locs.isEmpty) = false ∧ ls = [] ∧
          Abs E fl { i with fnR := some { fb with
            r := some ⟨fnBytes (pre ++ e :: r), (fnBytes (pre ++ [e])).length⟩ } } j') ∨
       ((fl.incL && !e.locs.isEmpty) = true ∧ ∃ lb lpre le lr, i.lcR = some lb ∧ le ∈ E.es ∧
          le.locs ≠ [] ∧ toP E.finv le = e' ∧ ls = le.locs.map (toLoc E.finv) ∧
          lb.r = some ⟨locBytes (lpre ++ le :: lr), (locBytes lpre).length⟩ ∧
          ∀ cap, Abs E fl { i with
            fnR := some { fb with r := some ⟨fnBytes (pre ++ e :: r), (fnBytes (pre ++ [e])).length⟩ },
            lcR := some { lb with
              r := some ⟨locBytes (lpre ++ le :: lr), (locBytes (lpre ++ [le])).length⟩ },
            nextLocsCap := cap } j')) := by
  obtain ⟨h, rfl, rfl⟩ := h
  have hal : Aligned j' := h.aligned.pop hp
  obtain ⟨r', hf, hcase⟩ := Iter.pop_some hp
  obtain ⟨fb, hfb, hok⟩ := h.fn hfn
  obtain ⟨pre, e, r, hmem, he', hr, hok', habsF⟩ := hok.advance ((absFnR_some hfn hfb).symm.trans hf)
  refine ⟨fb, pre, e, r, hfb, hmem, he', hr, ?_⟩
  rw [show (absIt E i).fl.incL = i.fl.incL from rfl,
    show Iter.hasLocs e' = !e.locs.isEmpty by rw [he', hasLocs_toP]; rfl] at hcase
  rcases hcase with ⟨hb, rfl, rfl⟩ | ⟨hb, x, lr, hlc, rfl, rfl⟩
  · have habs : absIt E { i with fnR := some { fb with
        r := some ⟨fnBytes (pre ++ e :: r), (fnBytes (pre ++ [e])).length⟩ } } =
        { absIt E i with fnR := some r' } :=
      It.ext' rfl rfl rfl rfl rfl rfl ((absFnR_some (by exact hfn) rfl).trans habsF) rfl rfl
    exact Or.inl ⟨hb, rfl, ⟨h.cs, h.finv, h.act, fun _ => ⟨_, rfl, hok'⟩, h.lc, habs ▸ hal⟩, rfl, habs⟩
  · have hl : i.fl.incL = true := (Bool.and_eq_true_iff.mp hb).1
    have hhas : Iter.hasLocs e' = true := by
      rw [he', hasLocs_toP]; exact (Bool.and_eq_true_iff.mp hb).2
    obtain ⟨lb, hlb, hlok⟩ := h.lc hl
    obtain ⟨lpre, le, lrr, hlmem, hlne, hx, hlr, hlok', habsL⟩ :=
      hlok.advance ((absLcR_some hl hlb).symm.trans hlc)
    -- alignment: the location reader stands at the locations of the entry just read
    have hxe : x = e' := by
      have := h.aligned hl _ hf
      rw [hlc, List.filter_cons_of_pos (by simp [hhas])] at this
      exact (List.cons.inj this).1
    refine Or.inr ⟨hb, lb, lpre, le, lrr, hlb, hlmem, hlne, hx.symm.trans hxe, by rw [hx]; rfl, hlr,
      fun cap => ?_⟩
    have habs : absIt E { i with
        fnR := some { fb with r := some ⟨fnBytes (pre ++ e :: r), (fnBytes (pre ++ [e])).length⟩ },
        lcR := some { lb with
          r := some ⟨locBytes (lpre ++ le :: lrr), (locBytes (lpre ++ [le])).length⟩ },
        nextLocsCap := cap } = { absIt E i with fnR := some r', lcR := lr } :=
      It.ext' rfl rfl rfl rfl rfl rfl ((absFnR_some (by exact hfn) rfl).trans habsF)
        ((absLcR_some (by exact hl) rfl).trans habsL) rfl
    exact ⟨⟨h.cs, h.finv, h.act, fun _ => ⟨_, rfl, hok'⟩, fun _ => ⟨_, rfl, hlok'⟩, habs ▸ hal⟩, rfl, habs⟩

theorem consumeB_sim {E : Env} (hE : E.OK) {fl : RFlags} {i : ItB} {j : It} (h : Abs E fl i j)
    (hfn : fl.incFN = true) : SimR (Abs E fl) (consumeB i) (Iter.consume j) := by
  intro j' hj
  rw [Iter.consume_eq_pop] at hj
  obtain ⟨⟨e', ls, j''⟩, hp, rfl⟩ := Option.map_eq_some_iff.mp hj
  obtain ⟨fb, pre, e, r, hfb, hmem, _, hr, hcase⟩ := pop_sim h hfn hp
  have hskip := T2_skip pre r e (hE.valid e hmem)
  unfold consumeB
  rcases hcase with ⟨hb, _, habs⟩ | ⟨hb, lb, lpre, le, lr, hlb, hlmem, hlne, _, _, hlr, habs⟩
  · refine ⟨_, ?_, habs⟩
    simp only [hfb, DecB.rd, hr, ok_bind, hskip, h.fl, hb, Bool.false_eq_true, if_false, pure_eq_ok]
  · refine ⟨_, ?_, habs i.nextLocsCap⟩
    simp only [hfb, DecB.rd, hr, ok_bind, hskip, h.fl, hb, if_true, hlb, hlr,
      T3_skip lpre lr le (hE.valid le hlmem) hlne, pure_eq_ok]

theorem currChunkNextB_sim {E : Env} (hE : E.OK) {fl : RFlags} {i : ItB} {j : It} (h : Abs E fl i j)
    (hfn : fl.incFN = true) {c : Nat} (hc : c ≤ E.maxDoc / E.cs) :
    SimR (Abs E fl) (currChunkNextB E.K i c) (Iter.currChunkNext j c) := by
  obtain ⟨i1, e1, a1⟩ := ensureB_sim hE h hfn hc
  rw [Iter.currChunkNext_eq, currChunkNextB, e1]
  exact consumeB_sim hE a1 hfn

end Ice.Model.IterBytes
