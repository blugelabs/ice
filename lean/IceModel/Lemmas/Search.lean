import IceModel.Model.CacheFault
import IceModel.Model.DocValues
/-
  `sort.Search`, modelled word for word in `Model/DocValues.lean` (`searchAux`) and in
  `Model/CacheFault.lean` (`searchLoop`).  On ANY predicate the result has a false predecessor (or
  is 0) and is itself true (or is n); on a predicate that is false below `k` and true from `k` on,
  that index can only be `k`.
-/
namespace Ice.Model.CacheFault

theorem searchLoop_spec (p : Nat → Bool) (n : Nat) : ∀ (fuel lo hi : Nat),
    hi ≤ lo + fuel → lo ≤ hi → hi ≤ n →
    (lo = 0 ∨ p (lo - 1) = false) → (hi = n ∨ p hi = true) →
    let i := searchLoop p fuel lo hi
    i ≤ n ∧ (i = 0 ∨ p (i - 1) = false) ∧ (i = n ∨ p i = true) := by
  intro fuel
  induction fuel with
  | zero =>
    intro lo hi hf hle hn
    obtain rfl : lo = hi := Nat.le_antisymm hle hf
    exact fun hlo hhi => ⟨hn, hlo, hhi⟩
  | succ fuel ih =>
    intro lo hi hf hle hn
    rw [searchLoop]
    split
    · rename_i hlt
      have h1 : lo ≤ (lo + hi) / 2 :=
        (Nat.le_div_iff_mul_le Nat.two_pos).mpr (Nat.mul_two lo ▸ Nat.add_le_add_left hle lo)
      have h2 : (lo + hi) / 2 < hi :=
        (Nat.div_lt_iff_lt_mul Nat.two_pos).mpr (Nat.mul_two hi ▸ Nat.add_lt_add_right hlt hi)
      dsimp only
      generalize (lo + hi) / 2 = h at h1 h2 ⊢
      intro hlo hhi
      cases hp : p h
      · exact ih (h + 1) hi (Nat.add_right_comm h 1 fuel ▸ Nat.le_trans hf (Nat.add_le_add_right h1 _)) h2 hn
          (Or.inr hp) hhi
      · exact ih lo h (Nat.le_of_lt_succ (Nat.lt_of_lt_of_le h2 hf)) h1 (Nat.le_trans (Nat.le_of_lt h2) hn) hlo
          (Or.inr hp)
    · rename_i hlt
      obtain rfl : lo = hi := Nat.le_antisymm hle (Nat.not_lt.mp hlt)
      exact fun hlo hhi => ⟨hn, hlo, hhi⟩

theorem sortSearch_spec (n : Nat) (p : Nat → Bool) :
    sortSearch n p ≤ n ∧ (sortSearch n p = 0 ∨ p (sortSearch n p - 1) = false) ∧
    (sortSearch n p = n ∨ p (sortSearch n p) = true) :=
  searchLoop_spec p n n 0 n (Nat.le_of_eq (Nat.zero_add n).symm) (Nat.zero_le n) (Nat.le_refl n) (Or.inl rfl) (Or.inl rfl)

theorem sortSearch_eq (n : Nat) (p : Nat → Bool) (k : Nat) (hk : k ≤ n)
    (hlo : ∀ m, m < k → p m = false) (hhi : ∀ m, k ≤ m → m < n → p m = true) : sortSearch n p = k := by
  obtain ⟨hle, h1, h2⟩ := sortSearch_spec n p
  generalize sortSearch n p = i at hle h1 h2
  refine Nat.le_antisymm (Nat.le_of_not_lt fun h => ?_) (Nat.le_of_not_lt fun h => ?_)
  · have h0 : i ≠ 0 := Nat.ne_of_gt (Nat.zero_lt_of_lt h)
    have := hhi (i - 1) (Nat.le_sub_one_of_lt h) (Nat.lt_of_lt_of_le (Nat.sub_one_lt h0) hle)
    rw [h1.resolve_left h0] at this; cases this
  · have := hlo i h
    rw [h2.resolve_left (Nat.ne_of_lt (Nat.lt_of_lt_of_le h hk))] at this; cases this

end Ice.Model.CacheFault

namespace Ice.Model.DocValues

theorem searchAux_eq (f : Nat → Bool) : ∀ (fuel i j : Nat),
    searchAux f fuel i j = CacheFault.searchLoop f fuel i j := by
  intro fuel
  induction fuel with
  | zero => intro _ _; rfl
  | succ fuel ih =>
    intro i j
    unfold searchAux CacheFault.searchLoop
    simp only [ih]

theorem sortSearch_spec (n : Nat) (f : Nat → Bool) (k : Nat) (hk : k ≤ n)
    (hlo : ∀ m, m < k → f m = false) (hhi : ∀ m, k ≤ m → m < n → f m = true) :
    sortSearch n f = k :=
  (searchAux_eq f n 0 n).trans (CacheFault.sortSearch_eq n f k hk hlo hhi)

end Ice.Model.DocValues
