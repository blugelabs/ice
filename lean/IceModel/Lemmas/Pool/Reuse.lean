import IceModel.Lemmas.Builder.Run
import IceModel.Lemmas.Pool.Clean
/-
  Reuse of a CLEAN pooled object is invisible (C14): component by component
    * the field table, `Dicts`, `DictKeys`, the counters: a clean object looks like `&interim{}`;
    * `IncludeDocValues[:n]` (new.go:273): all cells false, as after `make`;
    * `Postings[:n]` / the copied bitmaps (351-362): all empty, as after `roaring.New()`;
    * the stale headers in `FreqNorms`/`Locs` are all overwritten by the carving loops, the stale cells
      and the larger capacity of `freqNormsBacking`/`locsBacking` are covered by `RefinesC`.
  And whatever the batch, the build writes no cell of `IncludeDocValues`, `Postings` or `DictKeys`
  beyond the lengths it leaves, so reset() makes the object clean again (`reset_clean`).
-/
namespace Ice.Model.Pool
open Ice Ice.Spec Ice.Model.Builder

namespace GoSlice
variable {α : Type}

theorem len_reuseOrMake (z : α) (g : GoSlice α) (n : Nat) : (g.reuseOrMake z n).len = n := by
  unfold reuseOrMake; split <;> rfl

theorem le_cap_reuseOrMake (z : α) (g : GoSlice α) (n : Nat) : n ≤ (g.reuseOrMake z n).cap := by
  unfold reuseOrMake; split
  · next h => exact h
  · simp [make, cap]

theorem length_content_reuseOrMake (z : α) (g : GoSlice α) (n : Nat) :
    (g.reuseOrMake z n).content.length = n := by
  rw [content, List.length_take, len_reuseOrMake]
  exact Nat.min_eq_left (le_cap_reuseOrMake z g n)

theorem all_reuseOrMake (P : α → Prop) (z : α) (g : GoSlice α) (n : Nat) (hz : P z)
    (hg : ∀ x ∈ g.backing, P x) : ∀ x ∈ (g.reuseOrMake z n).backing, P x := by
  unfold reuseOrMake; split
  · exact hg
  · exact List.forall_mem_replicate.2 (Or.inr hz)

/-- within capacity or not: if all stale cells are `z`, the re-sliced array is the made one -/
theorem content_reuseOrMake (z : α) (g : GoSlice α) (n : Nat) (hg : ∀ x ∈ g.backing, x = z) :
    (g.reuseOrMake z n).content = List.replicate n z := by
  have := content_of_all (all_reuseOrMake (· = z) z g n rfl hg)
    (by rw [len_reuseOrMake]; exact le_cap_reuseOrMake z g n)
  rwa [len_reuseOrMake] at this

end GoSlice

theorem len_reusePostings (g : GoSlice (List Nat)) (n : Nat) : (reusePostings g n).len = n := by
  unfold reusePostings; split <;> rfl

theorem le_cap_reusePostings (g : GoSlice (List Nat)) (n : Nat) : n ≤ (reusePostings g n).cap := by
  unfold reusePostings; split
  · next h => exact h
  · simp only [GoSlice.cap, List.length_append, List.length_replicate]; omega

theorem all_reusePostings (g : GoSlice (List Nat)) (n : Nat) (hg : ∀ x ∈ g.backing, x = []) :
    ∀ x ∈ (reusePostings g n).backing, x = [] := by
  unfold reusePostings; split
  · exact hg
  · exact List.forall_mem_append.2 ⟨hg, List.forall_mem_replicate.2 (Or.inr rfl)⟩

theorem content_reusePostings (g : GoSlice (List Nat)) (n : Nat) (hg : ∀ x ∈ g.backing, x = []) :
    (reusePostings g n).content = List.replicate n [] := by
  have := GoSlice.content_of_all (all_reusePostings g n hg)
    (by rw [len_reusePostings]; exact le_cap_reusePostings g n)
  rwa [len_reusePostings] at this

/-! ### the field table and IncludeDocValues (new.go:253-277) -/

/-- on a clean object convert sets up exactly the state of a fresh builder, errors included; the
    slice `IncludeDocValues` is the old array re-sliced, or a made one -/
theorem initFieldsFrom_eq {o : PoolObj} (ho : Clean o) (b : Batch) :
    initFieldsFrom o b =
      (initFields b).map (fun s => (s, o.includeDV.reuseOrMake false s.fieldsInv.length)) := by
  unfold initFields initFieldsFrom
  rw [ofObj_clean ho]
  simp only
  split
  · next h => simp only [h, Except.map]
  · next h => simp only [h, Except.map, GoSlice.content_reuseOrMake false _ _ ho.includeDVIn]

/-- whatever the batch: the slice `IncludeDocValues` taken from a clean object has no true cell
    beyond what this build sets -/
theorem initFieldsFrom_dv {o : PoolObj} (ho : Clean o) {b : Batch} {s : St} {dv : GoSlice Bool}
    (e : initFieldsFrom o b = .ok (s, dv)) : ∀ x ∈ dv.backing, x = false := by
  rw [initFieldsFrom_eq ho] at e
  cases h : initFields b with
  | error er => rw [h] at e; cases e
  | ok s' =>
    rw [h] at e
    cases e
    exact GoSlice.all_reuseOrMake (· = false) false _ _ rfl ho.includeDVIn

/-! ### prepareDicts (new.go:339-399) -/

theorem prepareDictsFrom_post {o : PoolObj} (ho : Clean o) {b : Batch} {s s' : St} {cv : Carved}
    (e : prepareDictsFrom o s b = .ok (s', cv)) : ∀ x ∈ cv.post.backing, x = [] := by
  unfold prepareDictsFrom at e
  split at e
  · cases e
  · simp only at e
    split at e
    · cases e
    · split at e
      · cases e
      · injection e with e
        injection e with _ e
        rw [← e]
        exact all_reusePostings _ _ ho.postingsIn

/-- pass 1 on a clean object: the state of a fresh builder, except that the windows are carved
    into the reused arrays (capacity `cap`, stale cells) -/
theorem prepareDictsFrom_ok {o : PoolObj} (ho : Clean o) {F : List Bytes} {b : Batch}
    {m : AMap Bytes Nat} (hF : FieldsOK F (st0 b m)) (hFL : F = FL b) :
    ∃ s cv, prepareDictsFrom o (st0 b m) b = .ok (s, cv) ∧
      S1 cv.fnB.cap cv.locB.cap F b (st0 b m) s := by
  obtain ⟨s, t, e, h⟩ := pass1_ok hF hFL
  obtain ⟨fw, lw, hfw, hlw, hS⟩ := h (reusePostings o.postings t.pidNext).content
    (o.freqNorms.reuseOrMake (.own []) t.pidNext).content
    (o.fnBacking.reuseOrMake default t.totTFs).backing
    (o.locs.reuseOrMake (.own []) t.pidNext).content
    (o.locBacking.reuseOrMake default t.totLocs).backing
    (content_reusePostings _ _ ho.postingsIn) (GoSlice.length_content_reuseOrMake _ _ _)
    (GoSlice.length_content_reuseOrMake _ _ _) (GoSlice.le_cap_reuseOrMake _ _ _)
    (GoSlice.le_cap_reuseOrMake _ _ _)
  refine ⟨_, ⟨reusePostings o.postings t.pidNext, o.freqNorms.reuseOrMake (.own []) t.pidNext,
    o.fnBacking.reuseOrMake default t.totTFs, o.locs.reuseOrMake (.own []) t.pidNext,
    o.locBacking.reuseOrMake default t.totLocs⟩, ?_, hS⟩
  simp only [prepareDictsFrom, e, GoSlice.cap, hfw, hlw]

/-- on a clean object and inside the contract the build returns `builtOf nc b` -/
theorem buildFrom_eq {o : PoolObj} (ho : Clean o) (nc : Bytes → Nat → Nat) (π : Order) (b : Batch)
    (hv : ValidBatch b) (hπ : PermOK π) : ∃ o', buildFrom o nc π b = .ok (builtOf nc b, o') := by
  have hlen : (FL b).length ≤ 65535 := FL_length_le hv.2
  obtain ⟨m, e0, hF0⟩ := initFields_ok b hlen
  have e0' := initFieldsFrom_eq ho b
  rw [e0] at e0'
  obtain ⟨s1, cv, e1, hS1⟩ := prepareDictsFrom_ok ho hF0 rfl
  obtain ⟨sF, e2⟩ := finish_ok nc π b hv hπ hF0 hS1
  simp only [buildFrom, e0', Except.map, e1, e2]
  exact ⟨_, rfl⟩

/-- REUSE IS INVISIBLE: the result of a build on a clean pooled object is the result of a fresh
    builder -/
theorem reuse_invisible {o : PoolObj} (ho : Clean o) (nc : Bytes → Nat → Nat) (π : Order) (b : Batch)
    (hv : ValidBatch b) (hπ : PermOK π) :
    (buildFrom o nc π b).map (·.1) = run nc π b := by
  obtain ⟨o', e⟩ := buildFrom_eq ho nc π b hv hπ
  rw [e, run_eq nc π b hv hπ]; rfl

theorem all_extendKeys (g : GoSlice (GoSlice Bytes)) (h : ∀ x ∈ g.backing, x.len = 0) :
    ∀ x ∈ (extendKeys g).backing, x.len = 0 := by
  intro x hx
  unfold extendKeys at hx
  split at hx
  · rcases mem_modify _ _ _ _ hx with h' | ⟨y, _, e⟩
    · exact h x h'
    · rw [e]; rfl
  · rcases GoSlice.mem_append hx with h' | h' | h'
    · exact h x h'
    · rw [h']; rfl
    · rw [h']; rfl

theorem all_iter_extendKeys (k : Nat) : ∀ (g : GoSlice (GoSlice Bytes)),
    (∀ x ∈ g.backing, x.len = 0) → ∀ x ∈ (iter extendKeys k g).backing, x.len = 0 := by
  induction k with
  | zero => intro g h; exact h
  | succ k ih => intro g h; exact ih _ (all_extendKeys g h)

/-- the slots of `DictKeys` beyond the fields of this build still have length 0 -/
theorem harvestKeys_rest (g : GoSlice (GoSlice Bytes)) (K : List (List Bytes))
    (h : ∀ x ∈ g.backing, x.len = 0) :
    ∀ x ∈ (harvestKeys g K).backing.drop (harvestKeys g K).len, x.len = 0 := by
  intro x hx
  simp only [harvestKeys] at hx
  rw [List.drop_append, List.drop_eq_nil_of_le (by simp only [List.length_zipWith, List.length_take]; omega),
    List.nil_append] at hx
  exact all_iter_extendKeys _ g h x (List.mem_of_mem_drop (List.mem_of_mem_drop hx))

/-- a clean object is clean again after build + reset, whatever the batch (the contract is not
    needed: nothing writes `IncludeDocValues`, `Postings` or `DictKeys` beyond their lengths) -/
theorem reset_clean {o o' : PoolObj} (ho : Clean o) {nc : Bytes → Nat → Nat} {π : Order} {b : Batch}
    {r : Built} (e : buildFrom o nc π b = .ok (r, o')) : Clean (reset o') := by
  unfold buildFrom at e
  split at e
  · cases e
  · next s dv e0 =>
    split at e
    · cases e
    · next s1 cv e1 =>
      split at e
      · cases e
      · next r' sF e2 =>
        injection e with e
        injection e with _ e
        subst e
        apply clean_reset
        · exact harvestKeys_rest _ _ ho.dictKeysIn
        · show ∀ x ∈ (dv.withContent sF.includeDV).backing.drop (dv.withContent sF.includeDV).len, _
          rw [GoSlice.withContent_rest]
          exact fun x hx => initFieldsFrom_dv ho e0 x (List.mem_of_mem_drop hx)
        · show ∀ x ∈ (cv.post.withContent sF.postings).backing.drop
            (cv.post.withContent sF.postings).len, _
          rw [GoSlice.withContent_rest]
          exact fun x hx => prepareDictsFrom_post ho e1 x (List.mem_of_mem_drop hx)

/-! ### the fresh object

The pool model extends the builder model: started on `&interim{}` (what `sync.Pool.New` returns),
`buildFrom` IS `Builder.run` - for every batch, inside the input contract or not, errors included.
(`initFieldsFrom`, `prepareDictsFrom`, `finish` are the `…From` variants of the functions of
Model/Builder.lean that hard-wire the fresh state.) -/

theorem GoSlice.nil_reuseOrMake {α : Type} (z : α) (n : Nat) :
    ({} : GoSlice α).reuseOrMake z n = GoSlice.make z n := by
  unfold GoSlice.reuseOrMake
  split
  · next h =>
    obtain rfl : n = 0 := Nat.le_zero.1 h
    rfl
  · rfl

theorem reusePostings_nil (n : Nat) : reusePostings {} n = GoSlice.make [] n := by
  unfold reusePostings
  split
  · next h =>
    obtain rfl : n = 0 := Nat.le_zero.1 h
    rfl
  · rfl

/-- convert's set-up on a clean object, errors included -/
theorem initFieldsFrom_map {o : PoolObj} (ho : Clean o) (b : Batch) :
    (initFieldsFrom o b).map (·.1) = initFields b := by
  rw [initFieldsFrom_eq ho]
  cases initFields b <;> rfl

theorem prepareDictsFrom_fresh (s : St) (b : Batch) :
    (prepareDictsFrom PoolObj.fresh s b).map (·.1) = prepareDicts s b := by
  unfold prepareDictsFrom prepareDicts
  cases foldlE prepDoc (s, {}) b with
  | error e => rfl
  | ok x =>
    obtain ⟨s, t⟩ := x
    simp only [PoolObj.fresh, GoSlice.nil_reuseOrMake, reusePostings_nil, GoSlice.content_make]
    simp only [GoSlice.make, GoSlice.cap, List.length_replicate]
    cases carve 378 (List.replicate t.pidNext (Slice.own [])) 0 t.totTFs t.totTFs 0 s.numTerms with
    | error e => rfl
    | ok fw =>
      simp only
      cases carve 396 (List.replicate t.pidNext (Slice.own [])) 0 t.totLocs t.totLocs 0 s.numLocs with
      | error e => rfl
      | ok lw => rfl

theorem buildFrom_fresh (nc : Bytes → Nat → Nat) (π : Order) (b : Batch) :
    (buildFrom PoolObj.fresh nc π b).map (·.1) = run nc π b := by
  rw [run_eq_finish, ← initFieldsFrom_map clean_fresh b]
  unfold buildFrom
  cases initFieldsFrom PoolObj.fresh b with
  | error e => rfl
  | ok x =>
    obtain ⟨s, dv⟩ := x
    simp only [Except.map]
    rw [← prepareDictsFrom_fresh s b]
    cases prepareDictsFrom PoolObj.fresh s b with
    | error e => rfl
    | ok y =>
      obtain ⟨s1, cv⟩ := y
      simp only [Except.map]
      cases finish nc π b s1 with
      | error e => rfl
      | ok z => rfl

end Ice.Model.Pool
