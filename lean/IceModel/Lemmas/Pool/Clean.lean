import IceModel.Model.Pool
/-
  Go-slice lemmas, the pool invariant `Clean`, and what reset() (new.go:179-224) establishes.
-/
namespace Ice.Model.Pool
open Ice Ice.Spec Ice.Model.Builder

theorem mem_modify {α : Type} (f : α → α) (l : List α) (i : Nat) (x : α) (h : x ∈ l.modify i f) :
    x ∈ l ∨ ∃ y ∈ l, x = f y := by
  obtain ⟨j, hj⟩ := List.mem_iff_getElem?.1 h
  rw [List.getElem?_modify, Option.map_eq_map, Option.map_eq_some_iff] at hj
  obtain ⟨y, hy, e⟩ := hj
  have hm := List.mem_of_getElem? hy
  split at e
  · exact Or.inr ⟨y, hm, e.symm⟩
  · exact Or.inl (e ▸ hm)

namespace GoSlice
variable {α : Type}

@[simp] theorem content_len0 (s : GoSlice α) (h : s.len = 0) : s.content = [] := by
  simp [content, h]

theorem mem_content {s : GoSlice α} {x : α} (h : x ∈ s.content) : x ∈ s.backing :=
  List.mem_of_mem_take h

/-- re-slicing upwards exposes the stale cells -/
theorem content_reslice (s : GoSlice α) (n : Nat) : (s.reslice n).content = s.backing.take n := rfl

theorem content_make (zero : α) (n : Nat) : (make zero n).content = List.replicate n zero := by
  simp [make, content]

theorem content_of_all {s : GoSlice α} {z : α} (hall : ∀ x ∈ s.backing, x = z) (hlen : s.len ≤ s.cap) :
    s.content = List.replicate s.len z :=
  List.eq_replicate_iff.2
    ⟨by rw [content, List.length_take]; exact Nat.min_eq_left hlen, fun x hx => hall x (mem_content hx)⟩

/-- where the cells of the array after an `append` come from -/
theorem mem_append {zero : α} {s : GoSlice α} {y x : α} (h : x ∈ (s.append zero y).backing) :
    x ∈ s.backing ∨ x = y ∨ x = zero := by
  unfold append at h
  split at h
  · rcases List.mem_or_eq_of_mem_set h with h | h
    · exact Or.inl h
    · exact Or.inr (Or.inl h)
  · simp only [List.mem_append, List.mem_singleton, List.mem_replicate] at h
    rcases h with (h | h) | h
    · exact Or.inl (mem_content h)
    · exact Or.inr (Or.inl h)
    · exact Or.inr (Or.inr h.2)

theorem withContent_rest (s : GoSlice α) (l : List α) :
    (s.withContent l).backing.drop (s.withContent l).len = s.backing.drop l.length := by
  simp [withContent]

/-- after `for i := range s { s[i] = f(s[i]) }; s = s[:0]` every cell satisfies `P` if `f` establishes
    `P` and the cells beyond `len` satisfied it already: the loop stops at `len` -/
theorem all_mapElems_trunc (P : α → Prop) (f : α → α) (s : GoSlice α) (hf : ∀ x, P (f x))
    (hrest : ∀ x ∈ s.backing.drop s.len, P x) :
    ∀ x ∈ ((s.mapElems f).truncate0).backing, P x :=
  List.forall_mem_append.2 ⟨List.forall_mem_map.2 fun y _ => hf y, hrest⟩

end GoSlice

/-- what the next build may rely on.  The cells of `freqNormsBacking`, `locsBacking`, the slice
    headers in `FreqNorms`/`Locs`, the maps in `Dicts`, the strings in the key slices and the counters
    are NOT constrained: they are written before they are read. -/
structure Clean (o : PoolObj) : Prop where
  fieldsInv : o.fieldsInv.len = 0
  dicts : o.dicts.len = 0
  dictKeys : o.dictKeys.len = 0
  dictKeysIn : ∀ g ∈ o.dictKeys.backing, g.len = 0
  includeDV : o.includeDV.len = 0
  includeDVIn : ∀ x ∈ o.includeDV.backing, x = false
  postings : o.postings.len = 0
  postingsIn : ∀ x ∈ o.postings.backing, x = []
  freqNorms : o.freqNorms.len = 0
  fnBacking : o.fnBacking.len = 0
  locs : o.locs.len = 0
  locBacking : o.locBacking.len = 0
  numTerms : o.numTerms.len = 0
  numLocs : o.numLocs.len = 0
  bufs : o.builderBuf.len = 0 ∧ o.metaBuf.len = 0 ∧ o.tmp0.len = 0 ∧ o.tmp1.len = 0

theorem clean_iff (o : PoolObj) : Clean o ↔
    (o.fieldsInv.len = 0 ∧ o.dicts.len = 0 ∧ o.dictKeys.len = 0 ∧ o.includeDV.len = 0 ∧
     o.postings.len = 0 ∧ o.freqNorms.len = 0 ∧ o.fnBacking.len = 0 ∧ o.locs.len = 0 ∧
     o.locBacking.len = 0 ∧ o.numTerms.len = 0 ∧ o.numLocs.len = 0 ∧
     o.builderBuf.len = 0 ∧ o.metaBuf.len = 0 ∧ o.tmp0.len = 0 ∧ o.tmp1.len = 0) ∧
    (∀ x ∈ o.includeDV.backing, x = false) ∧
    (∀ x ∈ o.postings.backing, x = []) ∧
    (∀ g ∈ o.dictKeys.backing, g.len = 0) :=
  ⟨fun h => ⟨⟨h.fieldsInv, h.dicts, h.dictKeys, h.includeDV, h.postings, h.freqNorms, h.fnBacking,
      h.locs, h.locBacking, h.numTerms, h.numLocs, h.bufs⟩, h.includeDVIn, h.postingsIn, h.dictKeysIn⟩,
   fun ⟨⟨a, b, c, d, e, f, g, h, i, j, k, l⟩, m, n, p⟩ => ⟨a, b, c, p, d, m, e, n, f, g, h, i, j, k, l⟩⟩

instance (o : PoolObj) : Decidable (Clean o) := decidable_of_iff _ (clean_iff o).symm

theorem clean_fresh : Clean PoolObj.fresh := by decide

/-- a clean object looks like `&interim{}` to the builder -/
theorem ofObj_clean {o : PoolObj} (h : Clean o) : St.ofObj o = {} := by
  simp [St.ofObj, h.fieldsInv, h.dicts, h.dictKeys, h.numTerms, h.numLocs]

/-- new.go:179-224, statement by statement -/
theorem interp_resetActs (o : PoolObj) : interp resetActs o = some
    { fieldsInv := GoSlice.nil,
      dicts := (o.dicts.mapElems (fun _ => [])).truncate0,
      dictKeys := (o.dictKeys.mapElems GoSlice.truncate0).truncate0,
      includeDV := (o.includeDV.mapElems (fun _ => false)).truncate0,
      postings := (o.postings.mapElems (fun _ => [])).truncate0,
      freqNorms := o.freqNorms.truncate0,
      fnBacking := (o.fnBacking.mapElems (fun _ => default)).truncate0,
      locs := o.locs.truncate0,
      locBacking := (o.locBacking.mapElems (fun _ => default)).truncate0,
      numTerms := o.numTerms.truncate0,
      numLocs := o.numLocs.truncate0,
      builder := o.builder,
      builderBuf := o.builderBuf.trunc,
      metaBuf := o.metaBuf.trunc,
      tmp0 := o.tmp0.trunc,
      tmp1 := o.tmp1.trunc,
      lastNumDocs := 0,
      lastOutSize := 0 } := rfl

/-- the model's reset() is the plan generated from /repo (`Ice.Gen.PoolReset.resetPlan`, pinned in
    `Ice.Bridge.resetPlan`), and every statement of the plan has a meaning in the model -/
theorem reset_implements_plan :
    Plan.names resetActs = Ice.Bridge.resetPlan ∧ Plan.names resetActs = Ice.Gen.PoolReset.resetPlan ∧
    ∀ o, interp resetActs o = some (reset o) :=
  ⟨rfl, Ice.Bridge.reset_plan_pinned ▸ rfl, fun o => by rw [reset, resetWith, interp_resetActs]; rfl⟩

/-- `FieldsInv = nil` (new.go:184), not `[:0]`: the next build cannot write into the array the
    segment returned by this build still refers to (initSegmentBase keeps `s.FieldsInv`, new.go:73) -/
theorem reset_fieldsInv_nil (o : PoolObj) : (reset o).fieldsInv.cap = 0 := by
  rw [reset, resetWith, interp_resetActs]; rfl

/-- reset() makes an object clean provided the cells BEYOND the lengths were clean: its loops stop at
    `len` -/
theorem clean_reset {o : PoolObj}
    (hK : ∀ g ∈ o.dictKeys.backing.drop o.dictKeys.len, g.len = 0)
    (hDV : ∀ x ∈ o.includeDV.backing.drop o.includeDV.len, x = false)
    (hP : ∀ x ∈ o.postings.backing.drop o.postings.len, x = []) : Clean (reset o) := by
  rw [reset, resetWith, interp_resetActs]
  refine ⟨rfl, rfl, rfl, ?_, rfl, ?_, rfl, ?_, rfl, rfl, rfl, rfl, rfl, rfl, ⟨rfl, rfl, rfl, rfl⟩⟩
  · exact GoSlice.all_mapElems_trunc (fun (g : GoSlice Bytes) => g.len = 0) _ _ (fun _ => rfl) hK
  · exact GoSlice.all_mapElems_trunc (fun x => x = false) _ _ (fun _ => rfl) hDV
  · exact GoSlice.all_mapElems_trunc (fun x => x = []) _ _ (fun _ => rfl) hP

/-- remembering the sizes (new.go:78-79) does not matter -/
theorem clean_recycle {o : PoolObj} (nc : Bytes → Nat → Nat) (b : Batch) (h : Clean (reset o)) :
    Clean (recycle nc b o) := by
  unfold recycle
  -- `reset o` must not be unfolded: every field below would run the plan again
  generalize reset o = r at h ⊢
  exact ⟨h.fieldsInv, h.dicts, h.dictKeys, h.dictKeysIn, h.includeDV, h.includeDVIn, h.postings,
    h.postingsIn, h.freqNorms, h.fnBacking, h.locs, h.locBacking, h.numTerms, h.numLocs, h.bufs⟩

end Ice.Model.Pool
