import IceModel.Props.C04
/-
  The segment `New` returns WITHOUT going through a file.

    New                      new.go:40-90    ↦ `initSegment` (`initSegmentV0`: before commit 6ad80a3)
    footerCRC                write.go:202-211 ↦ `footerCRC`
    interim.convert          new.go:252-316  ↦ `convert`  (= `serialize` + the two tables it returns)
    initSegmentBase          new.go:92-116   ↦ the tail of `initSegment`

  `convert` returns, besides the footer, `dictOffsets` and `storedFieldChunkOffsets`; `New` fills in
  `footer.crc = s.w.Sum32()` (checksum of the data section), `chunkMode`, `numDocs`, replaces
  `footer.crc` by `footerCRC(footer)` (the checksum `persistFooter` will write; since 6ad80a3), and
  `initSegmentBase` builds the `Segment` from the builder's tables (`FieldsInv`, `FieldDocs`,
  `FieldFreqs`), the two tables of `convert`, the data section as memory-backed `segment.Data`, and
  runs `loadDvReaders` on it.  Nothing is parsed.

  `convert` repeats the body of `serializeWith true` and keeps the tables; `serialize_eq_convert`
  shows it is the same computation.
-/
namespace Ice.Model.Format
open Ice Ice.Model
open Ice.Model.Writer (be unbe Footer footerFields persistFooter parseFooter CRC)
open Ice.Model.ChunkBytes (Entry BLoc Coder tfAdds locAdds uvarintU64 Fresh)
open Ice.Model.DocValues (add64 sub64 maxUint64 Data)

/-- `interim.convert`: data section, footer values, `dictOffsets`, `storedFieldChunkOffsets` -/
def convert (K : Codecs) (L : LSeg) : Res (Bytes × Footer × List Nat × List Nat) := do
  let so := Stored.writeStoredFields K.stored docBlock L.stored
  let (db, dictLocs, dvOff) ←
    (if L.numDocs > 0 then do
      let tf ← Coder.new 1024 (L.numDocs - 1)
      let lc ← Coder.new 1024 (L.numDocs - 1)
      let (_, fb, outs) ←
        foldW (writeField K L.merger L.chunkMode L.numDocs) { tf, lc } so.bytes.length L.fields
      pure (fb ++ dvIndexBytes outs, outs.map (·.dictLoc), u64 (so.bytes.length + fb.length))
     else
      pure ([], L.fields.map (fun _ => 0), if L.merger then maxUint64 else 0)
     : Res (Bytes × List Nat × Nat))
  let pf := persistFields (so.bytes.length + db.length) (dictLocs.zip L.fields)
  return (so.bytes ++ db ++ pf.1,
    { numDocs := L.numDocs, storedIndexOffset := so.storedIndexOffset, fieldsIndexOffset := pf.2,
      docValueOffset := dvOff, chunkMode := L.chunkMode, version := 2, crc := 0 },
    dictLocs, so.chunkOffsets)

/-- `New` from `convert` on, BEFORE commit 6ad80a3: the footer gets the checksum of the data
    section (`s.w.Sum32()`; `numDocs` and `chunkMode`, which `New` also fills in, are already in
    the footer value of the model), and `initSegmentBase` assembles the segment: memory-backed
    data, the builder's field tables (`FieldDocs` / `FieldFreqs` are maps in Go; entry `i` of the
    lists is the map lookup with its zero default, which is also what `persistFields` writes),
    the tables of `convert`, and the doc-value readers `loadDvReaders` opens on the data section.
    `Segment.CRC()` of this segment is the checksum of the data section - not what a segment
    loaded from the persisted file reports (`C04_new_crc_v0_counterexample`). -/
def initSegmentV0 (K : Codecs) (L : LSeg) : Res Loaded := do
  let (data, ft, dictOffsets, storedFieldChunkOffsets) ← convert K L
  let footer : Footer := { ft with crc := K.crc.upd 0 data }
  let d : Data := { bytes := data, mem := true }
  let fieldsInv := L.fields.map (·.name)
  let dvr ← loadDvReaders d footer fieldsInv
  return { data := d, footer := footer, fieldsInv := fieldsInv, dictLocs := dictOffsets,
           fieldDocs := L.fields.map (·.fieldDocs), fieldFreqs := L.fields.map (·.fieldFreqs),
           storedChunkOffsets := storedFieldChunkOffsets, dvReaders := dvr }

/-- `footerCRC` (write.go:202-211): `persistFooter` into a buffer - seeded with `footer.crc`, the
    checksum of the data section -, the last four of its 44 bytes as a big-endian `uint32`.
    (`persistFooter` into a `bytes.Buffer` cannot fail; the error branch of `New` is dead.) -/
def footerCRC (h : CRC) (f : Footer) : Nat := unbe ((persistFooter h f).drop 40)

/-- the checksum `New` stores is the one `parseFooter` reads back from the file (`C04_footer`,
    `loadedFooter`) -/
theorem footerCRC_eq (K : Codecs) (data : Bytes) (ft : Footer) :
    footerCRC K.crc { ft with crc := K.crc.upd 0 data } = K.crc.upd 0 (data ++ footerFields ft) := by
  have hlen : (footerFields { ft with crc := K.crc.upd 0 data }).length = 40 := by
    simp [footerFields, Ice.Props.C11.be_length]
  unfold footerCRC persistFooter
  rw [List.drop_left' hlen, Ice.Props.C11.unbe_be 4 _ (K.crc_lt _ _), K.crc.upd_append]
  rfl

/-- `New` from `convert` on (new.go, after commit 6ad80a3): `footer.crc = s.w.Sum32()`, then
    `footer.crc, err = footerCRC(footer)` - the in-memory segment reports the checksum its
    persisted file will end with -, and `initSegmentBase` assembles the segment as in
    `initSegmentV0`. -/
def initSegment (K : Codecs) (L : LSeg) : Res Loaded := do
  let (data, ft, dictOffsets, storedFieldChunkOffsets) ← convert K L
  let footer0 : Footer := { ft with crc := K.crc.upd 0 data }
  let footer : Footer := { footer0 with crc := footerCRC K.crc footer0 }
  let d : Data := { bytes := data, mem := true }
  let fieldsInv := L.fields.map (·.name)
  let dvr ← loadDvReaders d footer fieldsInv
  return { data := d, footer := footer, fieldsInv := fieldsInv, dictLocs := dictOffsets,
           fieldDocs := L.fields.map (·.fieldDocs), fieldFreqs := L.fields.map (·.fieldFreqs),
           storedChunkOffsets := storedFieldChunkOffsets, dvReaders := dvr }

theorem convert_eq_middle (K : Codecs) (L : LSeg) :
    convert K L = (middle K L (storedOut K L).bytes.length >>= fun r =>
      let pf := persistFields ((storedOut K L).bytes.length + r.1.length) (r.2.1.zip L.fields)
      pure ((storedOut K L).bytes ++ r.1 ++ pf.1,
        { numDocs := L.numDocs, storedIndexOffset := (storedOut K L).storedIndexOffset,
          fieldsIndexOffset := pf.2, docValueOffset := r.2.2, chunkMode := L.chunkMode,
          version := 2, crc := 0 },
        r.2.1, (storedOut K L).chunkOffsets)) := rfl

theorem serialize_eq_convert (K : Codecs) (L : LSeg) :
    serialize K L = (convert K L >>= fun r => pure (r.1, r.2.1)) := by
  rw [serialize_eq_middle, convert_eq_middle]
  cases middle K L (storedOut K L).bytes.length <;> rfl

theorem convert_of_serialize {K : Codecs} {L : LSeg} {data : Bytes} {ft : Footer}
    (hs : serialize K L = .ok (data, ft)) :
    ∃ dictLocs offs, convert K L = .ok (data, ft, dictLocs, offs) := by
  rw [serialize_eq_convert] at hs
  obtain ⟨r, hr, h⟩ := bind_eq_ok hs
  obtain ⟨d, f, dl, offs⟩ := r
  simp only [ChunkBytes.pure_eq_ok, Res.ok.injEq, Prod.mk.injEq] at h
  obtain ⟨rfl, rfl⟩ := h
  exact ⟨dl, offs, hr⟩

theorem serialize_of_convert {K : Codecs} {L : LSeg} {data : Bytes} {ft : Footer}
    {dictLocs offs : List Nat} (hc : convert K L = .ok (data, ft, dictLocs, offs)) :
    serialize K L = .ok (data, ft) := by
  rw [serialize_eq_convert, hc]; rfl

theorem convert_inv (K : Codecs) (L : LSeg) (data : Bytes) (ft : Footer) (dictLocs offs : List Nat)
    (hn32 : L.numDocs < 2 ^ 32) (h : convert K L = .ok (data, ft, dictLocs, offs)) :
    offs = (storedOut K L).chunkOffsets ∧
    ∃ mid, Shape K L data ft mid dictLocs ∧
      (L.numDocs = 0 → mid = [] ∧ dictLocs = L.fields.map (fun _ => 0) ∧
        ft.docValueOffset = if L.merger then maxUint64 else 0) ∧
      (0 < L.numDocs → ∃ fb outs, Middle K L ft mid dictLocs fb outs) := by
  rw [convert_eq_middle] at h
  obtain ⟨⟨mid, dl, dvo⟩, hm, h⟩ := bind_eq_ok h
  simp only [ChunkBytes.pure_eq_ok, Res.ok.injEq, Prod.mk.injEq] at h
  obtain ⟨rfl, rfl, rfl, rfl⟩ := h
  obtain ⟨hl, h0, hpos⟩ := middle_inv K L hn32 hm
  refine ⟨rfl, mid, ⟨hl, rfl, rfl, rfl, rfl, rfl, rfl⟩, h0, fun hnd => ?_⟩
  obtain ⟨fb, outs, hrun, h1, h2, h3⟩ := hpos hnd
  exact ⟨fb, outs, hrun, h1, h2, h3⟩

/-- `loadDvReaders` does not look at the checksum in the footer -/
theorem loadDvReaders_crc (d : Data) (ft : Footer) (c : Nat) (names : List Bytes) :
    loadDvReaders d { ft with crc := c } names = loadDvReaders d ft names := rfl

/-- neither do the lazy readers -/
theorem dictionaryOf_crc (K : Codecs) (ld : Loaded) (c : Nat) (i : Nat) :
    dictionaryOf K { ld with footer := { ld.footer with crc := c } } i = dictionaryOf K ld i := rfl

theorem readRecord_crc (K : Codecs) (ld : Loaded) (c : Nat) (v : Nat) :
    readRecord K { ld with footer := { ld.footer with crc := c } } v = readRecord K ld v := rfl

theorem readPostings_crc (K : Codecs) (ld : Loaded) (c : Nat) (v : Nat) :
    readPostings K { ld with footer := { ld.footer with crc := c } } v = readPostings K ld v := rfl

theorem storedSeg_crc (ld : Loaded) (c : Nat) :
    Loaded.storedSeg { ld with footer := { ld.footer with crc := c } } = ld.storedSeg := rfl

end Ice.Model.Format
