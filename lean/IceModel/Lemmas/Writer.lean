import IceModel.Model.Writer
/-
  Lemmas about the writer-plumbing model (bufio.Writer, countHashWriter, WriteTo, footer codec).
-/
namespace Ice.Model.Writer

/-! ### unfolding equations in projection form -/

theorem sinkWrite_def (s : Sink) (st : SinkSt) (p : Bytes) :
    sinkWrite s st p =
      ({ got := st.got ++ p.take (s.beh st.calls st.got.length p.length).acc,
         calls := st.calls + 1,
         erred := st.erred || (s.beh st.calls st.got.length p.length).err },
       (s.beh st.calls st.got.length p.length).acc,
       (s.beh st.calls st.got.length p.length).err) := rfl

theorem flush_def (s : Sink) (b : Bufio) :
    flush s b =
      if b.err then (b, true)
      else if b.buf.isEmpty then (b, false)
      else
        if ((sinkWrite s b.sk b.buf).2.2 || decide ((sinkWrite s b.sk b.buf).2.1 < b.buf.length)) then
          ({ b with sk := (sinkWrite s b.sk b.buf).1, buf := b.buf.drop (sinkWrite s b.sk b.buf).2.1,
                    err := true }, true)
        else ({ b with sk := (sinkWrite s b.sk b.buf).1, buf := [] }, false) := rfl

theorem writeLoop_succ (s : Sink) (fuel : Nat) (b : Bufio) (p : Bytes) (nn : Nat) :
    writeLoop s (fuel + 1) b p nn =
      if (decide (p.length > b.size - b.buf.length) && !b.err) then
        if b.buf.isEmpty then
          writeLoop s fuel { b with sk := (sinkWrite s b.sk p).1, err := (sinkWrite s b.sk p).2.2 }
            (p.drop (sinkWrite s b.sk p).2.1) (nn + (sinkWrite s b.sk p).2.1)
        else
          writeLoop s fuel
            (flush s { b with buf := b.buf ++ p.take (min (b.size - b.buf.length) p.length) }).1
            (p.drop (min (b.size - b.buf.length) p.length))
            (nn + min (b.size - b.buf.length) p.length)
      else (b, p, nn) := rfl

theorem bwrite_def (s : Sink) (b : Bufio) (p : Bytes) :
    bwrite s b p =
      let r := writeLoop s (p.length + 2) b p 0
      if r.1.err then (r.1, r.2.2, true)
      else ({ r.1 with buf := r.1.buf ++ r.2.1 }, r.2.2 + r.2.1.length, false) := by
  unfold bwrite; dsimp only

/-! ### predicates on the sink state preserved by every sink call -/

def SinkPres (s : Sink) (P : SinkSt → Prop) : Prop := ∀ st p, P st → P (sinkWrite s st p).1

theorem flush_pres {s : Sink} {P : SinkSt → Prop} (hP : SinkPres s P) (b : Bufio) (h : P b.sk) :
    P (flush s b).1.sk := by
  rw [flush_def]
  split
  · exact h
  · split
    · exact h
    · split
      · exact hP _ _ h
      · exact hP _ _ h

theorem writeLoop_pres {s : Sink} {P : SinkSt → Prop} (hP : SinkPres s P) (fuel : Nat) :
    ∀ (b : Bufio) (p : Bytes) (nn : Nat), P b.sk → P (writeLoop s fuel b p nn).1.sk := by
  induction fuel with
  | zero => intro b p nn h; exact h
  | succ fuel ih =>
    intro b p nn h
    rw [writeLoop_succ]
    split
    · split
      · exact ih _ _ _ (hP _ _ h)
      · exact ih _ _ _ (flush_pres hP _ h)
    · exact h

theorem bwrite_pres {s : Sink} {P : SinkSt → Prop} (hP : SinkPres s P) (b : Bufio) (p : Bytes)
    (h : P b.sk) : P (bwrite s b p).1.sk := by
  rw [bwrite_def]
  dsimp only
  split
  · exact writeLoop_pres hP _ _ _ _ h
  · exact writeLoop_pres hP _ _ _ _ h

theorem mergeWrites_pres {s : Sink} {P : SinkSt → Prop} (hP : SinkPres s P) (h : CRC)
    (honour : Nat → Bool) (W : List Bytes) :
    ∀ (i : Nat) (b : Bufio) (c : CHW), P b.sk → P (mergeWrites s h honour W i b c).1.sk := by
  induction W with
  | nil => intro i b c hb; exact hb
  | cons p W ih =>
    intro i b c hb
    simp only [mergeWrites]
    split
    · exact bwrite_pres hP _ _ hb
    · exact ih _ _ _ (bwrite_pres hP _ _ hb)

/-! ### the bufio invariant -/

structure Inv (b : Bufio) (done : Bytes) : Prop where
  len : b.buf.length ≤ b.size
  err : b.err = b.sk.erred
  data : b.sk.erred = false → b.sk.got ++ b.buf = done

theorem sinkWrite_cases {s : Sink} (hs : s.WellBehaved) (st : SinkSt) (p : Bytes) :
    ∃ n e, n ≤ p.length ∧ (e = false → n = p.length) ∧
      sinkWrite s st p =
        ({ got := st.got ++ p.take n, calls := st.calls + 1, erred := st.erred || e }, n, e) := by
  obtain ⟨h1, h2⟩ := hs st.calls st.got.length p.length
  refine ⟨_, _, h1, fun he => Nat.le_antisymm h1 (Nat.le_of_not_lt fun hlt => ?_), rfl⟩
  rw [h2 hlt] at he; cases he

theorem flush_spec {s : Sink} (hs : s.WellBehaved) {b : Bufio} {done : Bytes} (hi : Inv b done) :
    (flush s b).1.size = b.size ∧ Inv (flush s b).1 done ∧ (flush s b).2 = (flush s b).1.err ∧
    ((flush s b).1.sk.erred = false → (flush s b).1.buf = []) := by
  obtain ⟨hl, he, hd⟩ := hi
  rw [flush_def]
  by_cases h1 : b.err = true
  · rw [if_pos h1]
    refine ⟨rfl, ⟨hl, he, hd⟩, h1.symm, ?_⟩
    intro h; rw [← he, h1] at h; cases h
  · rw [if_neg h1]
    by_cases h2 : b.buf.isEmpty = true
    · rw [if_pos h2]
      refine ⟨rfl, ⟨hl, he, hd⟩, ?_, ?_⟩
      · simpa using h1
      · intro _; simpa using h2
    · rw [if_neg h2]
      obtain ⟨n, e, hw1, hw2, hsw⟩ := sinkWrite_cases hs b.sk b.buf
      have hb : b.sk.erred = false := by rw [← he]; simpa using h1
      rw [hsw]
      cases e with
      | true =>
        simp only [Bool.true_or, if_true]
        refine ⟨trivial, ⟨?_, by simp, by simp⟩, trivial, by simp⟩
        simp only [List.length_drop]; omega
      | false =>
        simp only [hw2 rfl, Bool.false_or, Nat.lt_irrefl, decide_false, Bool.false_eq_true, if_false]
        refine ⟨trivial, ⟨by simp, by simp [hb, he], fun _ => ?_⟩, by simpa using h1, by simp⟩
        simp only [List.take_length, List.append_nil]
        exact hd hb

theorem writeLoop_stop (s : Sink) (fuel : Nat) (b : Bufio) (p : Bytes) (nn : Nat)
    (h : (decide (p.length > b.size - b.buf.length) && !b.err) = false) :
    writeLoop s fuel b p nn = (b, p, nn) := by
  cases fuel with
  | zero => rfl
  | succ fuel => rw [writeLoop_succ, h]; rfl

/-- what the loop of `Write` guarantees on exit -/
structure WLPost (b : Bufio) (done p : Bytes) (nn : Nat) (r : Bufio × Bytes × Nat) : Prop where
  size : r.1.size = b.size
  len : r.1.buf.length ≤ b.size
  err : r.1.err = r.1.sk.erred
  ok : r.1.sk.erred = false →
      r.1.sk.got ++ r.1.buf ++ r.2.1 = done ++ p ∧ r.2.2 + r.2.1.length = nn + p.length ∧
      r.1.buf.length + r.2.1.length ≤ b.size

theorem wl_stop_post (s : Sink) (fuel : Nat) {b : Bufio} {done : Bytes} (hi : Inv b done)
    (p : Bytes) (nn : Nat) (h : ¬ (decide (p.length > b.size - b.buf.length) && !b.err) = true) :
    WLPost b done p nn (writeLoop s fuel b p nn) := by
  have h := (Bool.not_eq_true _).mp h
  rw [writeLoop_stop _ _ _ _ _ h]
  obtain ⟨hl, he, hd⟩ := hi
  refine ⟨rfl, hl, he, fun hk => ⟨?_, rfl, ?_⟩⟩
  · simp only [hd hk]
  · rw [he, hk] at h
    simp at h
    simp only
    omega

theorem wl_empty {s : Sink} (hs : s.WellBehaved) {b : Bufio} {done : Bytes} (hi : Inv b done)
    (hemp : b.sk.erred = false → b.buf = []) (p : Bytes) (nn fuel : Nat) :
    WLPost b done p nn (writeLoop s (fuel + 1) b p nn) := by
  by_cases hc : (decide (p.length > b.size - b.buf.length) && !b.err) = true
  · rw [writeLoop_succ, if_pos hc]
    obtain ⟨hl, he, hd⟩ := hi
    have herr : b.err = false := by simp at hc; exact hc.2
    have hk : b.sk.erred = false := by rw [← he]; exact herr
    have hb := hemp hk
    -- a large write on an empty buffer goes straight to the sink, and the loop stops: either all
    -- of `p` was accepted or the error is set
    rw [hb, if_pos (by rfl)]
    obtain ⟨n, e, hw1, hw2, hsw⟩ := sinkWrite_cases hs b.sk p
    rw [hsw, writeLoop_stop]
    · refine ⟨rfl, by simp, by simp [hk], ?_⟩
      simp only [hk, Bool.false_or]
      intro he'
      have hd' := hd hk
      rw [hb, List.append_nil] at hd'
      simp [hw2 he', hd']
    · cases e
      · have hn := hw2 rfl
        simp [hn]
      · simp
  · exact wl_stop_post s _ hi p nn hc

theorem wl_spec {s : Sink} (hs : s.WellBehaved) {b : Bufio} {done : Bytes} (hi : Inv b done)
    (p : Bytes) (nn fuel : Nat) :
    WLPost b done p nn (writeLoop s (fuel + 2) b p nn) := by
  by_cases hc : (decide (p.length > b.size - b.buf.length) && !b.err) = true
  · by_cases hb : b.buf.isEmpty = true
    · exact wl_empty hs hi (fun _ => by simpa using hb) p nn (fuel + 1)
    · -- the first round fills the buffer and flushes it; the second finds it empty (`wl_empty`)
      rw [writeLoop_succ, if_pos hc, if_neg hb]
      have herr : b.err = false := by simp at hc; exact hc.2
      have hgt : p.length > b.size - b.buf.length := by simp at hc; exact hc.1
      have hmin : min (b.size - b.buf.length) p.length = b.size - b.buf.length := by omega
      rw [hmin]
      have hi1 : Inv { b with buf := b.buf ++ p.take (b.size - b.buf.length) }
          (done ++ p.take (b.size - b.buf.length)) := by
        obtain ⟨hl, he, hd⟩ := hi
        refine ⟨?_, he, fun hk => ?_⟩
        · simp only [List.length_append, List.length_take]; omega
        · simp only [← List.append_assoc]; rw [hd hk]
      obtain ⟨f1, f2, _, f4⟩ := flush_spec hs hi1
      have := wl_empty hs f2 f4 (p.drop (b.size - b.buf.length)) (nn + (b.size - b.buf.length)) fuel
      obtain ⟨g1, g2, g3, g4⟩ := this
      refine ⟨g1.trans f1, ?_, g3, fun hk => ?_⟩
      · rw [f1] at g2; exact g2
      · obtain ⟨k1, k2, k3⟩ := g4 hk
        refine ⟨?_, ?_, ?_⟩
        · rw [k1, List.append_assoc, List.take_append_drop]
        · rw [k2]; simp only [List.length_drop]; omega
        · rw [f1] at k3; exact k3
  · exact wl_stop_post s _ hi p nn hc

theorem bwrite_spec {s : Sink} (hs : s.WellBehaved) {b : Bufio} {done : Bytes} (hi : Inv b done)
    (p : Bytes) :
    (bwrite s b p).1.size = b.size ∧ Inv (bwrite s b p).1 (done ++ p) ∧
    (bwrite s b p).2.2 = (bwrite s b p).1.err ∧
    ((bwrite s b p).1.sk.erred = false → (bwrite s b p).2.1 = p.length) := by
  obtain ⟨g1, g2, g3, g4⟩ := wl_spec hs hi p 0 p.length
  rw [bwrite_def]
  generalize writeLoop s (p.length + 2) b p 0 = r at *
  obtain ⟨b', p', nn⟩ := r
  simp only at g1 g2 g3 g4 ⊢
  split
  · rename_i he
    refine ⟨g1, ⟨by rw [g1]; exact g2, g3, fun hk => ?_⟩, he.symm, fun hk => ?_⟩
    · simp only at hk; rw [← g3, he] at hk; cases hk
    · simp only at hk; rw [← g3, he] at hk; cases hk
  · rename_i he
    have he' : b'.err = false := by simpa using he
    have hk : b'.sk.erred = false := by rw [← g3]; exact he'
    obtain ⟨k1, k2, k3⟩ := g4 hk
    refine ⟨g1, ⟨?_, g3, fun _ => ?_⟩, he'.symm, fun _ => ?_⟩
    · simp only [List.length_append]; rw [g1]; exact k3
    · simp only [← List.append_assoc]; exact k1
    · simp only; omega

/-! ### scripts of writes -/

theorem erred_mono (s : Sink) : SinkPres s (fun st => st.erred = true) := by
  intro st p h
  simp only [sinkWrite_def, h, Bool.true_or]

theorem noErr_pres (s : Sink) (hn : ∀ i g n, (s.beh i g n).err = false) :
    SinkPres s (fun st => st.erred = false) := by
  intro st p h
  simp only [sinkWrite_def, h, hn, Bool.or_false]

/-- no error later, none before -/
theorem erred_false_of {st st' : SinkSt} (hmono : st.erred = true → st'.erred = true)
    (h : st'.erred = false) : st.erred = false := by
  cases hst : st.erred
  · rfl
  · rw [hmono hst] at h; cases h

/-- how both `WriteTo`s end: an error seen so far (`e`) is returned; otherwise `Flush`, and its
    error is returned; otherwise the count `n` -/
def finish (s : Sink) (b : Bufio) (e : Bool) (n : Nat) : Outcome × SinkSt :=
  if e then (.error, b.sk)
  else if (flush s b).2 then (.error, (flush s b).1.sk) else (.ok n, (flush s b).1.sk)

theorem finish_pres {s : Sink} {P : SinkSt → Prop} (hP : SinkPres s P) (b : Bufio) (e : Bool)
    (n : Nat) (h : P b.sk) : P (finish s b e n).2 := by
  unfold finish
  split
  · exact h
  · split <;> exact flush_pres hP b h

/-- No silent success: if any call of the sink failed the outcome is an error; if none did, the
    sink has received everything written so far, and the count is returned.  `e` may only be set
    when the sink has failed. -/
theorem finish_spec {s : Sink} (hs : s.WellBehaved) {b : Bufio} {done : Bytes} (hi : Inv b done)
    {e : Bool} (he : b.sk.erred = false → e = false) (n : Nat) :
    ((finish s b e n).2.erred = true → (finish s b e n).1 = .error) ∧
    ((finish s b e n).2.erred = false →
      b.sk.erred = false ∧ (finish s b e n).1 = .ok n ∧ (finish s b e n).2.got = done) := by
  cases e with
  | true => exact ⟨fun _ => rfl, fun hk => by cases he hk⟩
  | false =>
    have hb := erred_false_of (st := b.sk) (finish_pres (erred_mono s) b false n)
    obtain ⟨_, f2, f3, f4⟩ := flush_spec hs hi
    unfold finish at hb ⊢
    rw [if_neg Bool.false_ne_true] at hb ⊢
    by_cases hf : (flush s b).2 = true
    · rw [if_pos hf]
      refine ⟨fun _ => rfl, fun hk => ?_⟩
      rw [f3, f2.err, hk] at hf; cases hf
    · rw [if_neg hf] at hb ⊢
      refine ⟨fun hk => ?_, fun hk => ⟨hb hk, rfl, ?_⟩⟩
      · rw [f3, f2.err, hk] at hf; exact absurd rfl hf
      · have := f2.data hk
        rwa [f4 hk, List.append_nil] at this

/-- the running checksum after a script -/
def crcFold (h : CRC) (c : Nat) (W : List Bytes) : Nat := W.foldl h.upd c

theorem crcFold_cons (h : CRC) (c : Nat) (p : Bytes) (W : List Bytes) :
    crcFold h c (p :: W) = h.upd c (p ++ W.flatten) := by
  induction W generalizing c p with
  | nil => simp [crcFold]
  | cons q W ih =>
    have := ih (h.upd c p) q
    simp only [crcFold, List.foldl_cons] at this ⊢
    rw [this, h.upd_append]
    simp

theorem crcFold_flatten (h : CRC) (c : Nat) (W : List Bytes) (hW : W = [] → h.upd c [] = c) :
    crcFold h c W = h.upd c W.flatten := by
  cases W with
  | nil => simp [crcFold, hW rfl]
  | cons p W => rw [crcFold_cons]; simp

theorem mergeWrites_spec {s : Sink} (hs : s.WellBehaved) (h : CRC) (honour : Nat → Bool)
    (W : List Bytes) :
    ∀ (i : Nat) (b : Bufio) (c : CHW) (done : Bytes), Inv b done →
      (mergeWrites s h honour W i b c).1.size = b.size ∧
      Inv (mergeWrites s h honour W i b c).1 (done ++ W.flatten) ∧
      ((mergeWrites s h honour W i b c).1.sk.erred = false →
        (mergeWrites s h honour W i b c).2.2 = false ∧
        (mergeWrites s h honour W i b c).2.1 =
          { crc := crcFold h c.crc W, n := c.n + W.flatten.length }) := by
  induction W with
  | nil =>
    intro i b c done hi
    simp only [mergeWrites, List.flatten_nil, List.append_nil, List.length_nil, Nat.add_zero]
    exact ⟨trivial, hi, fun _ => ⟨trivial, rfl⟩⟩
  | cons p W ih =>
    intro i b c done hi
    obtain ⟨g1, g2, g3, g4⟩ := bwrite_spec hs hi p
    simp only [mergeWrites]
    split
    · rename_i he
      have he' : (bwrite s b p).1.sk.erred = true := by
        rw [← g2.err, ← g3]; simp at he; exact he.1
      refine ⟨g1, ⟨g2.len, g2.err, fun hk => ?_⟩, fun hk => ?_⟩
      · rw [he'] at hk; cases hk
      · rw [he'] at hk; cases hk
    · obtain ⟨k1, k2, k3⟩ := ih (i + 1) (bwrite s b p).1 (c.note h p (bwrite s b p).2.1) (done ++ p) g2
      refine ⟨k1.trans g1, ?_, fun hk => ?_⟩
      · simpa only [List.flatten_cons, List.append_assoc] using k2
      · obtain ⟨m1, m2⟩ := k3 hk
        refine ⟨m1, ?_⟩
        rw [m2]
        rw [g4 (erred_false_of (mergeWrites_pres (erred_mono s) h honour W (i + 1) _ _) hk)]
        simp only [CHW.note, List.take_length, List.flatten_cons, List.length_append, crcFold, List.foldl_cons,
          Nat.add_assoc]

/-! ### `Merger.WriteTo` -/

theorem mergerWriteTo_def (s : Sink) (h : CRC) (honour : Nat → Bool) (size : Nat) (W : List Bytes) :
    mergerWriteTo s h honour size W =
      let m := mergeWrites s h honour W 0 { size := size } {}
      finish s m.1 m.2.2 m.2.1.n := rfl

theorem mergerWriteTo_pres {s : Sink} {P : SinkSt → Prop} (hP : SinkPres s P) (h : CRC)
    (honour : Nat → Bool) (size : Nat) (W : List Bytes) (h0 : P {}) :
    P (mergerWriteTo s h honour size W).2 := by
  rw [mergerWriteTo_def]
  exact finish_pres hP _ _ _ (mergeWrites_pres hP h honour W 0 { size := size } {} h0)

theorem inv_init (size : Nat) (sk : SinkSt) (hk : sk.erred = false) :
    Inv { size := size, sk := sk } sk.got :=
  ⟨Nat.zero_le _, hk.symm, fun _ => List.append_nil _⟩

theorem mergerWriteTo_spec {s : Sink} (hs : s.WellBehaved) (h : CRC) (honour : Nat → Bool)
    (size : Nat) (W : List Bytes) :
    ((mergerWriteTo s h honour size W).2.erred = true → (mergerWriteTo s h honour size W).1 = .error) ∧
    ((mergerWriteTo s h honour size W).2.erred = false →
      (mergerWriteTo s h honour size W).1 = .ok W.flatten.length ∧
      (mergerWriteTo s h honour size W).2.got = W.flatten) := by
  obtain ⟨_, g2, g3⟩ := mergeWrites_spec hs h honour W 0 _ {} [] (inv_init size {} rfl)
  rw [mergerWriteTo_def]
  generalize mergeWrites s h honour W 0 { size := size } {} = r at *
  obtain ⟨o1, o2⟩ := finish_spec hs g2 (fun hk => (g3 hk).1) r.2.1.n
  refine ⟨o1, fun hk => ?_⟩
  obtain ⟨hb, p1, p2⟩ := o2 hk
  rw [p1, p2, (g3 hb).2]
  simp

/-! ### `Segment.WriteTo` -/

theorem segmentWriteTo_def (s : Sink) (h : CRC) (data : Bytes) (f : Footer) :
    segmentWriteTo s h data f =
      let w := sinkWrite s {} data
      let bw := bwrite s { size := 4096, sk := w.1 }
        (persistFooter h { f with crc := h.upd 0 (data.take w.2.1) })
      if w.2.2 then (.error, w.1) else finish s bw.1 bw.2.2 (w.2.1 + 44) := by
  -- `rfl` alone makes the elaborator evaluate `bwrite` on the 44 footer bytes
  unfold segmentWriteTo finish
  dsimp only [CHW.note]

theorem segmentWriteTo_spec {s : Sink} (hs : s.WellBehaved) (h : CRC) (data : Bytes) (f : Footer) :
    ((segmentWriteTo s h data f).2.erred = true → (segmentWriteTo s h data f).1 = .error) ∧
    ((segmentWriteTo s h data f).2.erred = false →
      (segmentWriteTo s h data f).1 = .ok (data.length + 44) ∧
      (segmentWriteTo s h data f).2.got = data ++ persistFooter h { f with crc := h.upd 0 data }) := by
  rw [segmentWriteTo_def]
  obtain ⟨n, e, hw1, hw2, hsw⟩ := sinkWrite_cases hs {} data
  rw [hsw]
  cases e with
  | true => exact ⟨fun _ => rfl, fun hk => by cases hk⟩
  | false =>
    rw [hw2 rfl]
    simp only [List.take_length, Bool.false_eq_true, if_false, List.nil_append, Nat.zero_add,
      Bool.or_false]
    have hi := inv_init 4096 { got := data, calls := 1, erred := false } rfl
    obtain ⟨_, g2, g3, _⟩ := bwrite_spec hs hi (persistFooter h { f with crc := h.upd 0 data })
    generalize bwrite s _ _ = r at *
    obtain ⟨o1, o2⟩ := finish_spec hs g2 (e := r.2.2) (fun hk => by rw [g3, g2.err, hk])
      (data.length + 44)
    exact ⟨o1, fun hk => (o2 hk).2⟩

/-! ### big-endian words and the footer codec -/

theorem length_be (k x : Nat) : (be k x).length = k := by
  induction k with
  | zero => rfl
  | succ k ih => simp [be, ih]

theorem foldl_be (k x acc : Nat) :
    (be k x).foldl (fun acc b => acc * 256 + b) acc = acc * 256 ^ k + x % 256 ^ k := by
  induction k generalizing acc with
  | zero => simp [be, Nat.mod_one]
  | succ k ih =>
    simp only [be, List.foldl_cons, ih]
    rw [Nat.pow_succ, Nat.mod_mul, Nat.add_mul, Nat.mul_assoc, Nat.mul_comm 256 (256 ^ k),
      Nat.mul_comm (256 ^ k) (x / 256 ^ k % 256)]
    omega

theorem unbe_be' (k x : Nat) (h : x < 256 ^ k) : unbe (be k x) = x := by
  rw [unbe, foldl_be, Nat.mod_eq_of_lt h, Nat.zero_mul, Nat.zero_add]

theorem length_footerFields (f : Footer) : (footerFields f).length = 40 := by
  simp [footerFields, length_be]

theorem length_persistFooter (h : CRC) (f : Footer) : (persistFooter h f).length = 44 := by
  simp [persistFooter, length_footerFields, length_be]

theorem slice_append {pre x rest : Bytes} {k w : Nat} (hk : pre.length = k) (hw : x.length = w) :
    ((pre ++ (x ++ rest)).drop k).take w = x := by
  subst hk hw; rw [List.drop_left, List.take_left]

theorem parseFooter_append (data a b c d e f g : Bytes)
    (ha : a.length = 8) (hb : b.length = 8) (hc : c.length = 8) (hd : d.length = 8)
    (he : e.length = 4) (hf : f.length = 4) (hg : g.length = 4) :
    parseFooter (data ++ (a ++ b ++ c ++ d ++ e ++ f ++ g)) =
      if unbe f != 2 then none
      else some { numDocs := unbe a, storedIndexOffset := unbe b, fieldsIndexOffset := unbe c,
                  docValueOffset := unbe d, chunkMode := unbe e, version := unbe f, crc := unbe g } := by
  have hlen : (a ++ b ++ c ++ d ++ e ++ f ++ g).length = 44 := by
    simp only [List.length_append, ha, hb, hc, hd, he, hf, hg]
  unfold parseFooter
  rw [if_neg (by rw [List.length_append, hlen]; omega), List.length_append, hlen,
    Nat.add_sub_cancel, List.drop_left]
  -- field by field: each lies behind the ones before it
  have s1 := slice_append (pre := a) (rest := c ++ (d ++ (e ++ (f ++ g)))) ha hb
  have s2 := slice_append (pre := a ++ b) (rest := d ++ (e ++ (f ++ g))) (k := 16)
    (by simp only [List.length_append, ha, hb]) hc
  have s3 := slice_append (pre := a ++ b ++ c) (rest := e ++ (f ++ g)) (k := 24)
    (by simp only [List.length_append, ha, hb, hc]) hd
  have s4 := slice_append (pre := a ++ b ++ c ++ d) (rest := f ++ g) (k := 32)
    (by simp only [List.length_append, ha, hb, hc, hd]) he
  have s5 := slice_append (pre := a ++ b ++ c ++ d ++ e) (rest := g) (k := 36)
    (by simp only [List.length_append, ha, hb, hc, hd, he]) hf
  have s6 := slice_append (pre := a ++ b ++ c ++ d ++ e ++ f) (x := g) (rest := []) (k := 40)
    (by simp only [List.length_append, ha, hb, hc, hd, he, hf]) hg
  simp only [List.append_assoc, List.append_nil] at s1 s2 s3 s4 s5 s6 ⊢
  simp only [List.take_left' ha, s1, s2, s3, s4, s5, s6]
end Ice.Model.Writer
