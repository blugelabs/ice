import IceModel.Model.Iter
/-
  The entry-level iterator (`Model/Iter.lean`) answers as the specification iterator over the live
  postings: `Reach cs P fl i L` relates a state to the postings still to be delivered, with one lemma
  per operation (`mk_reach`, `step_reach`, `Reach.replace` in `Lemmas/IterReplace.lean`) and
  `run_reach` for scripts.  Underneath, the invariant `Inv`: the `all` cursor splits the postings into
  `Pre ++ R`, `Actual` enumerates the postings of `R` selected by `lv`, and (`RdInv`) the chunk
  readers stand in front of the entries of `R` in the chunk they are in.  Inside a step the loops
  carry `Ready` from one read to the next; `nextDoc` moves both cursors behind the posting found and
  leaves the readers in front of it, from which `deliver` re-establishes `Inv` (`Inv.advance`).
-/
namespace Ice.Model.Iter
open Ice Ice.Spec

def SortedP (P : List Posting) : Prop := P.Pairwise (fun a b => a.doc < b.doc)

def inCh (cs c : Nat) : Posting → Bool := fun p => p.doc / cs == c

theorem chunkOf_eq (cs : Nat) (P : List Posting) (c : Nat) :
    chunkOf cs P c = P.filter (inCh cs c) := rfl

theorem inCh_self (cs : Nat) (p : Posting) : inCh cs (p.doc / cs) p = true := by
  simp [inCh]

theorem filter_all {lv : Posting → Bool} (hlv : ∀ p, lv p = true) (l : List Posting) :
    l.filter lv = l := List.filter_eq_self.mpr (fun a _ => hlv a)

/-- what the reader operations leave alone -/
structure Same (i j : It) : Prop where
  cs : j.cs = i.cs
  P : j.P = i.P
  fl : j.fl = i.fl
  all : j.all = i.all
  act : j.act = i.act
  clean : j.clean = i.clean

theorem Same.refl (i : It) : Same i i := ⟨rfl, rfl, rfl, rfl, rfl, rfl⟩

theorem Same.trans {i j k : It} (h1 : Same i j) (h2 : Same j k) : Same i k :=
  ⟨h2.cs.trans h1.cs, h2.P.trans h1.P, h2.fl.trans h1.fl, h2.all.trans h1.all,
   h2.act.trans h1.act, h2.clean.trans h1.clean⟩

theorem Same.setAll {i j : It} (h : Same i j) (all : List Nat) :
    Same { i with all := all } { j with all := all } :=
  ⟨h.cs, h.P, h.fl, rfl, h.act, h.clean⟩

/-- the readers stand in chunk `c` exactly in front of the entries of `rem` -/
structure Ready (cs : Nat) (j : It) (rem : List Posting) (c : Nat) : Prop where
  csEq : j.cs = cs
  cur : j.currChunk = c
  fn : j.fnR = some (rem.filter (inCh cs c))
  lc : j.fl.incL = true → j.lcR = (rem.filter (inCh cs c)).filter hasLocs

theorem Ready.needLoad {cs : Nat} {j : It} {rem : List Posting} {c : Nat} (h : Ready cs j rem c) :
    needLoad j c = false := by
  simp [Iter.needLoad, h.cur, h.fn]

theorem Ready.skip {cs : Nat} {j : It} {q : Posting} {rem : List Posting} {c : Nat}
    (h : Ready cs j (q :: rem) c) (hq : inCh cs c q = false) : Ready cs j rem c := by
  have e : (q :: rem).filter (inCh cs c) = rem.filter (inCh cs c) :=
    List.filter_cons_of_neg (by simp [hq])
  exact ⟨h.csEq, h.cur, by rw [h.fn, e], fun hl => by rw [h.lc hl, e]⟩

/-- The load-if-needed step every read starts with.  Between two reads the loops carry
    `Ready cs (ensure j c) rem c`: the readers are, or will be after that load, in chunk `c` in
    front of the entries of `rem`. -/
def ensure (j : It) (c : Nat) : It := if needLoad j c then loadChunk j c else j

theorem ensure_same (j : It) (c : Nat) : Same j (ensure j c) := by
  unfold ensure
  split
  · exact ⟨rfl, rfl, rfl, rfl, rfl, rfl⟩
  · exact Same.refl j

theorem Ready.ensured {cs : Nat} {j : It} {rem : List Posting} {c : Nat} (h : Ready cs j rem c) :
    Ready cs (ensure j c) rem c := by
  rw [Iter.ensure, h.needLoad]
  exact h

theorem Ready.ensure_cursors {cs : Nat} {j : It} {rem : List Posting} {c : Nat}
    (h : Ready cs (ensure j c) rem c) (all act : List Nat) :
    Ready cs (ensure { j with all := all, act := act } c) rem c := by
  have e : ensure { j with all := all, act := act } c =
      { ensure j c with all := all, act := act } := by
    show (if Iter.needLoad j c then _ else _) = _
    unfold Iter.ensure
    cases Iter.needLoad j c <;> rfl
  rw [e]
  exact ⟨h.csEq, h.cur, h.fn, h.lc⟩

/-- the consuming part of `currChunkNext` -/
def consume (i : It) : Option It :=
  match i.fnR with
  | none => none
  | some [] => none
  | some (e :: r) =>
    let i := { i with fnR := some r }
    if i.fl.incL && hasLocs e then
      match i.lcR with
      | [] => none
      | _ :: lr => some { i with lcR := lr }
    else some i

theorem currChunkNext_eq (i : It) (c : Nat) : currChunkNext i c = consume (ensure i c) := rfl

/-- the head entry of the freq/norm reader, the locations read with it (none unless locations are
    decoded and the entry has some), and the state behind both -/
def pop (j : It) : Option (Posting × List Loc × It) :=
  match j.fnR with
  | some (e :: r) =>
    if j.fl.incL && hasLocs e then
      match j.lcR with
      | l :: lr => some (e, l.locs, { j with fnR := some r, lcR := lr })
      | [] => none
    else some (e, [], { j with fnR := some r })
  | _ => none

theorem pop_some {j j' : It} {e : Posting} {ls : List Loc} (h : pop j = some (e, ls, j')) :
    ∃ r, j.fnR = some (e :: r) ∧
      (((j.fl.incL && hasLocs e) = false ∧ ls = [] ∧ j' = { j with fnR := some r }) ∨
       ((j.fl.incL && hasLocs e) = true ∧ ∃ l lr, j.lcR = l :: lr ∧ ls = l.locs ∧
          j' = { j with fnR := some r, lcR := lr })) := by
  unfold pop at h
  split at h
  · rename_i e0 r hf
    split at h
    · rename_i hb
      split at h
      · rename_i l lr hl
        cases h
        exact ⟨r, hf, Or.inr ⟨hb, l, lr, hl, rfl, rfl⟩⟩
      · cases h
    · rename_i hb
      cases h
      exact ⟨r, hf, Or.inl ⟨Bool.eq_false_iff.mpr hb, rfl, rfl⟩⟩
  · cases h

theorem consume_eq_pop (j : It) : consume j = (pop j).map (·.2.2) := by
  unfold consume pop
  cases j.fnR with
  | none => rfl
  | some l =>
    cases l with
    | nil => rfl
    | cons e r =>
      dsimp only
      cases j.fl.incL && hasLocs e with
      | false => rfl
      | true => cases j.lcR <;> rfl

/-- the part of `step` after a document number has been found -/
def deliver (n : Nat) (i : It) : Option (Option Posting × It) :=
  if !i.fl.incFN then some (some { doc := n, freq := 0, norm := 0, locs := [] }, i) else
  match i.fnR with
  | some (e :: r) =>
    let i := { i with fnR := some r }
    if i.fl.incL && hasLocs e then
      match i.lcR with
      | l :: lr => some (some { doc := n, freq := e.freq, norm := e.norm, locs := l.locs }, { i with lcR := lr })
      | [] => none
    else some (some { doc := n, freq := e.freq, norm := e.norm, locs := [] }, i)
  | _ => none

theorem deliver_eq_pop (n : Nat) (j : It) : deliver n j =
    if !j.fl.incFN then some (some { doc := n, freq := 0, norm := 0, locs := [] }, j)
    else (pop j).map fun p =>
      (some { doc := n, freq := p.1.freq, norm := p.1.norm, locs := p.2.1 }, p.2.2) := by
  unfold deliver pop
  cases j.fl.incFN with
  | false => rfl
  | true =>
    cases j.fnR with
    | none => rfl
    | some l =>
      cases l with
      | nil => rfl
      | cons e r =>
        dsimp only
        cases j.fl.incL && hasLocs e with
        | false => rfl
        | true => cases j.lcR <;> rfl

theorem pop_ready {cs : Nat} {j : It} {q : Posting} {rem : List Posting} {c : Nat}
    (h : Ready cs j (q :: rem) c) (hq : inCh cs c q = true) :
    ∃ j', pop j = some (q, if j.fl.incL then q.locs else [], j') ∧ Ready cs j' rem c ∧
      Same j j' := by
  have hfn := h.fn
  rw [List.filter_cons_of_pos hq] at hfn
  unfold pop
  rw [hfn]
  dsimp only
  cases hl : j.fl.incL with
  | false =>
    exact ⟨_, rfl, ⟨h.csEq, h.cur, rfl, fun hl' => by rw [hl] at hl'; cases hl'⟩,
      ⟨rfl, rfl, rfl, rfl, rfl, rfl⟩⟩
  | true =>
    have hlc := h.lc hl
    rw [List.filter_cons_of_pos hq, List.filter_cons] at hlc
    cases hh : hasLocs q with
    | false =>
      rw [hh] at hlc
      have hnil : q.locs = [] := by simpa [hasLocs] using hh
      refine ⟨{ j with fnR := some (rem.filter (inCh cs c)) }, ?_, ⟨h.csEq, h.cur, rfl, fun _ => hlc⟩,
        ⟨rfl, rfl, rfl, rfl, rfl, rfl⟩⟩
      rw [hnil]
      rfl
    | true =>
      rw [hh, if_pos rfl] at hlc
      rw [hlc]
      exact ⟨_, rfl, ⟨h.csEq, h.cur, rfl, fun _ => rfl⟩, ⟨rfl, rfl, rfl, rfl, rfl, rfl⟩⟩

theorem currChunkNext_spec {cs : Nat} {j : It} {q : Posting} {rem : List Posting} {c : Nat}
    (h : Ready cs (ensure j c) (q :: rem) c) (hq : inCh cs c q = true) :
    ∃ j', currChunkNext j c = some j' ∧ Ready cs (ensure j' c) rem c ∧ Same j j' := by
  obtain ⟨j', h1, h2, h3⟩ := pop_ready h hq
  exact ⟨j', by rw [currChunkNext_eq, consume_eq_pop, h1]; rfl, h2.ensured, (ensure_same j c).trans h3⟩

theorem ge_chunk_iff {cs : Nat} (hcs : 0 < cs) {a b : Nat} (h : a < b) :
    a ≥ (b / cs) * cs ↔ a / cs = b / cs := by
  constructor
  · intro h'
    exact Nat.le_antisymm (Nat.div_le_div_right (Nat.le_of_lt h))
      ((Nat.le_div_iff_mul_le hcs).mpr h')
  · intro e
    rw [← e]
    exact Nat.div_mul_le_self a cs

theorem map_doc_cons_exists (sk : List Posting) (p : Posting) (R' : List Posting) :
    ∃ a r, (sk ++ p :: R').map (·.doc) = a :: r := by
  cases sk with
  | nil => exact ⟨_, _, rfl⟩
  | cons q sk' => exact ⟨_, _, rfl⟩

theorem exclLoop_done (i : It) (n c : Nat) (rest : List Nat) :
    exclLoop i n c n rest = some (i, rest) := by
  rw [exclLoop]; simp

theorem exclLoop_step (i : It) (n c allN a : Nat) (r : List Nat) (h : allN ≠ n) :
    exclLoop i n c allN (a :: r) =
      match (if i.fl.incFN && allN ≥ c * i.cs then currChunkNext i c else some i) with
      | none => none
      | some i' => exclLoop i' n c a r := by
  rw [exclLoop, if_neg (by simpa using h)]
  cases (if i.fl.incFN && allN ≥ c * i.cs then currChunkNext i c else some i) <;> rfl

/-- the `for allN != n` loop on an exhausted `all` cursor: the Go code calls `i.all.Next()` on an
    iterator without a next element (a fault in the model) -/
theorem exclLoop_exhausted (i : It) (n c allN : Nat) (h : allN ≠ n) :
    exclLoop i n c allN [] = none := by
  rw [exclLoop, if_neg (by simpa using h)]
  cases (if i.fl.incFN && allN ≥ c * i.cs then currChunkNext i c else some i) <;> rfl

/-- one round of the `for allN != n` loop on a posting `q` before `p`: the readers skip its entry
    iff it lies in the chunk of `p` -/
theorem exclLoop_skip {cs : Nat} (hcs : 0 < cs) {p q : Posting} {rem : List Posting} {j : It}
    (hj : j.cs = cs) (hq : q.doc < p.doc)
    (hinv : j.fl.incFN = true → Ready cs (ensure j (p.doc / cs)) (q :: rem) (p.doc / cs)) :
    ∃ j1, (if j.fl.incFN && q.doc ≥ p.doc / cs * j.cs then currChunkNext j (p.doc / cs)
        else some j) = some j1 ∧
      Same j j1 ∧ (j.fl.incFN = true → Ready cs (ensure j1 (p.doc / cs)) rem (p.doc / cs)) := by
  cases hfn : j.fl.incFN with
  | false => exact ⟨j, rfl, Same.refl j, nofun⟩
  | true =>
    have hinv' := hinv hfn
    have hge : q.doc ≥ p.doc / cs * j.cs ↔ inCh cs (p.doc / cs) q = true := by
      rw [hj, ge_chunk_iff hcs hq]; simp [inCh]
    cases hin : inCh cs (p.doc / cs) q with
    | false =>
      rw [Bool.true_and, if_neg (by rw [decide_eq_true_eq, hge, hin]; exact Bool.false_ne_true)]
      exact ⟨j, rfl, Same.refl j, fun _ => hinv'.skip hin⟩
    | true =>
      obtain ⟨j1, e1, r1, s1⟩ := currChunkNext_spec hinv' hin
      rw [Bool.true_and, if_pos (by rw [decide_eq_true_eq, hge, hin]), e1]
      exact ⟨j1, rfl, s1, fun _ => r1⟩

theorem exclLoop_spec {cs : Nat} (hcs : 0 < cs) (p : Posting) (R' : List Posting) :
    ∀ (sk : List Posting) (j : It), j.cs = cs → (∀ q ∈ sk, q.doc < p.doc) →
      (j.fl.incFN = true → Ready cs (ensure j (p.doc / cs)) (sk ++ p :: R') (p.doc / cs)) →
      ∀ a r, a :: r = (sk ++ p :: R').map (·.doc) →
      ∃ j', exclLoop j p.doc (p.doc / cs) a r = some (j', R'.map (·.doc)) ∧ Same j j' ∧
        (j.fl.incFN = true → Ready cs (ensure j' (p.doc / cs)) (p :: R') (p.doc / cs)) := by
  intro sk
  induction sk with
  | nil =>
    intro j _ _ hinv a r har
    cases har
    exact ⟨j, exclLoop_done _ _ _ _, Same.refl j, hinv⟩
  | cons q sk' ih =>
    intro j hj hlt hinv a r har
    simp only [List.cons_append, List.map_cons, List.cons.injEq] at har
    obtain ⟨rfl, rfl⟩ := har
    obtain ⟨hq, hlt'⟩ := List.forall_mem_cons.mp hlt
    obtain ⟨a', r', har'⟩ := map_doc_cons_exists sk' p R'
    obtain ⟨j1, e1, s1, l1⟩ := exclLoop_skip hcs hj hq hinv
    rw [har', exclLoop_step _ _ _ _ _ _ (Nat.ne_of_lt hq), e1]
    obtain ⟨j', h1, h2, h3⟩ := ih j1 (s1.cs.trans hj) hlt' (fun hf => l1 (s1.fl ▸ hf)) a' r'
      har'.symm
    exact ⟨j', h1, s1.trans h2, fun hf => h3 (s1.fl.symm ▸ hf)⟩

theorem repeatSkip_spec {cs : Nat} (p : Posting) (R' : List Posting) (c : Nat) :
    ∀ (sk : List Posting) (j : It), Ready cs (ensure j c) (sk ++ p :: R') c →
      ∃ j', repeatSkip (sk.filter (inCh cs c)).length j c = some j' ∧ Same j j' ∧
        Ready cs (ensure j' c) (p :: R') c := by
  intro sk
  induction sk with
  | nil => intro j h; exact ⟨j, rfl, Same.refl j, h⟩
  | cons q sk' ih =>
    intro j h
    cases hin : inCh cs c q with
    | false =>
      rw [List.filter_cons_of_neg (by simp [hin])]
      exact ih j (h.skip hin)
    | true =>
      rw [List.filter_cons_of_pos (by simp [hin]), List.length_cons]
      obtain ⟨j1, e1, r1, s1⟩ := currChunkNext_spec h hin
      obtain ⟨j', h1, h2, h3⟩ := ih j1 r1
      refine ⟨j', ?_, s1.trans h2, h3⟩
      simp only [repeatSkip, e1]
      exact h1

theorem cleanLoop_done (cs d n c s : Nat) (rest : List Nat) (h : ¬ n < d) :
    cleanLoop cs d n c s rest = (n, c, s, rest) := by
  rw [cleanLoop.eq_def]; simp only [if_neg h]

theorem cleanLoop_nil (cs d n c s : Nat) (h : n < d) :
    cleanLoop cs d n c s [] = (n, c, s, []) := by
  rw [cleanLoop.eq_def]; simp only [if_pos h]

theorem cleanLoop_step (cs d n c s m : Nat) (r : List Nat) (h : n < d) :
    cleanLoop cs d n c s (m :: r) =
      cleanLoop cs d m (m / cs) (if m / cs != c then 0 else s + 1) r := by
  rw [cleanLoop.eq_def]; simp only [if_pos h]

theorem dropWhile_cons_nil {α : Type} {f : α → Bool} {a : α} {l : List α}
    (h : (a :: l).dropWhile f = []) : f a = true ∧ l.dropWhile f = [] := by
  rw [List.dropWhile_cons] at h
  split at h
  · exact ⟨‹_›, h⟩
  · cases h

theorem cleanLoop_notfound (cs d : Nat) :
    ∀ (R : List Posting) (q : Posting) (c s : Nat),
      (q :: R).dropWhile (fun p => p.doc < d) = [] →
      ∃ n' c' s', cleanLoop cs d q.doc c s (R.map (·.doc)) = (n', c', s', []) ∧ n' < d := by
  intro R
  induction R with
  | nil =>
    intro q c s h
    have hq := of_decide_eq_true (dropWhile_cons_nil h).1
    exact ⟨_, c, s, cleanLoop_nil _ _ _ _ _ hq, hq⟩
  | cons q' Rt ih =>
    intro q c s h
    rw [List.map_cons, cleanLoop_step _ _ _ _ _ _ _ (of_decide_eq_true (dropWhile_cons_nil h).1)]
    exact ih q' _ _ (dropWhile_cons_nil h).2

/-- `sameChunkNexts` after the step from `q` to the next document `y`: the number of postings up
    to `q` that lie in the chunk of `y` -/
theorem sameChunk_step {cs : Nat} {done : List Posting} {q : Posting} {y : Nat}
    (hdq : ∀ x ∈ done, x.doc < q.doc) (hqy : q.doc < y) :
    (if y / cs != q.doc / cs then 0 else (done.filter (inCh cs (q.doc / cs))).length + 1) =
      ((done ++ [q]).filter (inCh cs (y / cs))).length := by
  by_cases hc : y / cs = q.doc / cs
  · rw [hc, List.filter_append, List.filter_cons_of_pos (inCh_self cs q)]
    simp
  · have hle : q.doc / cs ≤ y / cs := Nat.div_le_div_right (Nat.le_of_lt hqy)
    have hnil : (done ++ [q]).filter (inCh cs (y / cs)) = [] := by
      apply List.filter_eq_nil_iff.mpr
      intro x hx
      have hxq : x.doc ≤ q.doc := by
        rcases List.mem_append.mp hx with hx | hx
        · exact Nat.le_of_lt (hdq x hx)
        · rw [List.mem_singleton.mp hx]; exact Nat.le_refl _
      simp only [inCh, beq_iff_eq]
      exact fun e => hc (Nat.le_antisymm (e ▸ Nat.div_le_div_right hxq) hle)
    simp [hc, hnil]

theorem cleanLoop_found {cs d : Nat} (p : Posting) (R' : List Posting) (hp : d ≤ p.doc) :
    ∀ (sk done : List Posting), (∀ q ∈ sk, q.doc < d) → SortedP (done ++ (sk ++ p :: R')) →
      ∀ a r, a :: r = (sk ++ p :: R').map (·.doc) →
      cleanLoop cs d a (a / cs) ((done.filter (inCh cs (a / cs))).length) r =
        (p.doc, p.doc / cs, ((done ++ sk).filter (inCh cs (p.doc / cs))).length,
          R'.map (·.doc)) := by
  intro sk
  induction sk with
  | nil =>
    intro done _ _ a r har
    cases har
    rw [cleanLoop_done _ _ _ _ _ _ (Nat.not_lt.mpr hp), List.append_nil]
  | cons q sk' ih =>
    intro done hlt hs a r har
    simp only [List.cons_append, List.map_cons, List.cons.injEq] at har
    obtain ⟨rfl, rfl⟩ := har
    obtain ⟨hq, hlt'⟩ := List.forall_mem_cons.mp hlt
    obtain ⟨a', r', har'⟩ := map_doc_cons_exists sk' p R'
    obtain ⟨y, rest, hy, rfl, -⟩ := List.map_eq_cons_iff.mp har'
    obtain ⟨-, hs2, hs3⟩ := List.pairwise_append.mp hs
    have hqy : q.doc < y.doc :=
      (List.pairwise_cons.mp hs2).1 y (by show y ∈ sk' ++ p :: R'; rw [hy]; exact List.mem_cons_self)
    rw [har', cleanLoop_step _ _ _ _ _ _ _ hq,
      sameChunk_step (fun x hx => hs3 x hx q List.mem_cons_self) hqy,
      ih (done ++ [q]) hlt' (by simpa [List.append_assoc] using hs) _ r' har'.symm,
      List.append_assoc]
    rfl

theorem nextDoc_act_nil (i : It) (d : Nat) (h : i.act = []) : nextDoc i d = some (none, i) := by
  unfold nextDoc; rw [h]

theorem nextDoc_clean_nofn (i : It) (d : Nat) (hne : i.act ≠ []) (hc : i.clean = true)
    (hfn : i.fl.incFN = false) :
    nextDoc i d = match i.act.dropWhile (· < d) with
      | [] => some (none, { i with act := [], all := [] })
      | n :: r => some (some n, { i with act := r, all := r }) := by
  unfold nextDoc
  cases ha : i.act with
  | nil => exact absurd ha hne
  | cons n0 r0 =>
    simp only [hc, hfn, Bool.not_false, if_true]
    rfl

theorem nextDoc_clean_fn (i : It) (d n0 : Nat) (r0 : List Nat) (ha : i.act = n0 :: r0)
    (hc : i.clean = true) (hfn : i.fl.incFN = true) :
    nextDoc i d = match cleanLoop i.cs d n0 (n0 / i.cs) 0 r0 with
      | (n, nChunk, same, rest) =>
        if n < d then some (none, { i with act := rest, all := rest }) else
        match repeatSkip same { i with act := rest, all := rest } nChunk with
        | none => none
        | some i => some (some n, ensure i nChunk) := by
  unfold nextDoc
  rw [ha]
  simp only [hc, hfn, if_true, Bool.not_true, Bool.false_eq_true, if_false]
  rfl

theorem ensure_and (b : Bool) (j : It) (c : Nat) :
    (if b && needLoad j c then loadChunk j c else j) = if b then ensure j c else j := by
  cases b <;> rfl

theorem nextDoc_excl (i : It) (d : Nat) (hne : i.act ≠ []) (hc : i.clean = false) :
    nextDoc i d = match i.act.dropWhile (· < d) with
      | [] => some (none, { i with act := [] })
      | n :: r =>
        match i.all with
        | [] => none
        | allN :: arest =>
          match exclLoop { i with act := r } n (n / i.cs) allN arest with
          | none => none
          | some (j, arest') =>
            some (some n, if j.fl.incFN then ensure { j with all := arest' } (n / i.cs)
                          else { j with all := arest' }) := by
  unfold nextDoc
  cases ha : i.act with
  | nil => exact absurd ha hne
  | cons n0 r0 =>
    simp only [hc, Bool.false_eq_true, if_false, ensure_and]
    rfl

theorem nextDoc_excl_loop (i : It) (d n : Nat) (r : List Nat) (allN : Nat) (arest : List Nat)
    (j : It) (arest' : List Nat) (hc : i.clean = false)
    (hact : i.act.dropWhile (· < d) = n :: r) (hall : i.all = allN :: arest)
    (hloop : exclLoop { i with act := r } n (n / i.cs) allN arest = some (j, arest')) :
    nextDoc i d = some (some n, if j.fl.incFN then ensure { j with all := arest' } (n / i.cs)
                                else { j with all := arest' }) := by
  have hne : i.act ≠ [] := by intro e; rw [e] at hact; simp at hact
  rw [nextDoc_excl i d hne hc, hact]
  simp only
  split
  · rename_i heq; rw [hall] at heq; cases heq
  · rename_i a' r' heq
    rw [hall] at heq
    cases heq
    rw [hloop]

def dOf : IterOp → Nat
  | .next => 0
  | .advance d => d

theorem step_eq (i : It) (op : IterOp) :
    step i op = match nextDoc i (dOf op) with
      | none => none
      | some (none, i) => some (none, i)
      | some (some n, i) => deliver n i := by
  cases op <;> rfl

/-- reader part of the invariant: `Pre` are the postings already handed out by `all`, `R` the
    ones still ahead -/
structure RdInv (cs : Nat) (i : It) (Pre R : List Posting) : Prop where
  none_case : i.fnR = none → Pre = []
  some_case : i.fnR ≠ none →
    (∀ q ∈ Pre, q.doc / cs ≤ i.currChunk) ∧ (∀ q ∈ R, i.currChunk ≤ q.doc / cs) ∧
      Ready cs i R i.currChunk

theorem Ready.rdInv {cs : Nat} {i : It} {Pre R : List Posting} {c : Nat} (h : Ready cs i R c)
    (b1 : ∀ q ∈ Pre, q.doc / cs ≤ c) (b2 : ∀ q ∈ R, c ≤ q.doc / cs) : RdInv cs i Pre R := by
  constructor
  · intro hn; rw [h.fn] at hn; cases hn
  · intro _
    rw [h.cur]
    exact ⟨b1, b2, h⟩

theorem RdInv.ready {cs : Nat} {i : It} {Pre R : List Posting} (hcs : i.cs = cs)
    (hP : i.P = Pre ++ R) (hfn : i.fl.incFN = true) (h : RdInv cs i Pre R) {p : Posting}
    (hp : p ∈ R) : Ready cs (ensure i (p.doc / cs)) R (p.doc / cs) := by
  unfold ensure
  cases hn : needLoad i (p.doc / cs) with
  | false =>
    have hh : i.currChunk = p.doc / cs ∧ i.fnR ≠ none := by
      cases hf : i.fnR <;> simp [needLoad, hf] at hn ⊢ <;> exact hn
    obtain ⟨_, _, rd⟩ := h.some_case hh.2
    rw [← hh.1]; exact rd
  | true =>
    -- the chunk differs from the one the readers are in (if any): none of its entries is in `Pre`
    have e : chunkOf cs i.P (p.doc / cs) = R.filter (inCh cs (p.doc / cs)) := by
      rw [chunkOf_eq, hP, List.filter_append]
      cases hf : i.fnR with
      | none => rw [h.none_case hf]; rfl
      | some es =>
        obtain ⟨b1, b2, _⟩ := h.some_case (by simp [hf])
        have hne : i.currChunk ≠ p.doc / cs := by simpa [needLoad, hf] using hn
        have hlt : i.currChunk < p.doc / cs := Nat.lt_of_le_of_ne (b2 p hp) hne
        have hnil : Pre.filter (inCh cs (p.doc / cs)) = [] := by
          apply List.filter_eq_nil_iff.mpr
          intro x hx
          simp only [inCh, beq_iff_eq]
          exact Nat.ne_of_lt (Nat.lt_of_le_of_lt (b1 x hx) hlt)
        rw [hnil]; rfl
    have hne : R.filter (inCh cs (p.doc / cs)) ≠ [] :=
      List.ne_nil_of_mem (List.mem_filter.mpr ⟨hp, inCh_self cs p⟩)
    rw [if_pos rfl]
    refine ⟨hcs, rfl, ?_, fun hl => ?_⟩
    · simp [loadChunk, hfn, hcs, e, hne]
    · have hl' : i.fl.incL = true := hl
      simp [loadChunk, hl', hcs, e]

theorem RdInv.frame {cs : Nat} {i j : It} {Pre R : List Posting} (h : RdInv cs i Pre R)
    (e1 : j.cs = i.cs) (e2 : j.currChunk = i.currChunk) (e3 : j.fnR = i.fnR) (e4 : j.lcR = i.lcR)
    (e5 : j.fl = i.fl) : RdInv cs j Pre R := by
  refine ⟨fun hn => h.none_case (e3 ▸ hn), fun hn => ?_⟩
  obtain ⟨b1, b2, r⟩ := h.some_case (e3 ▸ hn)
  rw [e2]
  exact ⟨b1, b2, e1.trans r.csEq, e2.trans r.cur, e3.trans r.fn, fun hl => e4.trans (r.lc (e5 ▸ hl))⟩

structure Inv (cs : Nat) (P : List Posting) (fl : RFlags) (lv : Posting → Bool) (cl : Bool)
    (i : It) (L Pre R : List Posting) : Prop where
  csEq : i.cs = cs
  PEq : i.P = P
  flEq : i.fl = fl
  clEq : i.clean = cl
  split : P = Pre ++ R
  all : i.all = R.map (·.doc)
  act : i.act = (R.filter lv).map (·.doc)
  LEq : L = R.filter lv
  rd : fl.incFN = true → RdInv cs i Pre R

/-- `nextDoc` has found posting `p` with `R'` still ahead: `i'` is `i` with both cursors moved
    behind `p` and, if they are on, the readers standing in front of it -/
structure Post (cs : Nat) (fl : RFlags) (lv : Posting → Bool) (i i' : It) (p : Posting)
    (R' : List Posting) : Prop where
  same : Same { i with all := R'.map (·.doc), act := (R'.filter lv).map (·.doc) } i'
  rd : fl.incFN = true → Ready cs i' (p :: R') (p.doc / cs)

/-- model state `i` and remaining live postings `L` correspond -/
def StepInv (cs : Nat) (P : List Posting) (fl : RFlags) (lv : Posting → Bool) (cl : Bool)
    (i : It) (L : List Posting) : Prop :=
  (i.act = [] ∧ L = []) ∨ ∃ Pre R, Inv cs P fl lv cl i L Pre R

section
variable {cs : Nat} {P : List Posting} {fl : RFlags} {lv : Posting → Bool} {cl : Bool}

theorem Inv.sorted_ahead {i : It} {L Pre R : List Posting} (hP : SortedP P)
    (h : Inv cs P fl lv cl i L Pre R) : SortedP R := by
  rw [h.split] at hP
  exact (List.pairwise_append.mp hP).2.1

/-- the exclusion path, `sk` being the postings `all` has to pass before it reaches `p` -/
theorem nextDoc_found_excl {i : It} {L Pre sk R' : List Posting} {d : Nat} {p : Posting}
    (hcs : 0 < cs)
    (h : Inv cs P fl lv false i L Pre (sk ++ p :: R')) (hsk : ∀ q ∈ sk, q.doc < p.doc)
    (hact : i.act.dropWhile (· < d) = p.doc :: (R'.filter lv).map (·.doc)) :
    ∃ i', nextDoc i d = some (some p.doc, i') ∧ Post cs fl lv i i' p R' := by
  obtain ⟨a, r, har⟩ := map_doc_cons_exists sk p R'
  obtain rfl := h.csEq
  have hinv : i.fl.incFN = true →
      Ready i.cs (ensure { i with act := (R'.filter lv).map (·.doc) } (p.doc / i.cs))
        (sk ++ p :: R') (p.doc / i.cs) :=
    fun hfn => ((h.rd (h.flEq ▸ hfn)).ready rfl (h.PEq.trans h.split) hfn (p := p)
      (by simp)).ensure_cursors _ _
  obtain ⟨j', e1, s1, l1⟩ := exclLoop_spec hcs p R' sk
    { i with act := (R'.filter lv).map (·.doc) } rfl hsk hinv a r har.symm
  rw [nextDoc_excl_loop i d _ _ _ _ _ _ h.clEq hact (h.all.trans har) e1]
  refine ⟨_, rfl, ?_⟩
  have hfl : j'.fl.incFN = fl.incFN := by rw [s1.fl]; exact congrArg _ h.flEq
  cases hfn : fl.incFN with
  | false =>
    rw [if_neg (by rw [hfl, hfn]; exact Bool.false_ne_true)]
    exact ⟨s1.setAll _, fun hf => by rw [hfn] at hf; cases hf⟩
  | true =>
    rw [if_pos (hfl.trans hfn)]
    exact ⟨(s1.setAll _).trans (ensure_same _ _),
      fun _ => (l1 (h.flEq ▸ hfn)).ensure_cursors _ _⟩

theorem nextDoc_found_clean_nofn {i : It} {L Pre sk R' : List Posting} {d : Nat} {p : Posting}
    (hlv : ∀ p, lv p = true) (hfl : fl.incFN = false)
    (h : Inv cs P fl lv true i L Pre (sk ++ p :: R'))
    (hact : i.act.dropWhile (· < d) = p.doc :: (R'.filter lv).map (·.doc)) :
    ∃ i', nextDoc i d = some (some p.doc, i') ∧ Post cs fl lv i i' p R' := by
  have hne : i.act ≠ [] := by intro e; rw [e] at hact; cases hact
  rw [nextDoc_clean_nofn i d hne h.clEq (h.flEq ▸ hfl), hact]
  exact ⟨_, rfl, ⟨rfl, rfl, rfl, by rw [filter_all hlv], rfl, rfl⟩,
    fun hf => by rw [hfl] at hf; cases hf⟩

/-- the clean path with the freq/norm reader on: `sk` are the postings skipped -/
theorem nextDoc_found_clean_fn {i : It} {L Pre sk R' : List Posting} {d : Nat} {p : Posting}
    (hP : SortedP P) (hlv : ∀ p, lv p = true) (hfl : fl.incFN = true)
    (h : Inv cs P fl lv true i L Pre (sk ++ p :: R')) (hdp : d ≤ p.doc)
    (hskd : ∀ q ∈ sk, q.doc < d) :
    ∃ i', nextDoc i d = some (some p.doc, i') ∧ Post cs fl lv i i' p R' := by
  obtain ⟨a, r, har⟩ := map_doc_cons_exists sk p R'
  obtain rfl := h.csEq
  have hact : i.act = a :: r := by rw [h.act, filter_all hlv, har]
  have hfn : i.fl.incFN = true := h.flEq ▸ hfl
  have hloop := cleanLoop_found (cs := i.cs) (d := d) p R' hdp sk [] hskd (h.sorted_ahead hP) a r
    har.symm
  simp only [List.filter_nil, List.length_nil, List.nil_append] at hloop
  obtain ⟨j, e1, s1, l1⟩ := repeatSkip_spec p R' (p.doc / i.cs) sk
    { i with act := R'.map (·.doc), all := R'.map (·.doc) }
    (((h.rd hfl).ready rfl (h.PEq.trans h.split) hfn (p := p) (by simp)).ensure_cursors _ _)
  rw [nextDoc_clean_fn i d a r hact h.clEq hfn, hloop]
  simp only [Nat.not_lt.mpr hdp, if_false, e1]
  exact ⟨_, rfl, by rw [filter_all hlv]; exact s1.trans (ensure_same j _), fun _ => l1⟩

/-- the first live posting `p` at or after `d` splits what is ahead: `sk` is passed over -/
theorem split_dropWhile (lv : Posting → Bool) (d : Nat) :
    ∀ (R : List Posting), SortedP R → ∀ (p : Posting) (Lr : List Posting),
      (R.filter lv).dropWhile (fun p => p.doc < d) = p :: Lr →
      ∃ sk R', R = sk ++ p :: R' ∧ Lr = R'.filter lv ∧ lv p = true ∧ d ≤ p.doc ∧
        (∀ q ∈ sk, q.doc < p.doc) ∧ (∀ q ∈ sk, lv q = true → q.doc < d) := by
  intro R
  induction R with
  | nil => intro _ p Lr h; cases h
  | cons q Rt ih =>
    intro hs p Lr h
    obtain ⟨hq, hs'⟩ := List.pairwise_cons.mp hs
    by_cases hfound : lv q = true ∧ ¬ q.doc < d
    · rw [List.filter_cons_of_pos hfound.1,
        List.dropWhile_cons_of_neg (by simpa using hfound.2)] at h
      cases h
      exact ⟨[], Rt, rfl, rfl, hfound.1, Nat.le_of_not_lt hfound.2, nofun, nofun⟩
    · -- `q` is skipped: not live, or before the target
      have hskip : ((q :: Rt).filter lv).dropWhile (fun p => p.doc < d)
          = (Rt.filter lv).dropWhile (fun p => p.doc < d) := by
        cases hl : lv q with
        | false => rw [List.filter_cons_of_neg (by simp [hl])]
        | true =>
          rw [List.filter_cons_of_pos hl, List.dropWhile_cons_of_pos]
          simpa [hl] using hfound
      rw [hskip] at h
      obtain ⟨sk, R', rfl, h2, h3, h4, h5, h6⟩ := ih hs' p Lr h
      exact ⟨q :: sk, R', rfl, h2, h3, h4,
        List.forall_mem_cons.mpr ⟨hq p (by simp), h5⟩,
        List.forall_mem_cons.mpr ⟨fun hl => Decidable.not_not.mp fun hn => hfound ⟨hl, hn⟩, h6⟩⟩

theorem act_dropWhile (l : List Posting) (d : Nat) :
    (l.map (·.doc)).dropWhile (· < d) = (l.dropWhile (fun p => p.doc < d)).map (·.doc) := by
  rw [List.dropWhile_map]; rfl

theorem nextDoc_found {i : It} {L Pre R : List Posting} {d : Nat} {p : Posting} {Lr : List Posting}
    (hcs : 0 < cs) (hP : SortedP P) (hmode : cl = true → ∀ p, lv p = true)
    (h : Inv cs P fl lv cl i L Pre R)
    (hd : L.dropWhile (fun p => p.doc < d) = p :: Lr) :
    ∃ i' sk R', nextDoc i d = some (some p.doc, i') ∧ R = sk ++ p :: R' ∧ Lr = R'.filter lv ∧
      (∀ q ∈ sk, q.doc < p.doc) ∧ Post cs fl lv i i' p R' := by
  have hact : i.act.dropWhile (· < d) = p.doc :: Lr.map (·.doc) := by
    rw [h.act, act_dropWhile, ← h.LEq, hd]; rfl
  rw [h.LEq] at hd
  obtain ⟨sk, R', rfl, rfl, -, hdp, hsk, hskd⟩ :=
    split_dropWhile lv d R (h.sorted_ahead hP) p Lr hd
  suffices ∃ i', nextDoc i d = some (some p.doc, i') ∧ Post cs fl lv i i' p R' from
    let ⟨i', e, hpost⟩ := this; ⟨i', sk, R', e, rfl, rfl, hsk, hpost⟩
  cases cl with
  | false => exact nextDoc_found_excl hcs h hsk hact
  | true =>
    rcases Bool.eq_false_or_eq_true fl.incFN with hfn | hfn
    · exact nextDoc_found_clean_fn hP (hmode rfl) hfn h hdp (fun q hq => hskd q hq (hmode rfl q))
    · exact nextDoc_found_clean_nofn (hmode rfl) hfn h hact

/-- nothing left at or after `d`: `Actual` is exhausted afterwards.  On the clean path `all` is
    exhausted with it; on the exclusion path `all` and the readers stay where they are, which is
    the invariant for an `Actual` that selects nothing. -/
theorem nextDoc_none {i : It} {L Pre R : List Posting} {d : Nat}
    (hmode : cl = true → ∀ p, lv p = true) (h : Inv cs P fl lv cl i L Pre R)
    (hd : L.dropWhile (fun p => p.doc < d) = []) :
    ∃ i', nextDoc i d = some (none, i') ∧ i'.act = [] ∧
      (i'.all = [] ∨ ∃ lv', (cl = true → ∀ p, lv' p = true) ∧ Inv cs P fl lv' cl i' [] Pre R) := by
  by_cases hne : i.act = []
  · have hL : L = [] := h.LEq.trans (List.map_eq_nil_iff.mp (h.act.symm.trans hne))
    exact ⟨i, nextDoc_act_nil i d hne, hne, Or.inr ⟨lv, hmode, hL ▸ h⟩⟩
  rw [h.LEq] at hd
  have hact : i.act.dropWhile (· < d) = [] := by
    rw [h.act, act_dropWhile, hd]; rfl
  cases hcl : cl with
  | false =>
    have hnil : R.filter (fun _ => false) = [] :=
      List.filter_eq_nil_iff.mpr fun _ _ => Bool.false_ne_true
    rw [nextDoc_excl i d hne (h.clEq.trans hcl), hact]
    exact ⟨_, rfl, rfl, Or.inr ⟨fun _ => false, nofun, h.csEq, h.PEq, h.flEq, h.clEq.trans hcl,
      h.split, h.all, by rw [hnil]; rfl, hnil.symm, fun hf => (h.rd hf).frame rfl rfl rfl rfl rfl⟩⟩
  | true =>
    have hc : i.clean = true := h.clEq.trans hcl
    cases hfn : i.fl.incFN with
    | false =>
      rw [nextDoc_clean_nofn i d hne hc hfn, hact]
      exact ⟨_, rfl, rfl, Or.inl rfl⟩
    | true =>
      rw [filter_all (hmode hcl)] at hd
      cases hR : R with
      | nil => exact absurd (by rw [h.act, hR]; rfl) hne
      | cons q0 Rt =>
        have ha : i.act = q0.doc :: Rt.map (·.doc) := by rw [h.act, filter_all (hmode hcl), hR]; rfl
        obtain ⟨n', c', s', hl, hn'⟩ := cleanLoop_notfound i.cs d Rt q0 (q0.doc / i.cs) 0 (hR ▸ hd)
        rw [nextDoc_clean_fn i d _ _ ha hc hfn, hl]
        exact ⟨_, if_pos hn', rfl, Or.inl rfl⟩

/-- moving both cursors behind `p` keeps the invariant, provided the readers have followed -/
theorem Inv.advance {i j : It} {L Pre sk R' : List Posting} {p : Posting}
    (h : Inv cs P fl lv cl i L Pre (sk ++ p :: R'))
    (s : Same { i with all := R'.map (·.doc), act := (R'.filter lv).map (·.doc) } j)
    (rd : fl.incFN = true → RdInv cs j (Pre ++ sk ++ [p]) R') :
    Inv cs P fl lv cl j (R'.filter lv) (Pre ++ sk ++ [p]) R' :=
  ⟨s.cs.trans h.csEq, s.P.trans h.PEq, s.fl.trans h.flEq, s.clean.trans h.clEq,
    by rw [h.split]; simp, s.all, s.act, rfl, rd⟩

theorem deliver_spec {i i' : It} {p : Posting} {L Pre sk R' : List Posting} (hP : SortedP P)
    (hfl : fl.incL = true → fl.incFN = true) (h : Inv cs P fl lv cl i L Pre (sk ++ p :: R'))
    (hp : Post cs fl lv i i' p R') :
    ∃ i'', deliver p.doc i' = some (some (decoded fl p), i'') ∧
      Inv cs P fl lv cl i'' (R'.filter lv) (Pre ++ sk ++ [p]) R' := by
  have hflE : i'.fl = fl := hp.same.fl.trans h.flEq
  cases hfn : fl.incFN with
  | false =>
    have hl : fl.incL = false := by
      cases hl : fl.incL with
      | false => rfl
      | true => rw [hfl hl] at hfn; cases hfn
    refine ⟨i', ?_, h.advance hp.same fun hf => by rw [hfn] at hf; cases hf⟩
    simp [deliver, hflE, decoded, hfn, hl]
  | true =>
    obtain ⟨j', e1, r1, s1⟩ := pop_ready (hp.rd hfn) (inCh_self cs p)
    rw [hflE] at e1
    have hs : SortedP ((Pre ++ sk) ++ p :: R') := by
      have := hP; rw [h.split] at this; simpa [List.append_assoc] using this
    have hs1 := (List.pairwise_append.mp hs).2.2
    have hs2 := (List.pairwise_cons.mp (List.pairwise_append.mp hs).2.1).1
    refine ⟨j', ?_, h.advance (hp.same.trans s1) fun _ => r1.rdInv ?_ ?_⟩
    · rw [deliver_eq_pop, hflE, hfn, e1]
      simp [decoded, hfn]
    · intro q hq
      apply Nat.div_le_div_right
      rcases List.mem_append.mp hq with hq | hq
      · exact Nat.le_of_lt (hs1 q hq p (by simp))
      · simp at hq; subst hq; exact Nat.le_refl _
    · intro q hq
      exact Nat.div_le_div_right (Nat.le_of_lt (hs2 q hq))

theorem step_found (hcs : 0 < cs) (hP : SortedP P) (hmode : cl = true → ∀ p, lv p = true)
    (hfl : fl.incL = true → fl.incFN = true) {i : It} {L Pre R : List Posting} {op : IterOp}
    {p : Posting} {Lr : List Posting} (h : Inv cs P fl lv cl i L Pre R)
    (hd : L.dropWhile (fun p => p.doc < dOf op) = p :: Lr) :
    ∃ i' Pre' R', step i op = some (some (decoded fl p), i') ∧
      Inv cs P fl lv cl i' Lr Pre' R' := by
  obtain ⟨i', sk, R', e, rfl, rfl, _, hp⟩ := nextDoc_found hcs hP hmode h hd
  obtain ⟨i'', e2, hinv⟩ := deliver_spec hP hfl h hp
  exact ⟨i'', _, R', by rw [step_eq, e]; exact e2, hinv⟩

theorem iterStep_eq (L : List Posting) (op : IterOp) :
    iterStep L op = match L.dropWhile (fun p => p.doc < dOf op) with
      | [] => (none, [])
      | p :: r => (some p, r) := by
  cases op with
  | next =>
    have : L.dropWhile (fun p => decide (p.doc < dOf .next)) = L := by
      cases L <;> simp [dOf]
    rw [this]; rfl
  | advance d => rfl

theorem step_spec (hcs : 0 < cs) (hP : SortedP P) (hmode : cl = true → ∀ p, lv p = true)
    (hfl : fl.incL = true → fl.incFN = true) (i : It) (L : List Posting) (op : IterOp)
    (h : StepInv cs P fl lv cl i L) :
    ∃ i', step i op = some ((iterStep L op).1.map (decoded fl), i') ∧
      StepInv cs P fl lv cl i' (iterStep L op).2 := by
  rw [iterStep_eq]
  rcases h with ⟨ha, hL⟩ | ⟨Pre, R, h⟩
  · rw [step_eq, nextDoc_act_nil i _ ha, hL]
    exact ⟨i, rfl, Or.inl ⟨ha, rfl⟩⟩
  · cases hd : L.dropWhile (fun p => p.doc < dOf op) with
    | nil =>
      obtain ⟨i', e, ha, _⟩ := nextDoc_none hmode h hd
      rw [step_eq, e]
      exact ⟨i', rfl, Or.inl ⟨ha, rfl⟩⟩
    | cons p Lr =>
      obtain ⟨i', Pre', R', e, hinv⟩ := step_found hcs hP hmode hfl h hd
      exact ⟨i', e, Or.inr ⟨Pre', R', hinv⟩⟩

/-- `i` stands in front of the live postings `L`: the invariant holds for some selection `lv`
    (an exhausted `Actual` on the exclusion path selects nothing), or, after `Actual` ran out on
    the clean path, both cursors are exhausted -/
def Reach (cs : Nat) (P : List Posting) (fl : RFlags) (i : It) (L : List Posting) : Prop :=
  (∃ lv cl Pre R, (cl = true → ∀ p, lv p = true) ∧ Inv cs P fl lv cl i L Pre R) ∨
    (i.all = [] ∧ i.act = [] ∧ L = [])

theorem step_reach (hcs : 0 < cs) (hP : SortedP P) (hfl : fl.incL = true → fl.incFN = true)
    {i : It} {L : List Posting} (op : IterOp) (h : Reach cs P fl i L) :
    ∃ i', step i op = some ((iterStep L op).1.map (decoded fl), i') ∧
      Reach cs P fl i' (iterStep L op).2 := by
  rw [iterStep_eq]
  rcases h with ⟨lv, cl, Pre, R, hmode, h⟩ | ⟨hall, hact, rfl⟩
  · cases hd : L.dropWhile (fun p => p.doc < dOf op) with
    | nil =>
      obtain ⟨i', e, ha, hcase⟩ := nextDoc_none hmode h hd
      rw [step_eq, e]
      refine ⟨i', rfl, ?_⟩
      rcases hcase with hall | ⟨lv', hmode', h'⟩
      · exact Or.inr ⟨hall, ha, rfl⟩
      · exact Or.inl ⟨lv', cl, Pre, R, hmode', h'⟩
    | cons p Lr =>
      obtain ⟨i', Pre', R', e, hinv⟩ := step_found hcs hP hmode hfl h hd
      exact ⟨i', e, Or.inl ⟨lv, cl, Pre', R', hmode, hinv⟩⟩
  · rw [step_eq, nextDoc_act_nil i _ hact]
    exact ⟨i, rfl, Or.inr ⟨hall, hact, rfl⟩⟩

theorem run_reach (hcs : 0 < cs) (hP : SortedP P) (hfl : fl.incL = true → fl.incFN = true)
    (ops : List IterOp) :
    ∀ {i : It} {L : List Posting}, Reach cs P fl i L → run i ops = specRun fl L ops := by
  induction ops with
  | nil => intro i L _; rfl
  | cons op ops ih =>
    intro i L h
    obtain ⟨i', e, h'⟩ := step_reach hcs hP hfl op h
    simp only [run, specRun, e]
    rw [ih h']

end

theorem mk_reach (cs : Nat) (P : List Posting) (E : Option (List Nat)) (fl : RFlags) :
    Reach cs P fl (mk cs P E fl) (live P E) := by
  have rd : RdInv cs (mk cs P E fl) [] P := by
    cases E <;> exact ⟨fun _ => rfl, fun hn => absurd rfl hn⟩
  cases E with
  | none =>
    exact Or.inl ⟨fun _ => true, true, [], P, fun _ _ => rfl, rfl, rfl, rfl, rfl, rfl, rfl,
      by rw [filter_all (fun _ => rfl)]; rfl, (filter_all (fun _ => rfl) P).symm, fun _ => rd⟩
  | some e =>
    exact Or.inl ⟨fun p => !e.contains p.doc, false, [], P, nofun, rfl, rfl, rfl, rfl, rfl, rfl,
      by simp only [mk]; rw [List.filter_map]; rfl, rfl, fun _ => rd⟩

theorem view_decoded (fl : Flags) (p : Posting) : view fl (decoded (RFlags.of fl) p) = view fl p := by
  cases fl with
  | mk f n l => cases f <;> cases n <;> cases l <;> rfl

theorem specRun_view (fl : Flags) (L : List Posting) (ops : List IterOp) :
    (specRun (RFlags.of fl) L ops).map (fun r => r.map (fun o => o.map (view fl))) =
      (iterRun fl L ops).map some := by
  induction ops generalizing L with
  | nil => rfl
  | cons op ops ih =>
    simp only [specRun, iterRun, List.map_cons]
    rw [ih]
    congr 1
    cases (iterStep L op).1 with
    | none => rfl
    | some p => simp [view_decoded]

end Ice.Model.Iter
