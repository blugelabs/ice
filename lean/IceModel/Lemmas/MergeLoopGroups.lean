import IceModel.Lemmas.MergeLoop
/-
  The merge loop of one field, group by group (a group is the deliveries of one term).  Over a
  group the loop body finishes the previous term, prepares the new one and accumulates the
  deliveries (`foldBody_group`, state `groupSt`); over the ascending terms it never fails
  (`foldBody_groups`).  `groupSt` in closed form (`groupSt_spec`, `groups_spec`) gives the result
  of `mergeField` as the value `mergedResult` (`mergeField_closed`).
-/
namespace Ice.Model.MergeLoop
open Ice Ice.Spec

/-- the postings of one delivery with their new document numbers -/
def itemsOf (q : Active × List Posting) : List (Nat × Posting) :=
  q.2.map (fun p => (newDocOf q.1.newDocNums p.doc, p))

def bmAddAll (xs : List Nat) (r : List Nat) : List Nat := xs.foldl (fun r x => bmAdd x r) r

def encItem (fi : List Bytes) (np : Nat × Posting) : MPosting := encPosting fi np.1 np.2

theorem mem_bmAdd (x y : Nat) (r : List Nat) : y ∈ bmAdd x r ↔ y = x ∨ y ∈ r := by
  induction r with
  | nil => simp [bmAdd]
  | cons z r ih =>
    simp only [bmAdd]
    split
    · simp
    · split
      · next h => subst h; simp
      · simp only [List.mem_cons, ih]
        exact or_left_comm

theorem mem_bmAddAll (xs r : List Nat) (y : Nat) : y ∈ bmAddAll xs r ↔ y ∈ xs ∨ y ∈ r := by
  induction xs generalizing r with
  | nil => simp [bmAddAll]
  | cons x xs ih =>
    have : bmAddAll (x :: xs) r = bmAddAll xs (bmAdd x r) := rfl
    rw [this, ih, mem_bmAdd, List.mem_cons]
    exact or_left_comm.trans or_assoc.symm

theorem bmAddAll_append (xs ys r : List Nat) :
    bmAddAll (xs ++ ys) r = bmAddAll ys (bmAddAll xs r) := by
  simp [bmAddAll, List.foldl_append]

theorem bmAddAll_eq_nil (xs : List Nat) : bmAddAll xs [] = [] ↔ xs = [] := by
  simp only [List.eq_nil_iff_forall_not_mem, mem_bmAddAll, List.not_mem_nil, or_false]

theorem foldl_accStep (fi : List Bytes) (nd : List (Option Nat)) (sp : List Posting) (a : Acc) :
    let its := sp.map (fun p => (newDocOf nd p.doc, p))
    sp.foldl (accStep fi nd) a =
      { roaring := bmAddAll (its.map (fun np => u32 np.1)) a.roaring,
        docTracking := bmAddAll (its.map (fun np => u32 np.1)) a.docTracking,
        entries := a.entries ++ its.map (encItem fi),
        locData := a.locData || its.any (fun np => !np.2.locs.isEmpty),
        lastDocNum := match its.getLast? with | some np => np.1 | none => a.lastDocNum,
        lastFreq := match its.getLast? with | some np => np.2.freq | none => a.lastFreq,
        lastNorm := match its.getLast? with | some np => np.2.norm | none => a.lastNorm,
        sumFreq := a.sumFreq + (its.map (fun np => np.2.freq)).sum } := by
  induction sp using snoc_induction with
  | nil => simp [bmAddAll]
  | snoc sp p ih =>
    simp only [List.foldl_append, List.foldl_cons, List.foldl_nil, ih, accStep, List.map_append,
      List.map_cons, List.map_nil, List.getLast?_concat, bmAddAll, List.any_append, List.any_cons,
      List.any_nil, List.sum_append, List.sum_cons, List.sum_nil, List.append_assoc, encItem,
      Bool.or_false, Bool.or_assoc, Nat.add_zero, Nat.add_assoc]

/-- the loop state after the postings `items` of term `k`, with their new document numbers, have
    been accumulated; `lastDocNum`/`lastFreq`/`lastNorm` are those of the last delivery, `last` -/
def addItems (fi : List Bytes) (k : Bytes) (items last : List (Nat × Posting)) (st : St) : St :=
  { st with
    roaring := bmAddAll (items.map (fun np => u32 np.1)) st.roaring,
    docTracking := bmAddAll (items.map (fun np => u32 np.1)) st.docTracking,
    entries := st.entries ++ items.map (encItem fi),
    locData := st.locData || items.any (fun np => !np.2.locs.isEmpty),
    lastDocNum := match last.getLast? with | some np => np.1 | none => 0,
    lastFreq := match last.getLast? with | some np => np.2.freq | none => 0,
    lastNorm := match last.getLast? with | some np => np.2.norm | none => 0,
    fieldFreq := st.fieldFreq + (items.map (fun np => np.2.freq)).sum,
    prevTerm := if st.prevTerm.isNone && k.isEmpty then none else some k }

theorem accQ_eq (cfg : Cfg) (k : Bytes) (st : St) (q : Active × List Posting) :
    accQ cfg k st q = addItems cfg.fieldsInv k (itemsOf q) (itemsOf q) st := by
  simp only [accQ, accum, foldl_accStep, Nat.zero_add, addItems, itemsOf]

def allItems (Q : List (Active × List Posting)) : List (Nat × Posting) := Q.flatMap itemsOf

theorem allItems_map_some (Q : List (Active × List Posting)) : allItems Q = Q.flatMap itemsOf := rfl

theorem allItems_append (Q₁ Q₂ : List (Active × List Posting)) :
    allItems (Q₁ ++ Q₂) = allItems Q₁ ++ allItems Q₂ := List.flatMap_append

theorem map_allItems_segsOf {β : Type} (g : Nat × Posting → β) (active : List Active) (k : Bytes) :
    (allItems (segsOf active k)).map g = active.flatMap (fun s =>
      match lookupK k s.dict with
      | some ps => (iterSurvivors s.drops ps).map (fun p => g (newDocOf s.newDocNums p.doc, p))
      | none => []) := by
  induction active with
  | nil => rfl
  | cons s r ih =>
    rw [segsOf_cons, allItems_append, List.map_append, ih, List.flatMap_cons]
    congr 1
    cases lookupK k s.dict with
    | none => rfl
    | some ps => simp [allItems, itemsOf, List.map_map, Function.comp_def]

theorem foldl_accQ (cfg : Cfg) (k : Bytes) (Q : List (Active × List Posting))
    (q : Active × List Posting) (X : St) :
    (Q ++ [q]).foldl (accQ cfg k) X =
      addItems cfg.fieldsInv k (allItems (Q ++ [q])) (itemsOf q) X := by
  induction Q generalizing X with
  | nil =>
    simp only [List.nil_append, List.foldl_cons, List.foldl_nil, accQ_eq, allItems,
      List.flatMap_cons, List.flatMap_nil, List.append_nil]
  | cons q0 Q ih =>
    simp only [List.cons_append, List.foldl_cons, ih, accQ_eq]
    simp only [addItems, allItems, List.flatMap_cons, List.map_append, bmAddAll_append,
      List.any_append, List.sum_append, List.append_assoc, Bool.or_assoc, Nat.add_assoc]
    congr 1
    -- `prevTerm`: setting it to `k` twice is setting it once
    obtain ⟨p⟩ := X
    cases p <;> cases k <;> rfl

/-- the state after all deliveries of term `k`, starting from `st` -/
def groupSt (cfg : Cfg) (active : List Active) (k : Bytes) (st : St) : St :=
  (segsOf active k).foldl (accQ cfg k)
    (setPrep (termCard active k) (chunkOf cfg (termCard active k)) (flush st))

theorem flush_init : flush ({} : St) = {} := rfl

/-- inside a group (the term did not change, `prepareNewTerm` already ran with these low
    indexes) a delivery only accumulates -/
theorem foldBody_in_group (cfg : Cfg) (hfix : cfg.sumFreqFix = true) (active : List Active)
    (k : Bytes) (hs : List (Nat × Nat)) (card : Nat) (hprep : PrepOK cfg active hs card) :
    ∀ (r : List (Nat × Nat)) (Q : List (Active × List Posting)) (st : St),
      r.map (stepSeg active) = Q.map some → (∀ q ∈ Q, SegOK q) →
      st.prevTerm.bytes = k → setPrep card (chunkOf cfg card) st = st →
      foldBody (body cfg active) (r.map fun iv => ((keyOf k, iv.1, iv.2), hs)) st =
        .ok (Q.foldl (accQ cfg k) st) := by
  intro r
  induction r with
  | nil =>
    intro Q st h
    cases Q with
    | nil => intros; rfl
    | cons _ _ => cases h
  | cons iv r ih =>
    intro Q st h hok h1 h2
    rcases Q with _ | ⟨q, Q⟩
    · cases h
    · rw [List.map_cons, List.map_cons, List.cons.injEq] at h
      have hb := body_accum cfg hfix active st st st (keyOf k, iv.1, iv.2) (.ok hs) q
        (by simp [Key.eq, h1]) (by rw [prepare_ok hfix hprep, h2, ite_self]) h.1 (hok q (by simp))
      simp only [List.map_cons, foldBody, hb, keyOf_bytes, List.foldl_cons]
      exact ih Q _ h.2 (fun q' hq' => hok q' (by simp [hq'])) (accum_prevTerm_bytes _ _ _ _ _)
        (congrArg (accQ cfg k · q) h2)

/-- the deliveries of one term, started at a term boundary: the first one finishes the previous
    term and prepares the new one -/
theorem foldBody_group (cfg : Cfg) (hfix : cfg.sumFreqFix = true) (active : List Active)
    (k : Bytes) (hs : List (Nat × Nat)) (Q : List (Active × List Posting))
    (card : Nat) (hprep : PrepOK cfg active hs card)
    (hseg : hs.map (stepSeg active) = Q.map some)
    (hok : ∀ q ∈ Q, SegOK q) (hne : hs ≠ []) (st : St)
    (hb : st.prevTerm.bytes = k → st = {}) (hinv : LoopInv st) :
    foldBody (body cfg active) (hs.map fun iv => ((keyOf k, iv.1, iv.2), hs)) st =
      .ok (Q.foldl (accQ cfg k) (setPrep card (chunkOf cfg card) (flush st))) := by
  have h1 : (if !(Key.eq st.prevTerm (keyOf k)) then finishTerm st else .ok st) =
      .ok (flush st) := by
    by_cases hk : st.prevTerm.bytes = k
    · obtain rfl := hb hk
      subst hk
      rfl
    · rw [finishTerm_ok st (finishOK_of_inv hinv)]
      simp [Key.eq, hk]
  have h2 : (if !(Key.eq (flush st).prevTerm (keyOf k)) || (flush st).prevTerm.isNone
      then prepareNewTerm cfg active (.ok hs) (flush st) else .ok (flush st)) =
      .ok (setPrep card (chunkOf cfg card) (flush st)) := by
    rw [flush_prevTerm, prepare_ok hfix hprep]
    by_cases hk : st.prevTerm.bytes = k
    · rw [hb hk]; exact if_pos (Bool.or_eq_true_iff.2 (Or.inr rfl))
    · simp [Key.eq, hk]
  rcases hs with _ | ⟨iv, r⟩
  · exact absurd rfl hne
  · rcases Q with _ | ⟨q, Q⟩
    · cases hseg
    · rw [List.map_cons, List.map_cons, List.cons.injEq] at hseg
      have hbody := body_accum cfg hfix active st _ _ (keyOf k, iv.1, iv.2) (.ok (iv :: r)) q h1 h2
        hseg.1 (hok q (by simp))
      simp only [List.map_cons, foldBody, hbody, keyOf_bytes, List.foldl_cons]
      exact foldBody_in_group cfg hfix active k (iv :: r) card hprep r Q _ hseg.2
        (fun q' hq' => hok q' (by simp [hq'])) (accum_prevTerm_bytes _ _ _ _ _) rfl

/-- the part of the loop state that belongs to the current term -/
structure Cur where
  roaring : List Nat
  entries : List MPosting
  locData : Bool
  lastDocNum : Nat
  lastFreq : Nat
  lastNorm : Nat
deriving DecidableEq, Repr

def St.cur (st : St) : Cur :=
  { roaring := st.roaring, entries := st.entries, locData := st.locData,
    lastDocNum := st.lastDocNum, lastFreq := st.lastFreq, lastNorm := st.lastNorm }

def use1HitC (c : Cur) : Option Nat :=
  if c.roaring.length = 1 && !c.locData then
    match c.roaring.head? with
    | none => none
    | some docNum =>
      if under32Bits docNum && docNum == c.lastDocNum && c.lastFreq == 1
      then some (encode1Hit docNum c.lastNorm) else none
  else none

theorem use1Hit_cur (st : St) : use1Hit st = use1HitC st.cur := rfl

/-- the current-term part of the state after all deliveries of term `k` -/
def groupCur (cfg : Cfg) (active : List Active) (k : Bytes) : Cur :=
  let Q := segsOf active k
  { roaring := bmAddAll ((allItems Q).map (fun np => u32 np.1)) [],
    entries := (allItems Q).map (encItem cfg.fieldsInv),
    locData := (allItems Q).any (fun np => !np.2.locs.isEmpty),
    lastDocNum := match Q.getLast? with
      | some q => (match (itemsOf q).getLast? with | some np => np.1 | none => 0)
      | none => 0,
    lastFreq := match Q.getLast? with
      | some q => (match (itemsOf q).getLast? with | some np => np.2.freq | none => 0)
      | none => 0,
    lastNorm := match Q.getLast? with
      | some q => (match (itemsOf q).getLast? with | some np => np.2.norm | none => 0)
      | none => 0 }

theorem flush_fields (st : St) :
    (flush st).roaring = [] ∧ (flush st).entries = [] ∧ (flush st).locData = false ∧
    (flush st).docTracking = st.docTracking ∧ (flush st).fieldFreq = st.fieldFreq := by
  unfold flush clearSt
  split <;> exact ⟨rfl, rfl, rfl, rfl, rfl⟩

theorem groupSt_spec (cfg : Cfg) (active : List Active) (k : Bytes) (st : St)
    (hne : segsOf active k ≠ []) :
    (groupSt cfg active k st).cur = groupCur cfg active k ∧
    (groupSt cfg active k st).prevTerm.bytes = k ∧
    (groupSt cfg active k st).out = (flush st).out ∧
    (groupSt cfg active k st).docTracking =
      bmAddAll ((allItems (segsOf active k)).map (fun np => u32 np.1)) st.docTracking ∧
    (groupSt cfg active k st).fieldFreq =
      st.fieldFreq + ((allItems (segsOf active k)).map (fun np => np.2.freq)).sum ∧
    (groupSt cfg active k st).builderLast = (flush st).builderLast ∧
    (groupSt cfg active k st).card = termCard active k ∧
    (groupSt cfg active k st).chunkSize = chunkOf cfg (termCard active k) := by
  obtain ⟨q, hq⟩ := Option.isSome_iff_exists.1 (List.getLast?_isSome.2 hne)
  obtain ⟨Q, hQ⟩ := List.getLast?_eq_some_iff.1 hq
  obtain ⟨f1, f2, f3, f4, f5⟩ := flush_fields st
  unfold groupSt groupCur
  rw [hQ, foldl_accQ]
  simp only [addItems, setPrep, St.cur, List.getLast?_concat, f1, f2, f3, f4, f5,
    List.nil_append, Bool.false_or, true_and, and_true]
  exact appendTerm_bytes _ k

theorem segsOf_ne_nil (active : List Active) (k : Bytes) (h : holders (fstLists active) k ≠ []) :
    segsOf active k ≠ [] := by
  intro hn
  have := holders_stepSeg active k
  rw [hn] at this
  simp at this
  exact h this

/-- the loop over the deliveries of the terms `ks`, ascending, each held by some segment: group
    after group; `vellum.Builder.Insert` never sees a term below its last one -/
theorem foldBody_groups (cfg : Cfg) (hfix : cfg.sumFreqFix = true) {active : List Active}
    (hwf : WFActive cfg active) : ∀ (ks : List Bytes) (st : St), Asc ks →
    (∀ k ∈ ks, holders (fstLists active) k ≠ []) →
    (∀ k ∈ ks, keyLe st.prevTerm.bytes k ∧ (st.prevTerm.bytes = k → st = {})) → LoopInv st →
    foldBody (body cfg active) (ks.flatMap (fun k => (holders (fstLists active) k).map
        (fun iv => ((keyOf k, iv.1, iv.2), holders (fstLists active) k)))) st =
      .ok (ks.foldl (fun st k => groupSt cfg active k st) st) ∧
    LoopInv (ks.foldl (fun st k => groupSt cfg active k st) st) := by
  intro ks
  induction ks with
  | nil => intro st _ _ _ hinv; exact ⟨rfl, hinv⟩
  | cons k ks ih =>
    intro st hasc hne hst hinv
    have hp := List.pairwise_cons.1 hasc
    obtain ⟨hle, hb⟩ := hst k (by simp)
    obtain ⟨_, g2, _, _, _, g6, _⟩ :=
      groupSt_spec cfg active k st (segsOf_ne_nil active k (hne k (by simp)))
    have hg : foldBody (body cfg active) _ st = .ok (groupSt cfg active k st) :=
      foldBody_group cfg hfix active k _ _ _ (prepOK_of_wf hwf k) (holders_stepSeg active k)
        (segOK_of_wf hwf k) (hne k (by simp)) st hb hinv
    rw [List.flatMap_cons, foldBody_append, hg]
    refine ih _ hp.2 (fun k' hk' => hne k' (by simp [hk'])) (fun k' hk' => ?_) ?_
    · rw [g2]
      exact ⟨Or.inr (hp.1 k' hk'), fun e => absurd (e ▸ hp.1 k' hk') (Bytes.cmp_lt_irrefl _)⟩
    · unfold LoopInv
      rw [g2, g6]
      rcases flush_builderLast st with h | h
      · rw [h]
        rcases hle with e | hlt
        · exact e ▸ hinv
        · exact Or.inr (keyLe_trans_lt hinv hlt)
      · rw [h]; exact hle

def pendingE (st : St) : List DictEntry :=
  if st.roaring.length = 0 then []
  else [{ term := st.prevTerm.bytes, entries := st.entries, bitmap := st.roaring,
          oneHit := use1Hit st, card := st.card, chunkSize := st.chunkSize }]

theorem flush_out (st : St) : (flush st).out = st.out ++ pendingE st := by
  unfold flush clearSt pendingE
  split <;> simp

/-- the dictionary entry of term `k` (none if no posting survives) -/
def groupCore (cfg : Cfg) (active : List Active) (k : Bytes) : List DictEntry :=
  let c := groupCur cfg active k
  if c.roaring.length = 0 then []
  else [{ term := k, entries := c.entries, bitmap := c.roaring, oneHit := use1HitC c,
          card := termCard active k, chunkSize := chunkOf cfg (termCard active k) }]

theorem pending_group (cfg : Cfg) (active : List Active) (k : Bytes) (st : St)
    (hne : segsOf active k ≠ []) :
    pendingE (groupSt cfg active k st) = groupCore cfg active k := by
  obtain ⟨h1, h2, _, _, _, _, h7, h8⟩ := groupSt_spec cfg active k st hne
  unfold pendingE groupCore
  have r : (groupSt cfg active k st).roaring = (groupCur cfg active k).roaring :=
    congrArg Cur.roaring h1
  have e : (groupSt cfg active k st).entries = (groupCur cfg active k).entries :=
    congrArg Cur.entries h1
  simp only [r, h2, e, use1Hit_cur, h1, h7, h8]

theorem groups_spec (cfg : Cfg) (active : List Active) : ∀ (ks : List Bytes) (st : St),
    (∀ k ∈ ks, segsOf active k ≠ []) →
    (flush (ks.foldl (fun st k => groupSt cfg active k st) st)).out =
      st.out ++ pendingE st ++ ks.flatMap (groupCore cfg active) ∧
    (ks.foldl (fun st k => groupSt cfg active k st) st).docTracking =
      bmAddAll (ks.flatMap (fun k => (allItems (segsOf active k)).map (fun np => u32 np.1)))
        st.docTracking ∧
    (ks.foldl (fun st k => groupSt cfg active k st) st).fieldFreq =
      st.fieldFreq +
        (ks.map (fun k => ((allItems (segsOf active k)).map (fun np => np.2.freq)).sum)).sum := by
  intro ks
  induction ks with
  | nil => intro st _; simp [flush_out, bmAddAll]
  | cons k ks ih =>
    intro st hne
    obtain ⟨_, _, h3, h4, h5, _⟩ := groupSt_spec cfg active k st (hne k (by simp))
    obtain ⟨i0, i1, i2⟩ := ih (groupSt cfg active k st) (fun k' hk' => hne k' (by simp [hk']))
    simp only [List.foldl_cons, List.flatMap_cons, List.map_cons, List.sum_cons]
    rw [i0, i1, i2, h3, h4, h5, flush_out, pending_group cfg active k st (hne k (by simp)),
      bmAddAll_append]
    exact ⟨by simp [List.append_assoc], rfl, Nat.add_assoc _ _ _⟩

/-- the terms of the merged dictionary before empty ones are dropped: ascending union -/
def mergedTerms (active : List Active) : List Bytes :=
  sortDedup (active.flatMap (fun s => s.dict.map (·.1)))

theorem allKeys_fstLists (active : List Active) : allKeys (fstLists active) = mergedTerms active := by
  unfold allKeys mergedTerms fstLists
  congr 1
  induction active with
  | nil => rfl
  | cons s r ih =>
    simp only [List.map_cons, List.flatMap_cons, ih, fstEntries_keys]

/-- the result of the merge loop of one field in closed form: per term of `mergedTerms` the entry
    `groupCore`, the documents and the frequencies of all postings written -/
def mergedResult (cfg : Cfg) (active : List Active) : FieldResult :=
  { dict := (mergedTerms active).flatMap (groupCore cfg active),
    fieldDocs := (bmAddAll ((mergedTerms active).flatMap (fun k =>
      (allItems (segsOf active k)).map (fun np => u32 np.1))) []).length,
    fieldFreq := ((mergedTerms active).map (fun k =>
      ((allItems (segsOf active k)).map (fun np => np.2.freq)).sum)).sum }

/-- on well-formed input `mergeField` does not fail - no index panic, no "see hit with dropped
    docNum", no bad offset, no chunk-size error or division by zero, no `ErrOutOfOrder`, fuel not
    exhausted - and its result is `mergedResult` -/
theorem mergeField_closed (cfg : Cfg) (hfix : cfg.sumFreqFix = true) (segs : List SegIn)
    (hwf : WFActive cfg (setupActive segs)) :
    mergeField cfg segs = .ok (mergedResult cfg (setupActive segs)) := by
  have hit := wfIters_of_wf hwf
  have hmap : (setupActive segs).map (fun s => VIter.fresh (fstEntries s.dict)) =
      (fstLists (setupActive segs)).map VIter.fresh := by
    simp [fstLists, List.map_map, Function.comp_def]
  have hks := fun k hk => holders_ne_nil hit.asc k hk
  obtain ⟨hfold, hinv⟩ := foldBody_groups cfg hfix hwf (allKeys (fstLists (setupActive segs))) {}
    (asc_sortDedup _) hks (fun k _ => ⟨keyLe_nil k, fun _ => rfl⟩) (Or.inl rfl)
  obtain ⟨hout, hd, hf⟩ := groups_spec cfg (setupActive segs) _ {}
    (fun k hk => segsOf_ne_nil _ k (hks k hk))
  obtain ⟨_, _, _, f4, f5⟩ := flush_fields ((allKeys (fstLists (setupActive segs))).foldl
    (fun st k => groupSt cfg (setupActive segs) k st) {})
  unfold mergeField
  simp only [hmap]
  have hrun := run_spec (body cfg (setupActive segs)) hit 0 {}
  rw [Nat.zero_add, expectedFull, hfold] at hrun
  rcases hnew : Enum.new ((fstLists (setupActive segs)).map VIter.fresh) with ⟨e, done⟩
  rw [hnew] at hrun
  simp only [] at hrun ⊢
  rw [hrun]
  simp only []
  rw [finishTerm_ok _ (finishOK_of_inv hinv)]
  simp only [hout, f4, hd, f5, hf, mergedResult, ← allKeys_fstLists]
  simp [pendingE]

end Ice.Model.MergeLoop
