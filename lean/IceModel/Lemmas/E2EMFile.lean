import IceModel.Lemmas.E2EMValid
import IceModel.Lemmas.E2EMRead
/-
  END-TO-END, second generation on the level of FILES: what the merge models read of a segment
  that was written from a valid description `L` laying out `S` and loaded back -

    * the stored part:   `⟨ld.fieldsInv, ld.storedSeg⟩` is the `Src` of the input `MIn.ofLSeg S d L`
                         (`loaded_src`), for the bytes that follow the stored section in the file;
    * the doc values:    the segment's data and `fieldDvReaders[fieldsMap[f]-1]` form a `DvSpec`
                         that is OK and reads the column of `MIn.ofLSeg S d L` (`loaded_dvFile`);
    * the dictionaries:  `dictKeys (dictionaryOf …) = Spec.terms S f` is part of `ReadsAsM`; the
                         merge-loop model takes the dictionary as `absDict S f`.
-/
namespace Ice.Props.E2EM
open Ice Ice.Spec Ice.Model Ice.Model.Format
open Ice.Model.MergeRest (Src DvSpec DvSeg dvReaderOf setupFocus dvField buildMergedDocVals)
open Ice.Model.DocValues (encVals)
open Ice.Model.Writer (Footer)
open Ice.Props.E2E

/-- the doc-value reader of field `f` in the file of input `i`, as `buildMergedDocVals` finds it:
    a reader on a column written by the doc-value writer (any mode, anywhere in the file) from
    `i.dvCol f`, or no reader -/
structure DvFileOK (K : Codecs) (f : Bytes) (i : MIn) (sp : Ice.Model.MergeRest.DvSpec) : Prop where
  ok : sp.OK K.dv dvChunk
  col : sp.col = (i.dvCol f).map DocValues.encVals
  docs : ∀ vals, sp.col = some vals → sp.maxDocNum < i.abs.docs.length

section
variable {K : Codecs} {S : AbsSeg} {L : LSeg} (hV : C04.Valid K L) (hL : Lays S L)
  {data : Bytes} {ft : Footer} (hs : serialize K L = .ok (data, ft)) (mem : Bool)
  {ld : Loaded} (hl : load mem (fileOf K data ft) = .ok ld)

include hV hL hs hl in
/-- what `mergeStoredAndRemap` reads of the loaded segment is the `Src` of the merge input -/
theorem loaded_src (drops : List Nat) :
    ∃ tail, ({ fields := ld.fieldsInv, seg := ld.storedSeg } : Src) =
      ((MIn.ofLSeg S drops L).sIn tail).src K.stored docBlock := by
  obtain ⟨ld', tail, hl', _, hseg, _, _⟩ := C04.C04_stored K L hV data ft hs mem
  cases hl'.symm.trans hl
  refine ⟨tail, ?_⟩
  unfold C02Stored.Input.src MIn.sIn MIn.ofLSeg
  simp only
  rw [(lays_fields hV hL hs mem hl).1, hseg, lays_fields_length hL]

include hL in
/-- the non-progressive writer skips empty entries; a builder's column has none -/
theorem fed_encVals {fd : FieldDesc} (hfd : fd ∈ L.fields) {vals : List (Nat × List Bytes)}
    (hfdv : fd.dv = some vals) : C07.fed (dvMode L.merger) vals = encVals vals := by
  unfold dvMode
  cases hm : L.merger with
  | true => rfl
  | false =>
    simp only [Bool.false_eq_true, if_false, C07.fed]
    rw [List.filter_eq_self]
    intro p hp
    unfold encVals at hp
    obtain ⟨q, hq, rfl⟩ := List.mem_map.1 hp
    cases hts : q.2 with
    | nil => exact absurd hts (hL.dvNonempty hm fd hfd vals hfdv q hq)
    | cons t r =>
      simp only [DocValues.docBytes, List.flatMap_cons, List.length_append,
        List.length_cons, decide_eq_true_eq]
      omega

include hV hL hs hl in
/-- what `buildMergedDocVals` reads of the loaded segment for field `f` - its data and
    `fieldDvReaders[fieldsMap[f]-1]` - is a reader on the column of the merge input (or none) -/
theorem loaded_dvFile (drops : List Nat) (f : Bytes) :
    ∃ sp : DvSpec, sp.seg.data = ld.data ∧
      sp.seg.reader = dvReaderOf ld.fieldsInv ld.dvReaders f ∧
      DvFileOK K f (MIn.ofLSeg S drops L) sp := by
  have hfi := (lays_fields hV hL hs mem hl).1
  obtain ⟨hdata, hR⟩ := loaded_reads hV hs mem hl
  -- without column: no reader
  have hnone : (MIn.ofLSeg S drops L).dvCol f = none →
      dvReaderOf ld.fieldsInv ld.dvReaders f = none →
      ∃ sp : DvSpec, sp.seg.data = ld.data ∧
        sp.seg.reader = dvReaderOf ld.fieldsInv ld.dvReaders f ∧
        DvFileOK K f (MIn.ofLSeg S drops L) sp := fun hcol hr =>
    ⟨{ seg := { data := ld.data, reader := none }, cs := dvChunk, maxDocNum := 0, pre := [],
       suf := [], col := none }, rfl, hr.symm, rfl, by rw [hcol]; rfl, nofun⟩
  rcases ofLSeg_dvCol hL drops f with ⟨_, hi, hcol⟩ | ⟨i, fd, hi, hf, hfd, hcol⟩
  · exact hnone hcol (by unfold dvReaderOf; rw [hfi, hi])
  · have hreader : dvReaderOf ld.fieldsInv ld.dvReaders f = (ld.dvReaders[i]?).join := by
      unfold dvReaderOf; rw [hfi, hi]
    have hmem := List.mem_of_getElem? hfd
    by_cases hnd : 0 < L.numDocs
    · obtain ⟨r, hr, hrn, hrs'⟩ := hR.dv hnd i fd hfd
      cases hfdv : fd.dv with
      | none => exact hnone (hcol.trans hfdv) (by rw [hreader, hr, hrn hfdv]; rfl)
      | some vals =>
        obtain ⟨r0, s, e, rfl, hP, hload⟩ := hrs' vals hfdv
        obtain ⟨pre, suf, hlay, ⟨r0', hload', -, -, hinv⟩, -⟩ := hP.spec
        cases hload.symm.trans hload'
        -- the column the reader reads is the encoded column of the description
        rw [fed_encVals hL hmem hfdv] at hlay hinv
        refine ⟨{ seg := { data := ld.data, reader := some r0 }, cs := dvChunk
                  maxDocNum := L.numDocs - 1, pre := pre, suf := suf, col := some (encVals vals) },
          rfl, ?_, ⟨rfl, C07.validVals_encVals hP.valid, hlay, r0, rfl, hinv.1, hinv.2.1⟩, ?_, ?_⟩
        · show some r0 = _
          rw [hreader, hr]; rfl
        · show some (encVals vals) = _
          rw [hcol, hfdv]; rfl
        · intro vals' _
          show L.numDocs - 1 < S.docs.length
          exact hL.numDocs ▸ Nat.sub_lt hnd Nat.one_pos
    · have h0 : L.numDocs = 0 := Nat.eq_zero_of_not_pos hnd
      refine hnone (hcol.trans (hL.empty h0 fd hmem).1) ?_
      rw [hreader]
      cases hri : ld.dvReaders[i]? with
      | none => rfl
      | some r => rw [hR.dv_zero h0 r (List.mem_of_getElem? hri)]; rfl

end

section
variable {K : Codecs} {S : AbsSeg} {L : LSeg} (h : SegOK K S L)
include h

theorem SegOK.readsAs {data : Bytes} {ft : Footer} (hs : serialize K L = .ok (data, ft)) (mem : Bool)
    {ld : Loaded} (hl : load mem (fileOf K data ft) = .ok ld) : ReadsAsM K S ld :=
  lays_read h.valid h.lays hs mem hl (h.abs.rd _)

theorem SegOK.written_read (mem : Bool) :
    ∃ data ft ld, serialize K L = .ok (data, ft) ∧ load mem (fileOf K data ft) = .ok ld ∧
      ld.data.mem = mem ∧ ReadsAsM K S ld :=
  lays_written_read h.valid h.lays mem (h.abs.rd _)

end

/-- `setupFocus`: the document-number maps depend on the flags only, the segments kept are the
    ones in focus -/
theorem setupFocus_canon {α β : Type} (p : α → Bool) (nums : List β) :
    ∀ (l : List α) (k : Nat),
    setupFocus p nums (l.zipIdx k) =
      (setupFocus (fun b : Bool => b) nums ((l.map p).zipIdx k) >>= fun r =>
        Res.ok (r.1, l.filter p))
  | [], _ => rfl
  | a :: r, k => by
    simp only [List.zipIdx_cons, List.map_cons, setupFocus, List.filter_cons]
    cases p a with
    | false => exact setupFocus_canon p nums r (k + 1)
    | true =>
      simp only [if_true]
      cases nums[k]? with
      | none => rfl
      | some m =>
        simp only
        rw [setupFocus_canon p nums r (k + 1)]
        cases setupFocus (fun b : Bool => b) nums ((List.map p r).zipIdx (k + 1)) <;> rfl

theorem filter_map_congr {α β γ : Type} {p₁ : α → Bool} {q₁ : α → γ} {p₂ : β → Bool} {q₂ : β → γ} :
    ∀ (l₁ : List α) (l₂ : List β), l₁.map p₁ = l₂.map p₂ → l₁.map q₁ = l₂.map q₂ →
      (l₁.filter p₁).map q₁ = (l₂.filter p₂).map q₂
  | [], [], _, _ => rfl
  | a :: r, b :: s, hp, hq => by
    simp only [List.map_cons, List.cons.injEq] at hp hq
    rw [List.filter_cons, List.filter_cons, hp.1]
    cases p₂ b with
    | false => exact filter_map_congr r s hp.2 hq.2
    | true => simp only [if_true, List.map_cons, hq.1, filter_map_congr r s hp.2 hq.2]
  | [], _ :: _, hp, _ => nomatch hp
  | _ :: _, [], hp, _ => nomatch hp

theorem dvField_congr {α β : Type} (z : DocValues.Codec) (cs n count : Nat)
    (l₁ : List α) (p₁ : α → Bool) (q₁ : α → DvSeg) (l₂ : List β) (p₂ : β → Bool) (q₂ : β → DvSeg)
    (nums : List (List Nat)) (hp : l₁.map p₁ = l₂.map p₂) (hq : l₁.map q₁ = l₂.map q₂) :
    dvField z cs n count l₁ p₁ q₁ nums = dvField z cs n count l₂ p₂ q₂ nums := by
  unfold dvField
  rw [setupFocus_canon p₁ nums l₁ 0, setupFocus_canon p₂ nums l₂ 0, hp]
  cases setupFocus (fun b : Bool => b) nums ((List.map p₂ l₂).zipIdx 0) with
  | ok r =>
    show buildMergedDocVals z cs n count ((l₁.filter p₁).map q₁) r.1 =
      buildMergedDocVals z cs n count ((l₂.filter p₂).map q₂) r.1
    rw [filter_map_congr l₁ l₂ hp hq]
  | err => rfl
  | panic => rfl

end Ice.Props.E2EM
