import IceModel.Lemmas.Search
import IceModel.Lemmas.Varint
import IceModel.Lemmas.Writer
import IceModel.Lemmas.Ends
/-
  The doc-value column of one field (property C07), from the document's bytes to the reader's cache.
  A document's terms joined by the separator, and cut again (`splitSep_docBytes`).  The section in
  closed form: `sectionOf (chunksOf …)`, chunk `c` being `chunkBytes`; `ValidVals` is what is asked
  of the input.  Writer: in both modes the coder after the documents `done` is `after … done`
  (`addAll_after`), and `Close` leaves the closed form (`after_flush`).  Reader: `At` / `Layout` say
  where the section lies in a file; the offset and header loops give back what was written there
  (`Layout.load`, `Layout.loadDvChunk_written`); the binary search finds a document's byte range in
  its chunk (`getDocValueLocs_hdrExt`); `Inv` is what the one-chunk cache satisfies between two
  visits (`visitAll_spec`), from opening on (`reader_opens`).
-/
namespace Ice.Model.DocValues
open Ice Ice.Model Ice.Model.Writer

@[simp] theorem ok_bind {α β : Type} (a : α) (f : α → Res β) : (Res.ok a >>= f) = f a := rfl
@[simp] theorem err_bind {α β : Type} (f : α → Res β) : ((Res.err : Res α) >>= f) = .err := rfl
@[simp] theorem panic_bind {α β : Type} (f : α → Res β) : ((Res.panic : Res α) >>= f) = .panic := rfl
@[simp] theorem pure_eq {α : Type} (a : α) : (pure a : Res α) = .ok a := rfl

theorem bind_eq_ok {α β : Type} {x : Res α} {f : α → Res β} {b : β} (h : (x >>= f) = .ok b) :
    ∃ a, x = .ok a ∧ f a = .ok b := by
  cases x with
  | ok a => exact ⟨a, rfl, h⟩
  | err => simp at h
  | panic => simp at h

theorem add64_small {a b : Nat} (h : a + b < 2 ^ 64) : add64 a b = a + b :=
  Nat.mod_eq_of_lt h

theorem sub64_small {a b : Nat} (ha : a < 2 ^ 64) (h : b ≤ a) : sub64 a b = a - b := by
  rw [sub64, Nat.mod_eq_of_lt (show b < two64 from Nat.lt_of_le_of_lt h ha), Nat.sub_add_comm h,
    Nat.add_mod_right, Nat.mod_eq_of_lt (show a - b < two64 from Nat.lt_of_le_of_lt (Nat.sub_le _ _) ha)]

theorem sub64_add_right {a b : Nat} (h : a + b < 2 ^ 64) : sub64 (a + b) b = a := by
  rw [sub64_small h (Nat.le_add_left _ _), Nat.add_sub_cancel]

theorem sub64_add_left {a b : Nat} (h : a + b < 2 ^ 64) : sub64 (a + b) a = b := by
  rw [sub64_small h (Nat.le_add_right _ _), Nat.add_sub_cancel_left]

/-- the reader's `+= diff` undoes the writer's `- diff` on uint64 -/
theorem add64_sub64 {a b : Nat} (ha : a < 2 ^ 64) : add64 (sub64 a b) b = a := by
  unfold add64 sub64 two64; omega

theorem sub64_lt (a b : Nat) : sub64 a b < 2 ^ 64 := by
  unfold sub64 two64; omega

theorem u64OfInt_nat (n : Nat) (h : n < 2 ^ 64) : u64OfInt (n : Int) = n := by
  rw [u64OfInt, Int.emod_eq_of_lt (Int.natCast_nonneg n) (by omega), Int.toNat_natCast]

theorem i64_of_lt {x : Nat} (h : x < 2 ^ 63) : i64 x = (x : Int) := by
  rw [i64, Nat.mod_eq_of_lt (show x < two64 by unfold two64; omega), if_pos h]

theorem wrap64_of_lt {n : Nat} (h : n < 2 ^ 63) : wrap64 (n : Int) = n := by
  rw [show wrap64 (n : Int) = i64 (u64OfInt n) from rfl, u64OfInt_nat n (by omega), i64_of_lt h]

namespace Data

theorem read_ok (d : Data) (s e : Nat) (hse : s ≤ e) (he : e ≤ d.bytes.length)
    (hlen : d.bytes.length < 2 ^ 63) :
    d.read s e = .ok ((d.bytes.drop s).take (e - s)) := by
  unfold Data.read
  simp only [i64_of_lt (show s < 2 ^ 63 by omega), i64_of_lt (show e < 2 ^ 63 by omega),
    ← Int.ofNat_sub hse, wrap64_of_lt (show e - s < 2 ^ 63 by omega), Int.toNat_natCast]
  cases d.mem with
  | true => simp only [if_true, Int.natCast_nonneg, Int.ofNat_le, hse, he, and_self]
  | false =>
    have h1 : ¬ ((e - s : Nat) : Int) < 0 := by omega
    have h2 : ¬ (s : Int) < 0 := by omega
    have h3 : ¬ (s : Int) + (e - s : Nat) > d.bytes.length := by omega
    simp only [Bool.false_eq_true, if_false, h1, h2, h3, Int.natCast_eq_zero]
    split
    · rename_i h0; rw [h0, List.take_zero]
    · rfl

end Data

theorem uvarintGoAux_of_uvarintAux (buf : Bytes) : ∀ (x s i v n : Nat),
    uvarintAux buf x s i = some (v, n) → uvarintGoAux buf x s i = (v, (n : Int)) := by
  induction buf with
  | nil => intro x s i v n h; simp [uvarintAux] at h
  | cons b rest ih =>
    intro x s i v n h
    rw [uvarintAux] at h
    rw [uvarintGoAux]
    split at h
    · cases h
    · rename_i hi
      rw [if_neg hi]
      split at h
      · split at h
        · cases h
        · rename_i hb hg
          cases h
          rw [if_pos hb, if_neg hg]; rfl
      · rename_i hb
        rw [if_neg hb]
        exact ih _ _ _ _ _ h

theorem uvarintGo_of_uvarint (buf : Bytes) (v n : Nat) (h : uvarint buf = some (v, n)) :
    uvarintGo buf = (v, (n : Int)) :=
  uvarintGoAux_of_uvarintAux buf 0 0 0 v n h

theorem be_length (k x : Nat) : (be k x).length = k :=
  length_be k x

theorem unbe_be8 (x : Nat) (h : x < 2 ^ 64) : unbe (be 8 x) = x :=
  unbe_be' 8 x h

/-- no term contains the separator byte -/
def NoSep (terms : List Bytes) : Prop := ∀ t ∈ terms, (255 : Nat) ∉ t

theorem splitSep_term (t : Bytes) (h : (255 : Nat) ∉ t) (rest cur : Bytes) :
    splitSep (t ++ 255 :: rest) cur = (cur ++ t) :: splitSep rest [] := by
  induction t generalizing cur with
  | nil => simp [splitSep]
  | cons b t ih =>
    have hb : b ≠ 255 := by intro hb; apply h; simp [hb]
    have ht : (255 : Nat) ∉ t := by intro ht; apply h; simp [ht]
    simp only [List.cons_append, splitSep, hb, if_false]
    rw [ih ht]
    simp

theorem splitSep_docBytes_append (terms : List Bytes) (h : NoSep terms) (rest : Bytes) :
    splitSep (docBytes terms ++ rest) [] = terms ++ splitSep rest [] := by
  induction terms with
  | nil => simp [docBytes]
  | cons t ts ih =>
    have ht : (255 : Nat) ∉ t := h t (by simp)
    have hts : NoSep ts := fun u hu => h u (by simp [hu])
    have : docBytes (t :: ts) ++ rest = t ++ 255 :: (docBytes ts ++ rest) := by
      simp [docBytes]
    rw [this, splitSep_term t ht, ih hts]
    simp

theorem splitSep_docBytes (terms : List Bytes) (h : NoSep terms) :
    splitSep (docBytes terms) [] = terms := by
  simpa [splitSep] using splitSep_docBytes_append terms h []

theorem lookup_cons_self {α : Type} (d : Nat) (v : α) (g : List (Nat × α)) :
    lookup ((d, v) :: g) d = some v := by
  simp [lookup]

theorem lookup_cons_ne {α : Type} {k d : Nat} (h : k ≠ d) (v : α) (g : List (Nat × α)) :
    lookup ((k, v) :: g) d = lookup g d := by
  simp [lookup, h]

theorem lookup_eq_none {α : Type} {g : List (Nat × α)} {d : Nat} (h : ∀ q ∈ g, q.1 ≠ d) :
    lookup g d = none := by
  simp only [lookup, Option.map_eq_none_iff, List.find?_eq_none, beq_iff_eq]
  exact h

/-- what the column holds for `d`, as bytes -/
def bytesOf (vals : List (Nat × Bytes)) (d : Nat) : Bytes := (lookup vals d).getD []

theorem lookup_encVals (vals : List (Nat × List Bytes)) (d : Nat) :
    lookup (encVals vals) d = (lookup vals d).map docBytes := by
  induction vals with
  | nil => rfl
  | cons q vals ih =>
    obtain ⟨k, ts⟩ := q
    show lookup ((k, docBytes ts) :: encVals vals) d = _
    by_cases hk : k = d
    · subst hk; rw [lookup_cons_self, lookup_cons_self]; rfl
    · rw [lookup_cons_ne hk, lookup_cons_ne hk, ih]

theorem splitSep_bytesOf_encVals (vals : List (Nat × List Bytes)) (hsep : ∀ q ∈ vals, NoSep q.2)
    (d : Nat) : splitSep (bytesOf (encVals vals) d) [] = termsOf vals d := by
  unfold bytesOf termsOf
  rw [lookup_encVals]
  cases h : lookup vals d with
  | none => simp [splitSep]
  | some ts =>
    obtain ⟨q, hq, e⟩ := Option.map_eq_some_iff.mp h
    simp only [Option.map_some, Option.getD_some]
    exact splitSep_docBytes ts (e ▸ hsep q (List.mem_of_find?_eq_some hq))

/-- skipping the documents with an empty byte string (new.go:753) changes nothing -/
theorem bytesOf_filter_nonempty (bvals : List (Nat × Bytes))
    (hasc : bvals.Pairwise (fun a b => a.1 < b.1)) (d : Nat) :
    bytesOf (bvals.filter (fun p => p.2.length > 0)) d = bytesOf bvals d := by
  induction bvals with
  | nil => rfl
  | cons q bvals ih =>
    obtain ⟨k, v⟩ := q
    rw [List.pairwise_cons] at hasc
    have ih' := ih hasc.2
    unfold bytesOf at ih' ⊢
    rw [List.filter_cons]
    by_cases hk : k = d
    · subst hk
      rw [lookup_cons_self]
      split
      · rw [lookup_cons_self]
      · rename_i hv
        have hv0 : v = [] := List.eq_nil_of_length_eq_zero (by simpa using hv)
        rw [lookup_eq_none (fun q hq => Nat.ne_of_gt (hasc.1 q (List.mem_filter.mp hq).1)), hv0]
        rfl
    · rw [lookup_cons_ne hk]
      split
      · rw [lookup_cons_ne hk]; exact ih'
      · exact ih'

/-- the header of a chunk whose data starts at offset `off`: (docNum, end offset) -/
def hdrExt : Nat → List (Nat × Bytes) → List (Nat × Nat)
  | _, [] => []
  | off, (d, v) :: g => (d, off + v.length) :: hdrExt (off + v.length) g

/-- the uncompressed data of a chunk -/
def dataOf (g : List (Nat × Bytes)) : Bytes := g.flatMap (·.2)

/-- the documents of chunk `c` -/
def chunkVals (cs : Nat) (vals : List (Nat × Bytes)) (c : Nat) : List (Nat × Bytes) :=
  vals.filter (fun p => p.1 / cs == c)

/-- one flushed chunk: header, then the compressed data -/
def encChunk (z : Codec) (hdr : List (Nat × Nat)) (data : Bytes) : Bytes :=
  putUvarint hdr.length ++ encDeltas 0 0 hdr ++ z.Z data

/-- the bytes of chunk `c`: chunk 0 and every chunk holding a document is flushed, the others
    stay empty -/
def chunkBytes (z : Codec) (cs : Nat) (vals : List (Nat × Bytes)) (c : Nat) : Bytes :=
  if c = 0 ∨ chunkVals cs vals c ≠ [] then
    encChunk z (hdrExt 0 (chunkVals cs vals c)) (dataOf (chunkVals cs vals c))
  else []

def chunksOf (z : Codec) (cs n : Nat) (vals : List (Nat × Bytes)) : List Bytes :=
  (List.range n).map (chunkBytes z cs vals)

theorem chunksOf_length (z : Codec) (cs n : Nat) (vals : List (Nat × Bytes)) :
    (chunksOf z cs n vals).length = n := by simp [chunksOf]

theorem chunksOf_getElem? (z : Codec) (cs n : Nat) (vals : List (Nat × Bytes)) (c : Nat)
    (hc : c < n) : (chunksOf z cs n vals)[c]? = some (chunkBytes z cs vals c) := by
  simp [chunksOf, List.getElem?_map, List.getElem?_range hc]

/-- the field's doc-value section for the chunk byte strings `G` -/
def sectionOf (G : List Bytes) : Bytes :=
  G.flatten ++ (endOffsets 0 (G.map List.length)).flatMap putUvarint ++
    be 8 ((endOffsets 0 (G.map List.length)).flatMap putUvarint).length ++ be 8 G.length

theorem endOffsets_lt (acc : Nat) (L : List Nat) : ∀ x ∈ endOffsets acc L, x < 2 ^ 64 :=
  endOffsets_eq L acc ▸ ChunkBytes.endOffsets_lt L acc

theorem endOffsets_length (acc : Nat) (L : List Nat) : (endOffsets acc L).length = L.length :=
  endOffsets_eq L acc ▸ ChunkBytes.endOffsets_length L acc

/-- the chunk end offsets as written -/
def offsOf (G : List Bytes) : List Nat := endOffsets 0 (G.map List.length)
def offB (G : List Bytes) : Bytes := (offsOf G).flatMap putUvarint

theorem offsOf_length (G : List Bytes) : (offsOf G).length = G.length := by
  rw [offsOf, endOffsets_length, List.length_map]

theorem sectionOf_eq (G : List Bytes) :
    sectionOf G = G.flatten ++ (offB G ++ (be 8 (offB G).length ++ be 8 G.length)) := by
  simp [sectionOf, offB, offsOf]

theorem sectionOf_length (G : List Bytes) :
    (sectionOf G).length = G.flatten.length + (offB G).length + 16 := by
  rw [sectionOf_eq]; simp [be_length]; omega

theorem offB_pos (G : List Bytes) (h : G ≠ []) : 0 < (offB G).length := by
  cases G with
  | nil => exact absurd rfl h
  | cons a G =>
    have : 0 < (putUvarint (add64 0 a.length)).length :=
      List.length_pos_iff.mpr (putUvarint_ne_nil _)
    simp only [offB, offsOf, List.map_cons, endOffsets, List.flatMap_cons, List.length_append]
    omega

theorem dataOf_append (gA gB : List (Nat × Bytes)) : dataOf (gA ++ gB) = dataOf gA ++ dataOf gB := by
  simp [dataOf]

theorem dataOf_cons (d : Nat) (b : Bytes) (g : List (Nat × Bytes)) :
    dataOf ((d, b) :: g) = b ++ dataOf g := by
  simp [dataOf]

theorem dataOf_filter_length_le (bvals : List (Nat × Bytes)) (p : Nat × Bytes → Bool) :
    (dataOf (bvals.filter p)).length ≤ (dataOf bvals).length := by
  induction bvals with
  | nil => simp
  | cons q bvals ih =>
    obtain ⟨k, v⟩ := q
    rw [List.filter_cons]
    split
    · simp only [dataOf_cons, List.length_append]; omega
    · simp only [dataOf_cons, List.length_append]; omega

theorem length_dataOf_chunkVals_le (cs : Nat) (vals : List (Nat × Bytes)) (c : Nat) :
    (dataOf (chunkVals cs vals c)).length ≤ (dataOf vals).length :=
  dataOf_filter_length_le vals _

theorem hdrExt_append (gA gB : List (Nat × Bytes)) : ∀ off,
    hdrExt off (gA ++ gB) = hdrExt off gA ++ hdrExt (off + (dataOf gA).length) gB := by
  induction gA with
  | nil => intro off; simp [hdrExt, dataOf]
  | cons q gA ih =>
    intro off
    obtain ⟨d, v⟩ := q
    simp only [List.cons_append, hdrExt, ih, dataOf, List.flatMap_cons, List.length_append]
    rw [Nat.add_assoc]

theorem length_hdrExt (g : List (Nat × Bytes)) : ∀ off, (hdrExt off g).length = g.length := by
  induction g with
  | nil => intro _; rfl
  | cons q g ih => intro off; obtain ⟨d, v⟩ := q; simp [hdrExt, ih]

theorem mem_hdrExt (g : List (Nat × Bytes)) : ∀ off m, m ∈ hdrExt off g →
    (∃ q ∈ g, m.1 = q.1) ∧ m.2 ≤ off + (dataOf g).length := by
  induction g with
  | nil => intro off m hm; simp [hdrExt] at hm
  | cons q g ih =>
    intro off m hm
    obtain ⟨d, v⟩ := q
    simp only [hdrExt, List.mem_cons] at hm
    simp only [dataOf, List.flatMap_cons, List.length_append]
    rcases hm with h | h
    · subst h
      exact ⟨⟨(d, v), by simp, rfl⟩, by simp⟩
    · obtain ⟨⟨q, hq, e⟩, hle⟩ := ih _ m h
      refine ⟨⟨q, by simp [hq], e⟩, ?_⟩
      simp only [dataOf] at hle
      omega

theorem chunkVals_cons_same (cs : Nat) (d : Nat) (v : Bytes) (rest : List (Nat × Bytes)) :
    chunkVals cs ((d, v) :: rest) (d / cs) = (d, v) :: chunkVals cs rest (d / cs) := by
  simp [chunkVals]

theorem chunkVals_cons_other (cs : Nat) (d : Nat) (v : Bytes) (rest : List (Nat × Bytes)) (c : Nat)
    (h : d / cs ≠ c) : chunkVals cs ((d, v) :: rest) c = chunkVals cs rest c := by
  simp [chunkVals, h]

theorem chunkVals_eq_nil (cs : Nat) (vals : List (Nat × Bytes)) (c : Nat)
    (h : ∀ p ∈ vals, p.1 / cs ≠ c) : chunkVals cs vals c = [] := by
  unfold chunkVals
  rw [List.filter_eq_nil_iff]
  intro a ha
  simpa using h a ha

theorem chunkBytes_of_nil (z : Codec) {cs : Nat} {vals : List (Nat × Bytes)} {c : Nat} (h0 : c ≠ 0)
    (h : chunkVals cs vals c = []) : chunkBytes z cs vals c = [] := by
  rw [chunkBytes, if_neg (by simp [h0, h])]

theorem lookup_chunkVals (cs : Nat) (vals : List (Nat × Bytes)) (d : Nat) :
    lookup (chunkVals cs vals (d / cs)) d = lookup vals d := by
  induction vals with
  | nil => rfl
  | cons q vals ih =>
    obtain ⟨k, v⟩ := q
    by_cases hk : k = d
    · subst hk; rw [chunkVals_cons_same, lookup_cons_self, lookup_cons_self]
    · rw [lookup_cons_ne hk, ← ih]
      by_cases hc : k / cs = d / cs
      · rw [← hc, chunkVals_cons_same, lookup_cons_ne hk]
      · rw [chunkVals_cons_other cs k v vals _ hc]

/-- the input contract for one field (at the level of the byte strings handed to `Add`) -/
structure ValidVals (cs maxDocNum : Nat) (vals : List (Nat × Bytes)) : Prop where
  cs_pos : 0 < cs
  asc : vals.Pairwise (fun a b => a.1 < b.1)
  max : ∀ q ∈ vals, q.1 ≤ maxDocNum
  maxDoc : maxDocNum < 2 ^ 63 - 1
  raw : (dataOf vals).length < 2 ^ 64 - 1

theorem ValidVals.filter {cs maxDocNum : Nat} {bvals : List (Nat × Bytes)}
    (hv : ValidVals cs maxDocNum bvals) (p : Nat × Bytes → Bool) :
    ValidVals cs maxDocNum (bvals.filter p) :=
  ⟨hv.cs_pos, hv.asc.filter _, fun q hq => hv.max q (List.mem_filter.mp hq).1, hv.maxDoc,
   Nat.lt_of_le_of_lt (dataOf_filter_length_le bvals p) hv.raw⟩

theorem hdrExt_chunkVals_lt {cs maxDocNum : Nat} {vals : List (Nat × Bytes)}
    (hv : ValidVals cs maxDocNum vals) (c : Nat) :
    ∀ m ∈ hdrExt 0 (chunkVals cs vals c), m.1 < 2 ^ 64 ∧ m.2 < 2 ^ 64 := by
  intro m hm
  obtain ⟨⟨q, hq, e⟩, hle⟩ := mem_hdrExt _ 0 m hm
  have := hv.max q (List.mem_filter.mp hq).1
  have := hv.maxDoc
  have := hv.raw
  have := length_dataOf_chunkVals_le cs vals c
  exact ⟨by omega, by omega⟩

/-- the coder between two calls, in either mode: chunks `G` emitted (to `final` or to the writer),
    current chunk `k` with header `mt` and data `buf` -/
def st (p : Bool) (cs k : Nat) (G : List Bytes) (mb : Bytes) (mt : List (Nat × Nat))
    (buf : Bytes) : Coder :=
  { final := if p then [] else G.flatten, chunkSize := cs, currChunk := k,
    chunkLens := G.map List.length, progressive := p, chunkMetaBuf := mb, chunkBuf := buf,
    chunkMeta := mt, out := if p then G.flatten else [] }

/-- `flushContents` between two calls: the chunks `A` below the current one are emitted, the current
    one and those above it are still empty -/
theorem flush_st (z : Codec) (p : Bool) (cs k : Nat) (A : List Bytes) (m : Nat)
    (mt : List (Nat × Nat)) (buf : Bytes) (hA : A.length = k) :
    (st p cs k (A ++ List.replicate (m + 1) []) [] mt buf).flush z =
      .ok (st p cs k (A ++ encChunk z mt buf :: List.replicate m [])
            (putUvarint mt.length ++ encDeltas 0 0 mt) mt buf) := by
  subst hA
  cases p <;>
    simp [Coder.flush, st, encChunk, List.replicate_succ, Nat.add_comm, Nat.add_assoc]

theorem add_same (z : Codec) (p : Bool) (cs k : Nat) (G : List Bytes) (mt : List (Nat × Nat))
    (buf : Bytes) (d : Nat) (v : Bytes) (hcs : cs ≠ 0) (hd : d / cs = k) :
    (st p cs k G [] mt buf).add z d v =
      .ok (st p cs k G [] (mt ++ [(d, buf.length + v.length)]) (buf ++ v)) := by
  simp [Coder.add, st, hcs, hd]

theorem add_new (z : Codec) (p : Bool) (cs k : Nat) (A : List Bytes) (m : Nat)
    (mt : List (Nat × Nat)) (buf : Bytes) (d : Nat) (v : Bytes) (hcs : cs ≠ 0) (hd : d / cs ≠ k)
    (hA : A.length = k) :
    (st p cs k (A ++ List.replicate (m + 1) []) [] mt buf).add z d v =
      .ok (st p cs (d / cs) (A ++ encChunk z mt buf :: List.replicate m []) [] [(d, v.length)] v) := by
  have hf := flush_st z p cs k A m mt buf hA
  have h1 : (st p cs k (A ++ List.replicate (m + 1) []) [] mt buf).chunkSize = cs := rfl
  have h2 : (st p cs k (A ++ List.replicate (m + 1) []) [] mt buf).currChunk = k := rfl
  unfold Coder.add
  simp only [h1, h2, hcs, if_false, bne_iff_ne, ne_eq, hd, not_false_eq_true, if_true, hf]
  simp [st]

theorem write_st (p : Bool) (cs k : Nat) (G : List Bytes) (mb : Bytes) (mt : List (Nat × Nat))
    (buf : Bytes) : (st p cs k G mb mt buf).write.1.out = sectionOf G := by
  cases p <;> simp [Coder.write, st, sectionOf]

theorem out_st_nonprogressive (cs k : Nat) (G : List Bytes) (mb : Bytes) (mt : List (Nat × Nat))
    (buf : Bytes) : (st false cs k G mb mt buf).out = [] := rfl

/-- documents arrive in chunk order, in chunks below the number of chunks -/
def ChunkSorted (cs n : Nat) (l : List (Nat × Bytes)) : Prop :=
  l.Pairwise (fun a b => a.1 / cs ≤ b.1 / cs) ∧ ∀ p ∈ l, p.1 / cs < n

theorem ChunkSorted.left {cs n : Nat} {a b : List (Nat × Bytes)} (h : ChunkSorted cs n (a ++ b)) :
    ChunkSorted cs n a :=
  ⟨(List.pairwise_append.mp h.1).1, fun q hq => h.2 q (List.mem_append_left _ hq)⟩

theorem chunkSorted_of_ascending (cs maxDocNum : Nat) (vals : List (Nat × Bytes))
    (hasc : vals.Pairwise (fun a b => a.1 < b.1)) (hmax : ∀ p ∈ vals, p.1 ≤ maxDocNum) :
    ChunkSorted cs (maxDocNum / cs + 1) vals :=
  ⟨hasc.imp (fun h => Nat.div_le_div_right (Nat.le_of_lt h)),
    fun p hp => Nat.lt_succ_of_le (Nat.div_le_div_right (c := cs) (hmax p hp))⟩

/-- the chunk the coder stands in after the documents `done` -/
def curChunk (cs : Nat) (done : List (Nat × Bytes)) : Nat := (done.getLast?.map (·.1 / cs)).getD 0

theorem curChunk_concat (cs : Nat) (done : List (Nat × Bytes)) (q : Nat × Bytes) :
    curChunk cs (done ++ [q]) = q.1 / cs := by simp [curChunk]

theorem curChunk_spec {cs : Nat} {done : List (Nat × Bytes)}
    (h : done.Pairwise (fun a b => a.1 / cs ≤ b.1 / cs)) :
    (∀ q ∈ done, q.1 / cs ≤ curChunk cs done) ∧
    (curChunk cs done = 0 ∨ chunkVals cs done (curChunk cs done) ≠ []) ∧
    ∀ b, (∀ q ∈ done, q.1 / cs ≤ b) → curChunk cs done ≤ b := by
  rcases List.eq_nil_or_concat done with rfl | ⟨init, l, rfl⟩
  · exact ⟨nofun, .inl rfl, fun _ _ => Nat.zero_le _⟩
  · rw [List.concat_eq_append] at h ⊢
    rw [curChunk_concat]
    refine ⟨fun q hq => ?_, .inr ?_, fun b hb => hb l (by simp)⟩
    · rcases List.mem_append.mp hq with hq | hq
      · exact (List.pairwise_append.mp h).2.2 q hq l (by simp)
      · simp at hq; subst hq; exact Nat.le_refl _
    · simp [chunkVals]

/-- the chunk strings emitted when the coder stands in chunk `k`: the closed form below `k`, nothing
    from `k` on -/
def emitted (z : Codec) (cs n k : Nat) (done : List (Nat × Bytes)) : List Bytes :=
  (List.range k).map (chunkBytes z cs done) ++ List.replicate (n - k) []

/-- emitting the pending chunk `k` and moving on to a later chunk `k'`: the chunks between hold no
    document and stay empty -/
theorem emitted_set (z : Codec) {cs n k k' m : Nat} {done : List (Nat × Bytes)}
    (hk : ∀ q ∈ done, q.1 / cs ≤ k) (hk0 : k = 0 ∨ chunkVals cs done k ≠ []) (hlt : k < k')
    (hn : k' ≤ n) (hm : n - k = m + 1) :
    (List.range k).map (chunkBytes z cs done) ++
        encChunk z (hdrExt 0 (chunkVals cs done k)) (dataOf (chunkVals cs done k)) ::
          List.replicate m [] =
      emitted z cs n k' done := by
  obtain ⟨j, rfl⟩ : ∃ j, k' = k + 1 + j := ⟨k' - k - 1, by omega⟩
  have hj : ((List.range j).map fun x => k + 1 + x).map (chunkBytes z cs done) = List.replicate j [] :=
    List.eq_replicate_iff.mpr ⟨by simp, fun b hb => by
      obtain ⟨c, hc, rfl⟩ := List.mem_map.mp hb
      obtain ⟨x, -, rfl⟩ := List.mem_map.mp hc
      exact chunkBytes_of_nil z (by omega)
        (chunkVals_eq_nil cs done _ fun q hq => by have := hk q hq; omega)⟩
  rw [emitted, List.range_add, List.map_append, hj, List.range_succ, List.map_append, List.map_singleton,
    chunkBytes, if_pos hk0, List.append_assoc, List.append_assoc, List.singleton_append,
    List.replicate_append_replicate, show j + (n - (k + 1 + j)) = m by omega]

/-- The coder after `Add` of the documents `done`, for `n` chunks in all: the chunks below the
    current one are emitted in their closed form, the documents of the current one are pending. -/
def after (z : Codec) (p : Bool) (cs n : Nat) (done : List (Nat × Bytes)) : Coder :=
  st p cs (curChunk cs done) (emitted z cs n (curChunk cs done) done) []
    (hdrExt 0 (chunkVals cs done (curChunk cs done))) (dataOf (chunkVals cs done (curChunk cs done)))

theorem new_eq_after (z : Codec) (p : Bool) {cs maxDocNum : Nat} (hcs : cs ≠ 0)
    (hn : maxDocNum / cs + 1 < 2 ^ 64) :
    Coder.new cs maxDocNum p = .ok (after z p cs (maxDocNum / cs + 1) []) := by
  have : (maxDocNum / cs + 1) % two64 = maxDocNum / cs + 1 := Nat.mod_eq_of_lt hn
  cases p <;> simp [Coder.new, hcs, after, emitted, st, curChunk, chunkVals, hdrExt, dataOf, this]

theorem after_add (z : Codec) (p : Bool) {cs n : Nat} (hcs : cs ≠ 0) {done : List (Nat × Bytes)}
    {d : Nat} {v : Bytes} (h : ChunkSorted cs n (done ++ [(d, v)])) :
    (after z p cs n done).add z d v = .ok (after z p cs n (done ++ [(d, v)])) := by
  obtain ⟨hpw, hr⟩ := h
  obtain ⟨hpd, -, hle⟩ := List.pairwise_append.mp hpw
  obtain ⟨hk, hk0, hmin⟩ := curChunk_spec hpd
  have hdn : d / cs < n := hr (d, v) (by simp)
  have hkd : curChunk cs done ≤ d / cs := hmin _ fun q hq => hle q hq (d, v) (by simp)
  unfold after
  rw [curChunk_concat]
  generalize curChunk cs done = k at *
  -- the new document belongs to chunk `d / cs` and to no chunk below
  have hlast : chunkVals cs (done ++ [(d, v)]) (d / cs) = chunkVals cs done (d / cs) ++ [(d, v)] := by
    simp [chunkVals]
  have hG : emitted z cs n (d / cs) (done ++ [(d, v)]) = emitted z cs n (d / cs) done :=
    congrArg (· ++ _) (List.map_congr_left fun c hc => by
      have : chunkVals cs (done ++ [(d, v)]) c = chunkVals cs done c := by
        simp [chunkVals, Nat.ne_of_gt (List.mem_range.mp hc)]
      rw [chunkBytes, this, chunkBytes])
  rw [hlast, hdrExt_append, dataOf_append, hG]
  by_cases hsame : d / cs = k
  · subst hsame
    rw [add_same z p cs _ _ _ _ d v hcs rfl]
    simp [hdrExt, dataOf]
  · have hlt : k < d / cs := by omega
    obtain ⟨m, hm⟩ : ∃ m, n - k = m + 1 := ⟨n - k - 1, by omega⟩
    rw [emitted, hm, add_new z p cs k _ m _ _ d v hcs hsame (by simp),
      emitted_set z hk hk0 hlt (Nat.le_of_lt hdn) hm,
      chunkVals_eq_nil cs done _ fun q hq => by have := hk q hq; omega]
    simp [hdrExt, dataOf]

theorem addAll_after (z : Codec) (p : Bool) {cs n : Nat} (hcs : cs ≠ 0) (todo : List (Nat × Bytes)) :
    ∀ done, ChunkSorted cs n (done ++ todo) →
      addAll z (after z p cs n done) todo = .ok (after z p cs n (done ++ todo)) := by
  induction todo with
  | nil => intro done _; rw [List.append_nil]; rfl
  | cons q todo ih =>
    intro done h
    obtain ⟨d, v⟩ := q
    rw [List.append_cons] at h ⊢
    rw [addAll, after_add z p hcs h.left]
    exact ih _ h

theorem after_flush (z : Codec) (p : Bool) {cs n : Nat} {vals : List (Nat × Bytes)}
    (h : ChunkSorted cs n vals) (hn : 0 < n) :
    (after z p cs n vals).flush z =
      .ok (st p cs (curChunk cs vals) (chunksOf z cs n vals)
        (putUvarint (hdrExt 0 (chunkVals cs vals (curChunk cs vals))).length ++
          encDeltas 0 0 (hdrExt 0 (chunkVals cs vals (curChunk cs vals))))
        (hdrExt 0 (chunkVals cs vals (curChunk cs vals)))
        (dataOf (chunkVals cs vals (curChunk cs vals)))) := by
  obtain ⟨hk, hk0, hmin⟩ := curChunk_spec h.1
  have hkn : curChunk cs vals < n :=
    Nat.lt_of_le_pred hn (hmin _ fun q hq => Nat.le_pred_of_lt (h.2 q hq))
  obtain ⟨m, hm⟩ : ∃ m, n - curChunk cs vals = m + 1 := ⟨n - curChunk cs vals - 1, by omega⟩
  have hall : emitted z cs n n vals = chunksOf z cs n vals := by simp [emitted, chunksOf]
  rw [after, emitted, hm, flush_st z p cs _ _ m _ _ (by simp),
    emitted_set z hk hk0 hkn (Nat.le_refl n) hm, hall]

/-- the builder (new.go): non-progressive coder, documents with an empty byte string skipped,
    start offset taken after `Close` -/
theorem buildField_eq (z : Codec) (cs maxDocNum count : Nat) (hcs : 0 < cs)
    (hn : maxDocNum / cs + 1 < 2 ^ 64) (bvals : List (Nat × Bytes))
    (hasc : bvals.Pairwise (fun a b => a.1 < b.1)) (hmax : ∀ q ∈ bvals, q.1 ≤ maxDocNum) :
    buildField z cs maxDocNum count bvals =
      .ok (sectionOf (chunksOf z cs (maxDocNum / cs + 1) (bvals.filter (fun p => p.2.length > 0))),
           count,
           count + (sectionOf (chunksOf z cs (maxDocNum / cs + 1)
             (bvals.filter (fun p => p.2.length > 0)))).length) := by
  have hcs' : cs ≠ 0 := Nat.ne_of_gt hcs
  have hs := chunkSorted_of_ascending cs maxDocNum _ (hasc.filter (fun p => p.2.length > 0))
    (fun q hq => hmax q (List.mem_filter.mp hq).1)
  simp only [buildField, new_eq_after z false hcs' hn, ok_bind, addAll_after z false hcs' _ [] hs,
    List.nil_append, after_flush z false hs (Nat.succ_pos _), write_st, out_st_nonprogressive,
    List.length_nil, Nat.add_zero, pure_eq]

/-- the merger (merge.go): progressive coder, start offset taken before the first chunk -/
theorem mergeField_eq (z : Codec) (cs maxDocNum count : Nat) (hcs : 0 < cs)
    (hn : maxDocNum / cs + 1 < 2 ^ 64) (bvals : List (Nat × Bytes))
    (hasc : bvals.Pairwise (fun a b => a.1 < b.1)) (hmax : ∀ q ∈ bvals, q.1 ≤ maxDocNum) :
    mergeField z cs maxDocNum count bvals =
      .ok (sectionOf (chunksOf z cs (maxDocNum / cs + 1) bvals), count,
           count + (sectionOf (chunksOf z cs (maxDocNum / cs + 1) bvals)).length) := by
  have hcs' : cs ≠ 0 := Nat.ne_of_gt hcs
  have hs := chunkSorted_of_ascending cs maxDocNum bvals hasc hmax
  simp only [mergeField, new_eq_after z true hcs' hn, ok_bind, addAll_after z true hcs' _ [] hs,
    List.nil_append, after_flush z true hs (Nat.succ_pos _), write_st, pure_eq]


/-- the bytes `X` sit at offset `off`, followed by at least ten more bytes (every 10-byte window
    that starts inside `X` is inside the file) -/
def At (bs : Bytes) (off : Nat) (X : Bytes) : Prop :=
  ∃ rest, bs.drop off = X ++ rest ∧ 10 ≤ rest.length

namespace At

theorem length_le {bs : Bytes} {off : Nat} {X : Bytes} (h : At bs off X) :
    off + X.length + 10 ≤ bs.length := by
  obtain ⟨rest, hd, hr⟩ := h
  have := congrArg List.length hd
  simp only [List.length_drop, List.length_append] at this
  omega

theorem left {bs : Bytes} {off : Nat} {A B : Bytes} (h : At bs off (A ++ B)) : At bs off A := by
  obtain ⟨rest, hd, hr⟩ := h
  exact ⟨B ++ rest, by simpa using hd, by simp; omega⟩

theorem right {bs : Bytes} {off : Nat} {A B : Bytes} (h : At bs off (A ++ B)) :
    At bs (off + A.length) B := by
  obtain ⟨rest, hd, hr⟩ := h
  exact ⟨rest, drop_append_next (hd.trans (List.append_assoc ..)), hr⟩

theorem of_append {bs P X S : Bytes} (h : bs = P ++ X ++ S) (hS : 10 ≤ S.length) :
    At bs P.length X :=
  ⟨S, by rw [h, List.append_assoc, List.drop_left], hS⟩

theorem sub {bs b A X B : Bytes} {c : Nat} (h : At bs c b) (hb : b = A ++ X ++ B) :
    At bs (c + A.length) X :=
  (hb ▸ h).left.right

theorem end_le {bs X : Bytes} {off : Nat} (h : At bs off X) : off + X.length ≤ bs.length :=
  Nat.le_trans (Nat.le_add_right _ 10) h.length_le

theorem split {bs X : Bytes} {c : Nat} (h : At bs c X) :
    ∃ pre suf, bs = pre ++ X ++ suf ∧ pre.length = c ∧ 10 ≤ suf.length := by
  have hl := h.end_le
  obtain ⟨rest, hd, hr⟩ := h
  exact ⟨bs.take c, rest, by rw [List.append_assoc, ← hd, List.take_append_drop],
    List.length_take_of_le (Nat.le_trans (Nat.le_add_right _ _) hl), hr⟩

theorem read_exact {file : Data} {off : Nat} {X : Bytes} (h : At file.bytes off X)
    (hlen : file.bytes.length < 2 ^ 63) : file.read off (off + X.length) = .ok X := by
  have hl := h.length_le
  obtain ⟨rest, hd, _⟩ := h
  rw [Data.read_ok file off (off + X.length) (by omega) (by omega) hlen, hd, Nat.add_sub_cancel_left,
    List.take_left]

theorem read_window {file : Data} {off x : Nat} (h : At file.bytes off (putUvarint x))
    (hx : x < 2 ^ 64) (hlen : file.bytes.length < 2 ^ 63) :
    ∃ w, file.read off (add64 off 10) = .ok w ∧ uvarint w = some (x, (putUvarint x).length) := by
  have hl := h.length_le
  obtain ⟨rest, hd, _⟩ := h
  have ha : add64 off 10 = off + 10 := add64_small (by omega)
  refine ⟨(file.bytes.drop off).take 10, ?_, ?_⟩
  · rw [ha, Data.read_ok file off (off + 10) (by omega) (by omega) hlen]
    congr 2
    omega
  · rw [take_drop_append hd (putUvarint_length_le_ten x hx)]
    exact uvarint_put x _ hx

/-- the readers' step over one varint at `loc + o`: the 10-byte window decodes to it, under both
    result conventions, and the running offset advances by its length without wrap-around -/
theorem read_varint {file : Data} {loc o x : Nat} (h : At file.bytes (loc + o) (putUvarint x))
    (hx : x < 2 ^ 64) (hlen : file.bytes.length < 2 ^ 63) :
    ∃ w, file.read (add64 loc o) (add64 (add64 loc o) 10) = .ok w ∧
      uvarint w = some (x, (putUvarint x).length) ∧
      uvarintGo w = (x, ((putUvarint x).length : Int)) ∧
      add64 o (putUvarint x).length = o + (putUvarint x).length ∧
      add64 o (u64OfInt ((putUvarint x).length : Int)) = o + (putUvarint x).length := by
  have hl := h.length_le
  have hp := putUvarint_length_le_ten x hx
  obtain ⟨w, hw, hu⟩ := h.read_window hx hlen
  have ho : add64 o (putUvarint x).length = o + (putUvarint x).length := add64_small (by omega)
  rw [add64_small (show loc + o < 2 ^ 64 by omega)]
  exact ⟨w, hw, hu, uvarintGo_of_uvarint _ _ _ hu, ho, by rw [u64OfInt_nat _ (by omega), ho]⟩

end At

theorem readOffsets_spec (file : Data) (pos : Nat) (hlen : file.bytes.length < 2 ^ 63)
    (L : List Nat) : ∀ (o : Nat), (∀ x ∈ L, x < 2 ^ 64) →
    At file.bytes (pos + o) (L.flatMap putUvarint) →
    readOffsets file pos L.length o = .ok L := by
  induction L with
  | nil => intro o _ _; rfl
  | cons x L ih =>
    intro o hL h
    rw [List.flatMap_cons] at h
    obtain ⟨w, hw, hu, -, ho, -⟩ := h.left.read_varint (hL x (by simp)) hlen
    have hr := h.right
    rw [Nat.add_assoc] at hr
    simp only [List.length_cons, readOffsets, hw, ok_bind, hu, ho,
      ih _ (fun y hy => hL y (by simp [hy])) hr, pure_eq]

/-- the file holds `pre`, the section for the chunk strings `G`, and at least ten more bytes -/
structure Layout (file : Data) (pre : Bytes) (G : List Bytes) (suf : Bytes) : Prop where
  bytes : file.bytes = pre ++ sectionOf G ++ suf
  suf10 : 10 ≤ suf.length
  len : file.bytes.length < 2 ^ 63
  ne : G ≠ []

namespace Layout
variable {file : Data} {pre : Bytes} {G : List Bytes} {suf : Bytes}

theorem at_section (L : Layout file pre G suf) : At file.bytes pre.length (sectionOf G) :=
  .of_append L.bytes L.suf10

theorem at_data (L : Layout file pre G suf) : At file.bytes pre.length G.flatten := by
  have := L.at_section; rw [sectionOf_eq] at this; exact this.left

theorem data_lt (L : Layout file pre G suf) : G.flatten.length < 2 ^ 63 := by
  have := L.at_data.length_le; have := L.len; omega

theorem load (L : Layout file pre G suf) (hn : G.length < 2 ^ 63) :
    loadFieldDocValueReader file pre.length (pre.length + (sectionOf G).length) =
      .ok (some { curChunkNum := maxInt64, chunkOffsets := offsOf G, dvDataLoc := pre.length,
                  curChunkHeader := [], curChunkData := none, uncompressed := [] }) := by
  have hlen := L.len
  have hpos := offB_pos G L.ne
  -- the data, the offsets, their byte length, the number of chunks
  have hat := L.at_section
  rw [sectionOf_eq] at hat
  have hnum := hat.right.right.right
  rw [be_length] at hnum
  have hl := hnum.length_le
  rw [be_length] at hl
  have hend : pre.length + (sectionOf G).length =
      pre.length + G.flatten.length + (offB G).length + 8 + 8 := by
    rw [sectionOf_length]; omega
  have hs : pre.length ≠ maxUint64 := by unfold maxUint64; omega
  have hsub : sub64 (pre.length + (sectionOf G).length) pre.length > 16 := by
    rw [sub64_add_left (by omega), sectionOf_length]; omega
  -- the section's addresses are prefixes of this sum
  have h3 : pre.length + G.flatten.length + (offB G).length + 8 + 8 < 2 ^ 64 := by omega
  have h1 := Nat.lt_of_le_of_lt (Nat.le_add_right _ _) (Nat.lt_of_le_of_lt (Nat.le_add_right _ _) h3)
  have e16 : sub64 (pre.length + G.flatten.length + (offB G).length + 8 + 8) 16 =
      pre.length + G.flatten.length + (offB G).length := by
    rw [Nat.add_assoc _ 8 8] at h3 ⊢; exact sub64_add_right h3
  have r1 := hnum.read_exact hlen
  have r2 := hat.right.right.left.read_exact hlen
  rw [be_length] at r1 r2
  have hro := readOffsets_spec file (pre.length + G.flatten.length) hlen (offsOf G) 0
    (endOffsets_lt _ _) hat.right.left
  rw [offsOf_length] at hro
  have hn' : ¬ G.length ≥ 2 ^ 63 := by omega
  unfold loadFieldDocValueReader
  simp only [hs, if_false, hsub, if_true]
  rw [hend]
  simp only [sub64_add_right h3, e16, r1, ok_bind, r2,
    unbe_be8 _ (Nat.lt_of_le_of_lt (Nat.le_add_left _ _) h1),
    unbe_be8 _ (show G.length < 2 ^ 64 by omega), sub64_add_right h1, hn', if_false, hro, pure_eq]
end Layout

theorem loadField_shape {d : Data} {s e : Nat} {r : Reader}
    (h : loadFieldDocValueReader d s e = .ok (some r)) :
    r.curChunkNum = maxInt64 ∧ r.dvDataLoc = s ∧ r.curChunkHeader = [] ∧ r.curChunkData = none ∧
      r.uncompressed = [] := by
  unfold loadFieldDocValueReader at h
  split at h
  · cases h
  · split at h
    · obtain ⟨a, _, h⟩ := bind_eq_ok h
      obtain ⟨b, _, h⟩ := bind_eq_ok h
      split at h
      · cases h
      · obtain ⟨offs, _, h⟩ := bind_eq_ok h
        cases h
        exact ⟨rfl, rfl, rfl, rfl, rfl⟩
    · cases h

theorem length_encDeltas_ge (H : List (Nat × Nat)) : ∀ (dd doff : Nat),
    H.length ≤ (encDeltas dd doff H).length := by
  induction H with
  | nil => intro _ _; simp [encDeltas]
  | cons m H ih =>
    intro dd doff
    obtain ⟨d, e⟩ := m
    have := ih d e
    have h1 : 0 < (putUvarint (sub64 d dd)).length := List.length_pos_iff.mpr (putUvarint_ne_nil _)
    simp only [encDeltas, List.length_cons, List.length_append]
    omega

theorem readHeader_spec (file : Data) (metaLoc : Nat) (hlen : file.bytes.length < 2 ^ 63)
    (H : List (Nat × Nat)) : ∀ (o dd doff : Nat),
    (∀ m ∈ H, m.1 < 2 ^ 64 ∧ m.2 < 2 ^ 64) →
    At file.bytes (metaLoc + o) (encDeltas dd doff H) →
    readHeader file metaLoc H.length o dd doff = .ok (H, o + (encDeltas dd doff H).length) := by
  induction H with
  | nil => intro o dd doff _ _; simp [readHeader, encDeltas]
  | cons m H ih =>
    intro o dd doff hH h
    obtain ⟨d, e⟩ := m
    have hde := hH (d, e) (by simp)
    rw [encDeltas, List.append_assoc] at h
    obtain ⟨wa, hwa, -, hga, -, ea⟩ := h.left.read_varint (sub64_lt _ _) hlen
    have hb := h.right
    rw [Nat.add_assoc] at hb
    obtain ⟨wb, hwb, -, hgb, -, eb⟩ := hb.left.read_varint (sub64_lt _ _) hlen
    have hr := hb.right
    rw [Nat.add_assoc] at hr
    simp only [List.length_cons, readHeader, hwa, ok_bind, hga, ea, hwb, hgb, eb,
      ih _ d e (fun m hm => hH m (by simp [hm])) hr, add64_sub64 hde.1, add64_sub64 hde.2, pure_eq,
      encDeltas, List.length_append]
    simp only [Nat.add_assoc]

/-- start offset of chunk `c` inside the data area -/
def offAt (G : List Bytes) (c : Nat) : Nat := (G.take c).flatten.length

theorem offAt_succ (G : List Bytes) (c : Nat) (X : Bytes) (h : G[c]? = some X) :
    offAt G (c + 1) = offAt G c + X.length := by
  unfold offAt
  rw [List.take_add_one, h]
  simp

theorem offAt_le (G : List Bytes) (c : Nat) : offAt G c ≤ G.flatten.length := by
  unfold offAt
  have : G.flatten = (G.take c).flatten ++ (G.drop c).flatten := by
    rw [← List.flatten_append, List.take_append_drop]
  rw [this, List.length_append]; omega

theorem at_chunk {bs : Bytes} {off : Nat} {G : List Bytes} (h : At bs off G.flatten) (c : Nat)
    (X : Bytes) (hc : G[c]? = some X) : At bs (off + offAt G c) X := by
  obtain ⟨rest, hd, hr⟩ := h
  exact ⟨_, drop_append_flatten hd hc, by rw [List.length_append]; omega⟩

theorem readChunkBoundary_spec (G : List Bytes) (hG : G.flatten.length < 2 ^ 64) (c : Nat)
    (hc : c < G.length) :
    readChunkBoundary c (offsOf G) = .ok (offAt G c, offAt G (c + 1)) := by
  have hb := ends_boundary (G.map List.length) (i := c) (by rwa [List.length_map])
  rw [sum_take_map_length, sum_take_map_length] at hb
  rw [offsOf, endOffsets_eq, ChunkBytes.endOffsets_eq_ends _ 0
    (by rw [Nat.zero_add, ← List.length_flatten]; exact hG)]
  unfold readChunkBoundary idx
  cases c with
  | zero => simp [hb.2, offAt]
  | succ c =>
    have h1 : (ends 0 (G.map List.length))[c]? = some (G.take (c + 1)).flatten.length := hb.1
    simp [h1, hb.2, offAt]

/-- `loadDvChunk` when the offsets place a flushed chunk at `[s, e)` of the data area -/
theorem loadDvChunk_at {file : Data} (hlen : file.bytes.length < 2 ^ 63) (r : Reader)
    (c s : Nat) (z : Codec) (H : List (Nat × Nat)) (data : Bytes)
    (hb : readChunkBoundary c r.chunkOffsets = .ok (s, s + (encChunk z H data).length))
    (hat : At file.bytes (r.dvDataLoc + s) (encChunk z H data))
    (hH : ∀ m ∈ H, m.1 < 2 ^ 64 ∧ m.2 < 2 ^ 64) :
    r.loadDvChunk file c =
      .ok { r with curChunkHeader := H, curChunkData := some (z.Z data), curChunkNum := c,
                   uncompressed := [] } := by
  unfold encChunk at hb hat
  rw [List.append_assoc] at hat
  have hl := hat.length_le
  simp only [List.length_append] at hl hb
  have hA : 0 < (putUvarint H.length).length := List.length_pos_iff.mpr (putUvarint_ne_nil _)
  have hHl := length_encDeltas_ge H 0 0
  have hn' : ¬ H.length ≥ 2 ^ 63 := by omega
  have hnot : ¬ s ≥ s + ((putUvarint H.length).length + (encDeltas 0 0 H).length + (z.Z data).length) := by
    omega
  -- every address the loader forms is a prefix of this sum
  have h4 : r.dvDataLoc + s + (putUvarint H.length).length + (encDeltas 0 0 H).length +
      (z.Z data).length < 2 ^ 64 := by omega
  have h3 := Nat.lt_of_le_of_lt (Nat.le_add_right _ _) h4
  have h2 := Nat.lt_of_le_of_lt (Nat.le_add_right _ _) h3
  have h1 := Nat.lt_of_le_of_lt (Nat.le_add_right _ _) h2
  have hend : r.dvDataLoc +
      (s + ((putUvarint H.length).length + (encDeltas 0 0 H).length + (z.Z data).length)) =
      r.dvDataLoc + s + (putUvarint H.length).length + (encDeltas 0 0 H).length + (z.Z data).length := by
    simp only [Nat.add_assoc]
  obtain ⟨w, hw, hu⟩ := hat.left.read_window (show H.length < 2 ^ 64 by omega) hlen
  have hh := readHeader_spec file (r.dvDataLoc + s + (putUvarint H.length).length) hlen H 0 0 0 hH
    hat.right.left
  have hrd := hat.right.right.read_exact hlen
  unfold Reader.loadDvChunk
  simp only [hb, ok_bind, hnot, if_false, add64_small h1, hw, hu, add64_small h2, hn', hh, Nat.zero_add,
    add64_small h3, add64_small (hend.symm ▸ h4), hend, sub64_add_left h4, add64_small h4, hrd, pure_eq]

namespace Layout
variable {file : Data} {pre : Bytes} {G : List Bytes} {suf : Bytes}

theorem loadDvChunk_empty (L : Layout file pre G suf) (r : Reader)
    (hr : r.chunkOffsets = offsOf G) (c : Nat) (hc : G[c]? = some []) :
    r.loadDvChunk file c =
      .ok { r with curChunkHeader := [], curChunkData := none, curChunkNum := c,
                   uncompressed := [] } := by
  obtain ⟨hlt, _⟩ := List.getElem?_eq_some_iff.mp hc
  have hb := readChunkBoundary_spec G (by have := L.data_lt; omega) c hlt
  have hs := offAt_succ G c [] hc
  unfold Reader.loadDvChunk
  simp only [hr, hb, ok_bind, hs, List.length_nil, Nat.add_zero, ge_iff_le, Nat.le_refl, if_true,
    pure_eq]

theorem loadDvChunk_enc (L : Layout file pre G suf) (r : Reader)
    (hr : r.chunkOffsets = offsOf G) (hr2 : r.dvDataLoc = pre.length) (c : Nat) (z : Codec)
    (H : List (Nat × Nat)) (data : Bytes) (hc : G[c]? = some (encChunk z H data))
    (hH : ∀ m ∈ H, m.1 < 2 ^ 64 ∧ m.2 < 2 ^ 64) :
    r.loadDvChunk file c =
      .ok { r with curChunkHeader := H, curChunkData := some (z.Z data), curChunkNum := c,
                   uncompressed := [] } := by
  obtain ⟨hlt, _⟩ := List.getElem?_eq_some_iff.mp hc
  have hb := readChunkBoundary_spec G (by have := L.data_lt; omega) c hlt
  rw [offAt_succ G c _ hc, ← hr] at hb
  exact loadDvChunk_at L.len r c _ z H data hb (hr2 ▸ at_chunk L.at_data c _ hc) hH
end Layout

theorem Layout.loadDvChunk_written {z : Codec} {cs maxDocNum : Nat} {vals : List (Nat × Bytes)}
    (hv : ValidVals cs maxDocNum vals) {file : Data} {pre suf : Bytes}
    (L : Layout file pre (chunksOf z cs (maxDocNum / cs + 1) vals) suf) (r : Reader)
    (ho : r.chunkOffsets = offsOf (chunksOf z cs (maxDocNum / cs + 1) vals))
    (hloc : r.dvDataLoc = pre.length) (c : Nat) (hc : c < maxDocNum / cs + 1) :
    r.loadDvChunk file c =
      .ok { r with curChunkHeader := hdrExt 0 (chunkVals cs vals c),
                   curChunkData := if c = 0 ∨ chunkVals cs vals c ≠ [] then
                     some (z.Z (dataOf (chunkVals cs vals c))) else none,
                   curChunkNum := c, uncompressed := [] } := by
  have hG := chunksOf_getElem? z cs _ vals c hc
  unfold chunkBytes at hG
  by_cases hfl : c = 0 ∨ chunkVals cs vals c ≠ []
  · rw [if_pos hfl] at hG ⊢
    exact L.loadDvChunk_enc r ho hloc c z _ _ hG (hdrExt_chunkVals_lt hv c)
  · rw [if_neg hfl] at hG ⊢
    have hnil : chunkVals cs vals c = [] := Decidable.of_not_not (fun h => hfl (.inr h))
    rw [hnil]
    exact L.loadDvChunk_empty r ho c hG

theorem mid_bounds {i j : Nat} (h : i < j) : i ≤ (i + j) / 2 ∧ (i + j) / 2 < j := by omega

/-- the binary search only looks at `f` between its bounds -/
theorem searchAux_congr (f f' : Nat → Bool) : ∀ (fuel i j : Nat),
    (∀ m, i ≤ m → m < j → f m = f' m) → searchAux f fuel i j = searchAux f' fuel i j := by
  intro fuel
  induction fuel with
  | zero => intro i j _; rfl
  | succ fuel ih =>
    intro i j h
    unfold searchAux
    by_cases hij : i < j
    · obtain ⟨h1, h2⟩ := mid_bounds hij
      simp only [hij, if_true, h _ h1 h2]
      rw [ih ((i + j) / 2 + 1) j (fun m a b => h m (Nat.le_trans (Nat.le_succ_of_le h1) a) b),
        ih i ((i + j) / 2) (fun m a b => h m a (Nat.lt_trans b h2))]
    · simp only [hij, if_false]

theorem sortSearch_eq_findIdx (H : List (Nat × Nat)) (hs : H.Pairwise (fun a b => a.1 ≤ b.1))
    (d : Nat) :
    sortSearch H.length (hdrGe H d) = H.findIdx (fun m => decide (m.1 ≥ d)) := by
  apply sortSearch_spec
  · exact List.findIdx_le_length
  · intro m hm
    have hlt : m < H.length := Nat.lt_of_lt_of_le hm List.findIdx_le_length
    have := List.not_of_lt_findIdx hm
    unfold hdrGe
    rw [List.getElem?_eq_getElem hlt]
    exact this
  · intro m h1 h2
    have hk : H.findIdx (fun m => decide (m.1 ≥ d)) < H.length := Nat.lt_of_le_of_lt h1 h2
    have hp := List.findIdx_getElem (w := hk)
    unfold hdrGe
    rw [List.getElem?_eq_getElem h2]
    rcases Nat.eq_or_lt_of_le h1 with e | hlt
    · simp only [← e]; exact hp
    · have := (List.pairwise_iff_getElem.mp hs) _ m hk h2 hlt
      simp only [decide_eq_true_eq] at hp ⊢
      omega

theorem search_split (HA HB : List (Nat × Nat)) (d : Nat) (hA : ∀ m ∈ HA, m.1 < d)
    (hB : ∀ m ∈ HB, d ≤ m.1) :
    sortSearch (HA ++ HB).length (hdrGe (HA ++ HB) d) = HA.length := by
  apply sortSearch_spec
  · simp
  · intro m hm
    unfold hdrGe
    rw [List.getElem?_append_left hm, List.getElem?_eq_getElem hm]
    have := hA _ (List.getElem_mem hm)
    simp; omega
  · intro m h1 h2
    simp only [List.length_append] at h2
    have h3 : m - HA.length < HB.length := by omega
    unfold hdrGe
    rw [List.getElem?_append_right h1, List.getElem?_eq_getElem h3]
    have := hB _ (List.getElem_mem h3)
    simp; omega

theorem readDocValueBoundary_append (HA : List (Nat × Nat)) (m : Nat × Nat) (HB : List (Nat × Nat)) :
    readDocValueBoundary HA.length (HA ++ m :: HB) = .ok ((HA.getLast?.map (·.2)).getD 0, m.2) := by
  rcases List.eq_nil_or_concat HA with rfl | ⟨HA', p, rfl⟩ <;> simp [readDocValueBoundary]

theorem getDocValueLocs_split (HA HB : List (Nat × Nat)) (d : Nat) (hA : ∀ m ∈ HA, m.1 < d)
    (hB : ∀ m ∈ HB, d ≤ m.1) :
    getDocValueLocs (HA ++ HB) d =
      match HB with
      | m :: _ => if m.1 = d then .ok ((HA.getLast?.map (·.2)).getD 0, m.2)
                  else .ok (maxUint64, maxUint64)
      | [] => .ok (maxUint64, maxUint64) := by
  unfold getDocValueLocs
  rw [search_split HA HB d hA hB]
  cases HB with
  | nil => simp
  | cons m HB => simp [readDocValueBoundary_append]

/-- `getDocValueLocs` on the header of an ascending chunk `g`, by one pass over its documents:
    `HA` are the header entries passed so far (all below `d`, the last one ending at `off`).  It
    finds the byte range of `d`'s value inside the chunk's data, or answers with the no-value
    marker. -/
theorem getDocValueLocs_hdrExt (d : Nat) (g : List (Nat × Bytes))
    (hasc : g.Pairwise (fun a b => a.1 < b.1)) :
    ∀ (HA : List (Nat × Nat)) (off : Nat), (∀ m ∈ HA, m.1 < d) →
      (HA.getLast?.map (·.2)).getD 0 = off →
      match lookup g d with
      | none => getDocValueLocs (HA ++ hdrExt off g) d = .ok (maxUint64, maxUint64)
      | some b => ∃ A B, dataOf g = A ++ b ++ B ∧
          getDocValueLocs (HA ++ hdrExt off g) d =
            .ok (off + A.length, off + A.length + b.length) := by
  induction g with
  | nil =>
    intro HA off hA _
    exact getDocValueLocs_split HA [] d hA nofun
  | cons q g ih =>
    obtain ⟨k, v⟩ := q
    intro HA off hA hoff
    rw [List.pairwise_cons] at hasc
    have hB : d ≤ k → ∀ m ∈ hdrExt off ((k, v) :: g), d ≤ m.1 := fun hk m hm => by
      obtain ⟨⟨q, hq, e⟩, _⟩ := mem_hdrExt _ off m hm
      rcases List.mem_cons.mp hq with rfl | hq
      · exact e ▸ hk
      · exact e ▸ Nat.le_trans hk (Nat.le_of_lt (hasc.1 q hq))
    rcases Nat.lt_trichotomy k d with hk | rfl | hk
    · have := ih hasc.2 (HA ++ [(k, off + v.length)]) (off + v.length)
        (fun m hm => (List.mem_append.mp hm).elim (hA m) (fun h => by simp at h; exact h ▸ hk))
        (by simp)
      rw [List.append_assoc, List.singleton_append] at this
      rw [lookup_cons_ne (Nat.ne_of_lt hk), hdrExt]
      generalize lookup g d = o at this ⊢
      cases o with
      | none => exact this
      | some b =>
        obtain ⟨A, B, e, h⟩ := this
        exact ⟨v ++ A, B, by rw [dataOf_cons, e]; simp, by rw [h]; simp [Nat.add_assoc]⟩
    · rw [lookup_cons_self, getDocValueLocs_split HA _ k hA (hB (Nat.le_refl _))]
      exact ⟨[], dataOf g, by simp [dataOf_cons], by simp [hdrExt, hoff]⟩
    · rw [lookup_eq_none (fun q hq => by
          rcases List.mem_cons.mp hq with rfl | hq
          · exact Nat.ne_of_gt hk
          · exact Nat.ne_of_gt (Nat.lt_trans hk (hasc.1 q hq))),
        getDocValueLocs_split HA _ d hA (hB (Nat.le_of_lt hk))]
      simp [hdrExt, Nat.ne_of_gt hk]

/-- chunk `c` is loaded: the header is the one written, and if the chunk holds documents the
    compressed data is cached and the decompressed copy is either absent or the chunk's data -/
def ChunkLoaded (z : Codec) (cs : Nat) (vals : List (Nat × Bytes)) (r : Reader) (c : Nat) : Prop :=
  r.curChunkHeader = hdrExt 0 (chunkVals cs vals c) ∧
  (chunkVals cs vals c ≠ [] →
    r.curChunkData = some (z.Z (dataOf (chunkVals cs vals c))) ∧
    (r.uncompressed = [] ∨ r.uncompressed = dataOf (chunkVals cs vals c)))

theorem visitDocValues_spec (z : Codec) {cs maxDocNum : Nat} {vals : List (Nat × Bytes)}
    (hv : ValidVals cs maxDocNum vals) (r : Reader) (d : Nat)
    (hl : ChunkLoaded z cs vals r (d / cs)) :
    ∃ u, r.visitDocValues z d = .ok (splitSep (bytesOf vals d) [], { r with uncompressed := u }) ∧
      ChunkLoaded z cs vals { r with uncompressed := u } (d / cs) := by
  obtain ⟨hh, hd⟩ := hl
  have hloc := getDocValueLocs_hdrExt d (chunkVals cs vals (d / cs)) (hv.asc.filter _) [] 0 nofun rfl
  rw [lookup_chunkVals, List.nil_append, ← hh] at hloc
  unfold Reader.visitDocValues bytesOf
  cases hlk : lookup vals d with
  | none =>
    rw [hlk] at hloc
    exact ⟨r.uncompressed, by simp [hloc, splitSep], hh, hd⟩
  | some b =>
    rw [hlk] at hloc
    obtain ⟨A, B, hdata, hloc⟩ := hloc
    rw [hloc, ok_bind, Option.getD_some, Nat.zero_add]
    by_cases hb0 : b = []
    · subst hb0
      exact ⟨r.uncompressed, by simp [splitSep], hh, hd⟩
    · have hblen : 0 < b.length := List.length_pos_iff.mpr hb0
      have hdl := congrArg List.length hdata
      simp only [List.length_append] at hdl
      have hsz := length_dataOf_chunkVals_le cs vals (d / cs)
      have hraw := hv.raw
      obtain ⟨hcd, hunc⟩ := hd (fun h => by rw [h] at hdl; simp [dataOf] at hdl; omega)
      have hm : ¬ (A.length = maxUint64 ∨ A.length + b.length = maxUint64 ∨
          A.length = A.length + b.length) := by unfold maxUint64; omega
      have hrng : A.length ≤ A.length + b.length ∧
          A.length + b.length ≤ (dataOf (chunkVals cs vals (d / cs))).length := by omega
      have hslice : ((dataOf (chunkVals cs vals (d / cs))).drop A.length).take b.length = b := by
        rw [hdata, List.append_assoc, List.drop_left, List.take_left]
      simp only [hm, if_false]
      rcases hunc with hu | hu
      · -- decompress now
        exact ⟨dataOf (chunkVals cs vals (d / cs)), by simp [hu, hcd, z.rt, hrng, hslice],
          hh, fun _ => ⟨hcd, .inr rfl⟩⟩
      · -- the decompressed copy is there
        have hpos : r.uncompressed.length > 0 := by rw [hu]; omega
        refine ⟨r.uncompressed, ?_, hh, hd⟩
        rw [if_pos hpos]
        simp only [pure_eq, ok_bind, hu, hrng, and_self, if_true, Nat.add_sub_cancel_left, hslice]
        rw [← hu]

/-- the reader between two visits -/
def Inv (z : Codec) (cs maxDocNum : Nat) (vals : List (Nat × Bytes)) (pre : Bytes) (r : Reader) :
    Prop :=
  r.chunkOffsets = offsOf (chunksOf z cs (maxDocNum / cs + 1) vals) ∧
  r.dvDataLoc = pre.length ∧
  (r.curChunkNum < maxDocNum / cs + 1 → ChunkLoaded z cs vals r r.curChunkNum)

theorem inv_fresh {z : Codec} {cs maxDocNum : Nat} {vals : List (Nat × Bytes)} {pre : Bytes}
    (hmax : maxDocNum < 2 ^ 63 - 1) {r : Reader}
    (ho : r.chunkOffsets = offsOf (chunksOf z cs (maxDocNum / cs + 1) vals))
    (hloc : r.dvDataLoc = pre.length) (hc : r.curChunkNum = maxInt64) :
    Inv z cs maxDocNum vals pre r := by
  refine ⟨ho, hloc, fun h => ?_⟩
  have : maxDocNum / cs ≤ maxDocNum := Nat.div_le_self _ _
  rw [hc] at h; unfold maxInt64 at h; omega

theorem inv_clone {z : Codec} {cs maxDocNum : Nat} {vals : List (Nat × Bytes)} {pre : Bytes}
    (hmax : maxDocNum < 2 ^ 63 - 1) {r : Reader} (hr : Inv z cs maxDocNum vals pre r) :
    Inv z cs maxDocNum vals pre r.clone :=
  inv_fresh hmax (r := r.clone) hr.1 hr.2.1 rfl

theorem reader_opens (z : Codec) {cs maxDocNum : Nat} {vals : List (Nat × Bytes)}
    (hv : ValidVals cs maxDocNum vals) (file : Data) (pre suf : Bytes)
    (hbytes : file.bytes = pre ++ sectionOf (chunksOf z cs (maxDocNum / cs + 1) vals) ++ suf)
    (hsuf : 10 ≤ suf.length) (hlen : file.bytes.length < 2 ^ 63) :
    Layout file pre (chunksOf z cs (maxDocNum / cs + 1) vals) suf ∧
    ∃ r0, loadFieldDocValueReader file pre.length
        (pre.length + (sectionOf (chunksOf z cs (maxDocNum / cs + 1) vals)).length) =
          .ok (some r0) ∧
      r0.chunkOffsets.length = maxDocNum / cs + 1 ∧ r0.curChunkNum = maxInt64 ∧
      Inv z cs maxDocNum vals pre r0 := by
  have hne : chunksOf z cs (maxDocNum / cs + 1) vals ≠ [] :=
    List.ne_nil_of_length_pos (by rw [chunksOf_length]; exact Nat.succ_pos _)
  have L : Layout file pre (chunksOf z cs (maxDocNum / cs + 1) vals) suf := ⟨hbytes, hsuf, hlen, hne⟩
  have hmd := hv.maxDoc
  have hdiv : maxDocNum / cs ≤ maxDocNum := Nat.div_le_self _ _
  have hn : (chunksOf z cs (maxDocNum / cs + 1) vals).length < 2 ^ 63 := by
    rw [chunksOf_length]; omega
  refine ⟨L, _, L.load hn, ?_, rfl, ?_⟩
  · exact (offsOf_length _).trans (chunksOf_length z cs _ vals)
  · exact inv_fresh hmd rfl rfl rfl

theorem visit_spec (z : Codec) {cs maxDocNum : Nat} {vals : List (Nat × Bytes)}
    (hv : ValidVals cs maxDocNum vals) {file : Data} {pre suf : Bytes}
    (L : Layout file pre (chunksOf z cs (maxDocNum / cs + 1) vals) suf)
    (r : Reader) (hr : Inv z cs maxDocNum vals pre r) (d : Nat) (hd : d ≤ maxDocNum) :
    ∃ r', r.visit z file cs d = .ok (splitSep (bytesOf vals d) [], r') ∧
      Inv z cs maxDocNum vals pre r' := by
  obtain ⟨ho, hloc, hcache⟩ := hr
  have hcs : cs ≠ 0 := Nat.ne_of_gt hv.cs_pos
  have hc : d / cs < maxDocNum / cs + 1 := Nat.lt_succ_of_le (Nat.div_le_div_right hd)
  -- after the reload test the chunk of `d` is loaded
  have hload : ∃ r1, (if (d / cs != r.curChunkNum) = true then r.loadDvChunk file (d / cs)
        else .ok r) = .ok r1 ∧
      ChunkLoaded z cs vals r1 (d / cs) ∧ r1.chunkOffsets = r.chunkOffsets ∧
      r1.dvDataLoc = r.dvDataLoc ∧ r1.curChunkNum = d / cs := by
    by_cases hsame : d / cs = r.curChunkNum
    · refine ⟨r, by simp [hsame], ?_, rfl, rfl, hsame.symm⟩
      rw [hsame]; exact hcache (by rw [← hsame]; exact hc)
    · rw [if_pos (by simp [hsame]), L.loadDvChunk_written hv r ho hloc _ hc]
      exact ⟨_, rfl, ⟨rfl, fun h => ⟨if_pos (.inr h), .inl rfl⟩⟩, rfl, rfl, rfl⟩
  obtain ⟨r1, hr1, hl1, ho1, hloc1, hcn1⟩ := hload
  obtain ⟨u, hvis, hl'⟩ := visitDocValues_spec z hv r1 d hl1
  rw [← hcn1] at hl'
  exact ⟨{ r1 with uncompressed := u }, by simp only [Reader.visit, hcs, if_false, hr1, ok_bind, hvis],
    ho1.trans ho, hloc1.trans hloc, fun _ => hl'⟩

theorem visitAll_spec (z : Codec) {cs maxDocNum : Nat} {vals : List (Nat × Bytes)}
    (hv : ValidVals cs maxDocNum vals) {file : Data} {pre suf : Bytes}
    (L : Layout file pre (chunksOf z cs (maxDocNum / cs + 1) vals) suf) (ds : List Nat) :
    ∀ (r : Reader), Inv z cs maxDocNum vals pre r → (∀ d ∈ ds, d ≤ maxDocNum) →
    ∃ r', Reader.visitAll z file cs r ds =
        .ok (ds.map (fun d => splitSep (bytesOf vals d) []), r') ∧
      Inv z cs maxDocNum vals pre r' := by
  induction ds with
  | nil => intro r hr _; exact ⟨r, rfl, hr⟩
  | cons d ds ih =>
    intro r hr hds
    obtain ⟨r1, h1, hi1⟩ := visit_spec z hv L r hr d (hds d (by simp))
    obtain ⟨r2, h2, hi2⟩ := ih r1 hi1 (fun x hx => hds x (by simp [hx]))
    exact ⟨r2, by simp only [Reader.visitAll, h1, ok_bind, h2, pure_eq, List.map_cons], hi2⟩

end Ice.Model.DocValues
