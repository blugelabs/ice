import IceModel.Model.DvLoop
import IceModel.Lemmas.DocValues
import IceModel.Lemmas.Format
/-
  The multi-field driver of the doc-value reader (`Model/DvLoop.lean`) on top of ANY per-field
  readers that answer every sequence of visits correctly (`SegOK`): every sequence of
  `VisitDocumentValues` calls of one `DocumentValueReader` delivers `expected`.

  Nothing here looks inside the one-field reader: the only facts used are
    * `Good`: from this reader state every sequence of visits of documents inside the contract
      succeeds and delivers the field's terms (what `C07_visit_any_order` / `C04_dv` /
      `ReadsAs.dv` state for the loaded reader), and
    * the loaded reader is its own clone (`r0.clone = r0`: `loadFieldDocValueReader` returns a
      reader with an empty cache); the last section proves this of every reader `load` returns.
-/
namespace Ice.Model.DvLoop
open Ice Ice.Model Ice.Model.DocValues

theorem mget_mset (m : DvMap) (k k' : Nat) (v : Reader) :
    mget (mset m k v) k' = if k = k' then some v else mget m k' := by
  induction m with
  | nil => simp [mset, mget]
  | cons p m ih =>
    obtain ⟨a, b⟩ := p
    by_cases h : a = k <;> by_cases h2 : k = k' <;> simp_all [mset, mget]

theorem mget_mset_none {m : DvMap} {k k' : Nat} {v : Reader} (h : mget (mset m k v) k' = none) :
    mget m k' = none := by
  rw [mget_mset] at h
  split at h
  · cases h
  · exact h

theorem lastIdxAux_none : ∀ (l : List Bytes) (id : Nat) (name : Bytes),
    lastIdxAux l id name = none ↔ name ∉ l := by
  intro l
  induction l with
  | nil => intro id name; simp [lastIdxAux]
  | cons n r ih =>
    intro id name
    rw [lastIdxAux, List.mem_cons, not_or, ← ih (id + 1) name]
    cases lastIdxAux r (id + 1) name with
    | some j' => simp
    | none => simp [eq_comm]

theorem lastIdxAux_some : ∀ (l : List Bytes) (id : Nat) (name : Bytes) (j : Nat),
    lastIdxAux l id name = some j →
      ∃ k, j = id + k ∧ k < l.length ∧ l[k]? = some name ∧
        ∀ k', k < k' → l[k']? ≠ some name := by
  intro l
  induction l with
  | nil => intro id name j h; simp [lastIdxAux] at h
  | cons n r ih =>
    intro id name j h
    rw [lastIdxAux] at h
    cases hr : lastIdxAux r (id + 1) name with
    | some j' =>
      rw [hr] at h
      cases h
      obtain ⟨k, hj, hk, hget, hlast⟩ := ih (id + 1) name j hr
      refine ⟨k + 1, by rw [hj, Nat.add_assoc, Nat.add_comm 1], Nat.succ_lt_succ hk, hget,
        fun k' hk' => ?_⟩
      cases k' with
      | zero => cases hk'
      | succ k' => exact hlast k' (Nat.lt_of_succ_lt_succ hk')
    | none =>
      rw [hr] at h
      have hnr := (lastIdxAux_none r (id + 1) name).mp hr
      simp only at h
      split at h
      · rename_i e
        cases h
        refine ⟨0, rfl, Nat.zero_lt_succ _, by rw [e]; rfl, fun k' hk' => ?_⟩
        cases k' with
        | zero => cases hk'
        | succ k' => exact fun hget => hnr (List.mem_of_getElem? hget)
      · cases h

/-- later occurrences win -/
theorem lastIdxAux_last : ∀ (l : List Bytes) (id : Nat) (name : Bytes) (j : Nat),
    lastIdxAux l id name = some j → ∀ k, j - id < k → l[k]? ≠ some name := by
  intro l id name j h k hk
  obtain ⟨k0, rfl, _, _, hlast⟩ := lastIdxAux_some l id name j h
  rw [Nat.add_sub_cancel_left] at hk
  exact hlast k hk

theorem lastIdx_some {l : List Bytes} {name : Bytes} {j : Nat} (h : lastIdx l name = some j) :
    j < l.length ∧ l[j]? = some name := by
  obtain ⟨k, rfl, h2, h3, _⟩ := lastIdxAux_some l 0 name j h
  rw [Nat.zero_add]
  exact ⟨h2, h3⟩

theorem lastIdx_none {l : List Bytes} {name : Bytes} : lastIdx l name = none ↔ name ∉ l :=
  lastIdxAux_none l 0 name

/-- with distinct names (every ice segment: `FieldsInv` is filled through a map) the id of a name
    is THE index where it stands -/
theorem lastIdx_of_nodup {l : List Bytes} (hn : l.Nodup) {name : Bytes} {i : Nat}
    (hi : l[i]? = some name) : lastIdx l name = some i := by
  cases h : lastIdx l name with
  | none => exact absurd (List.mem_of_getElem? hi) (lastIdx_none.mp h)
  | some j =>
    obtain ⟨hj, hj'⟩ := lastIdx_some h
    rw [(List.getElem?_inj hj hn).mp (hj'.trans hi.symm)]

/-- the uint16 round trip of `fieldsMap` is harmless up to 65536 fields -/
theorem fieldIdOf_u16 (i : Nat) (h : i < 65536) : fieldIdOf (u16 (i + 1)) = i := by
  unfold fieldIdOf u16; omega

theorem fieldsMap_none {s : Seg} {name : Bytes} (h : lastIdx s.fieldsInv name = none) :
    s.fieldsMap name = none := by
  simp [Seg.fieldsMap, h]

theorem fieldsMap_some {s : Seg} {name : Bytes} {i : Nat} (h : lastIdx s.fieldsInv name = some i) :
    s.fieldsMap name = some (u16 (i + 1)) := by
  simp [Seg.fieldsMap, h]

theorem nameOf_eq {s : Seg} {name : Bytes} {i : Nat} (h : s.fieldsInv[i]? = some name) :
    s.nameOf i = name := by
  simp [Seg.nameOf, List.getD, h]

/-- from reader state `r` every sequence of visits of documents satisfying `docOK` succeeds and
    delivers the terms `T` -/
def Good (z : Codec) (data : Data) (cs : Nat) (docOK : Nat → Prop) (T : Nat → List Bytes)
    (r : Reader) : Prop :=
  ∀ ds : List Nat, (∀ d ∈ ds, docOK d) →
    ∃ r', Reader.visitAll z data cs r ds = .ok (ds.map T, r')

theorem good_step {z : Codec} {data : Data} {cs : Nat} {docOK : Nat → Prop} {T : Nat → List Bytes}
    {r : Reader} (hg : Good z data cs docOK T r) {d : Nat} (hd : docOK d) :
    ∃ r', r.visit z data cs d = .ok (T d, r') ∧ Good z data cs docOK T r' := by
  have key : ∀ ds, (∀ x ∈ ds, docOK x) → ∃ r1 r2, r.visit z data cs d = .ok (T d, r1) ∧
      Reader.visitAll z data cs r1 ds = .ok (ds.map T, r2) := by
    intro ds hds
    obtain ⟨r2, h⟩ := hg (d :: ds) (List.forall_mem_cons.mpr ⟨hd, hds⟩)
    rw [Reader.visitAll] at h
    obtain ⟨x, hx, h⟩ := bind_eq_ok h
    obtain ⟨y, hy, h⟩ := bind_eq_ok h
    simp only [pure_eq, List.map_cons, Res.ok.injEq, Prod.mk.injEq, List.cons.injEq] at h
    exact ⟨x.2, y.2, by rw [hx, ← h.1.1], by rw [hy, ← h.1.2]⟩
  obtain ⟨r', _, hr', _⟩ := key [] (fun _ h => nomatch h)
  refine ⟨r', hr', fun ds hds => ?_⟩
  obtain ⟨r1, r2, h1, h2⟩ := key ds hds
  rw [hr'] at h1
  cases h1
  exact ⟨r2, h2⟩

/-- what is assumed of the segment: field `i` either has a loaded reader with an empty cache
    that answers every sequence of visits with `T i`, or it has none and `T i` is empty -/
def SegOK (z : Codec) (s : Seg) (cs : Nat) (docOK : Nat → Prop) (T : Nat → Nat → List Bytes) :
    Prop :=
  ∀ i, i < s.fieldsInv.length →
    (∃ r0, s.dvReaders[i]? = some (some r0) ∧ r0.clone = r0 ∧ Good z s.data cs docOK (T i) r0) ∨
    ((∀ r0, s.dvReaders[i]? ≠ some (some r0)) ∧ ∀ d, T i d = [])

def MapOK (z : Codec) (s : Seg) (cs : Nat) (docOK : Nat → Prop) (T : Nat → Nat → List Bytes)
    (m : DvMap) : Prop :=
  ∀ k r, mget m k = some r → Good z s.data cs docOK (T k) r

/-- a requested name whose field has no clone in the map has no doc values -/
def Covers (s : Seg) (T : Nat → Nat → List Bytes) (m : DvMap) (fs : List Bytes) : Prop :=
  ∀ n ∈ fs, ∀ i, lastIdx s.fieldsInv n = some i → mget m i = none → ∀ d, T i d = []

theorem Covers.mono {s : Seg} {T : Nat → Nat → List Bytes} {m m' : DvMap} {fs : List Bytes}
    (h : Covers s T m fs) (hm : ∀ k, mget m' k = none → mget m k = none) : Covers s T m' fs :=
  fun n hn i hi hnone => h n hn i hi (hm i hnone)

theorem MapOK.set {z : Codec} {s : Seg} {cs : Nat} {docOK : Nat → Prop}
    {T : Nat → Nat → List Bytes} {m : DvMap} (h : MapOK z s cs docOK T m) {k : Nat} {r : Reader}
    (hr : Good z s.data cs docOK (T k) r) : MapOK z s cs docOK T (mset m k r) := by
  intro k' r' hget
  rw [mget_mset] at hget
  by_cases e : k = k'
  · subst e
    simp only [if_true, Option.some.injEq] at hget
    exact hget ▸ hr
  · simp only [e, if_false] at hget
    exact h k' r' hget

section
variable {z : Codec} {s : Seg} {cs : Nat} {docOK : Nat → Prop} {T : Nat → Nat → List Bytes}

theorem makeClones_spec (hs : SegOK z s cs docOK T) (hlen : s.fieldsInv.length ≤ 65536) :
    ∀ (fs : List Bytes) (m : DvMap), MapOK z s cs docOK T m →
      MapOK z s cs docOK T (makeClones s fs m) ∧ Covers s T (makeClones s fs m) fs ∧
      ∀ k, mget (makeClones s fs m) k = none → mget m k = none := by
  intro fs
  induction fs with
  | nil => intro m hm; exact ⟨hm, fun n hn => (by cases hn), fun _ h => h⟩
  | cons f fs ih =>
    intro m hm
    have tail : ∀ {m'}, Covers s T m' fs → (∀ i, lastIdx s.fieldsInv f = some i → mget m' i = none →
        ∀ d, T i d = []) → Covers s T m' (f :: fs) := fun h hf n hn =>
      (List.mem_cons.mp hn).elim (fun e => e ▸ hf) (h n)
    cases hl : lastIdx s.fieldsInv f with
    | none =>
      simp only [makeClones, fieldsMap_none hl]
      have ⟨h1, h2, h3⟩ := ih m hm
      exact ⟨h1, tail h2 (fun i hi => by rw [hl] at hi; cases hi), h3⟩
    | some i =>
      obtain ⟨hi, _⟩ := lastIdx_some hl
      simp only [makeClones, fieldsMap_some hl, fieldIdOf_u16 i (by omega)]
      rcases hs i hi with ⟨r0, hrd, hcl, hgood⟩ | ⟨hno, hT⟩
      · simp only [hrd]
        obtain ⟨h1, h2, h3⟩ := ih _ (hm.set (hcl.symm ▸ hgood))
        refine ⟨h1, tail h2 (fun i' hi' hnone => ?_), fun k hk => mget_mset_none (h3 k hk)⟩
        rw [hl] at hi'
        cases hi'
        have := h3 i hnone
        rw [mget_mset, if_pos rfl] at this
        cases this
      · split
        · rename_i r0 hrd; exact absurd hrd (hno r0)
        · have ⟨h1, h2, h3⟩ := ih m hm
          exact ⟨h1, tail h2 (fun i' hi' _ => by rw [hl] at hi'; cases hi'; exact hT), h3⟩

theorem expected_cons (fi : List Bytes) (f : Bytes) (fs : List Bytes) (doc : Nat) :
    expected fi T (f :: fs) doc =
      (match lastIdx fi f with
       | none => []
       | some i => (T i doc).map (fun t => (f, t))) ++ expected fi T fs doc := rfl

theorem visitLoop_spec (hlen : s.fieldsInv.length ≤ 65536) (doc : Nat) (hdoc : docOK doc) :
    ∀ (fs : List Bytes) (m : DvMap), MapOK z s cs docOK T m → Covers s T m fs →
      ∃ m', visitLoop z s cs doc fs m = .ok (m', expected s.fieldsInv T fs doc) ∧
        MapOK z s cs docOK T m' ∧ ∀ k, mget m' k = none → mget m k = none := by
  intro fs
  induction fs with
  | nil => intro m hm _; exact ⟨m, rfl, hm, fun _ h => h⟩
  | cons f fs ih =>
    intro m hm hc
    have hc' : Covers s T m fs := fun n hn => hc n (List.mem_cons_of_mem _ hn)
    rw [expected_cons]
    cases hl : lastIdx s.fieldsInv f with
    | none =>
      simp only [visitLoop, fieldsMap_none hl, List.nil_append]
      exact ih m hm hc'
    | some i =>
      obtain ⟨hi, hname⟩ := lastIdx_some hl
      simp only [visitLoop, fieldsMap_some hl, fieldIdOf_u16 i (by omega), nameOf_eq hname]
      cases hg : mget m i with
      | none =>
        simp only [hc f (by simp) i hl hg doc, List.map_nil, List.nil_append]
        exact ih m hm hc'
      | some r =>
        obtain ⟨r', hvis, hgood'⟩ := good_step (hm i r hg) hdoc
        obtain ⟨m', h1, h2, h3⟩ := ih _ (hm.set hgood') (hc'.mono fun _ => mget_mset_none)
        simp only [hvis, h1]
        exact ⟨m', rfl, h2, fun k hk => mget_mset_none (h3 k hk)⟩

/-- the invariant of `d.state` of a `DocumentValueReader` opened on `requested`, stated on the map
    the next visit will work with -/
def StOK (z : Codec) (s : Seg) (cs : Nat) (docOK : Nat → Prop) (T : Nat → Nat → List Bytes)
    (requested : List Bytes) (st : Option VisitState) : Prop :=
  MapOK z s cs docOK T (startMap s requested (enterState st)) ∧
    Covers s T (startMap s requested (enterState st)) requested

/-- the map of a call is kept for the next one only if the state entered the call with `segment`
    set; otherwise the next call makes the clones again -/
theorem startMap_update (s : Seg) (fs : List Bytes) (v : VisitState) (m : DvMap) :
    startMap s fs (enterState (some { v with dvrs := some m })) =
      if v.segSet then m else makeClones s fs [] := by
  cases v.segSet <;> simp [enterState, startMap]

/-- the state of a new `DocumentValueReader`, and every state whose map is made anew -/
theorem stOK_fresh (hs : SegOK z s cs docOK T) (hlen : s.fieldsInv.length ≤ 65536)
    (requested : List Bytes) :
    MapOK z s cs docOK T (makeClones s requested []) ∧
      Covers s T (makeClones s requested []) requested :=
  have ⟨h1, h2, _⟩ := makeClones_spec hs hlen requested [] (fun k r h => by simp [mget] at h)
  ⟨h1, h2⟩

theorem visitDocumentFieldTerms_spec (hs : SegOK z s cs docOK T)
    (hlen : s.fieldsInv.length ≤ 65536) (hcs : 0 < cs) (requested : List Bytes)
    (st : Option VisitState) (hst : StOK z s cs docOK T requested st) (doc : Nat)
    (hdoc : docOK doc) :
    ∃ v', visitDocumentFieldTerms z s cs doc requested st =
        .ok (v', expected s.fieldsInv T requested doc) ∧
      StOK z s cs docOK T requested (some v') := by
  obtain ⟨m', hloop, hmok', hmono⟩ := visitLoop_spec hlen doc hdoc requested _ hst.1 hst.2
  refine ⟨{ enterState st with dvrs := some m' }, ?_, ?_⟩
  · simp only [visitDocumentFieldTerms, Nat.ne_of_gt hcs, if_false, hloop]
  · rw [StOK, startMap_update]
    split
    · exact ⟨hmok', hst.2.mono hmono⟩
    · exact stOK_fresh hs hlen requested

theorem visitDocs_spec (hs : SegOK z s cs docOK T) (hlen : s.fieldsInv.length ≤ 65536)
    (hcs : 0 < cs) (requested : List Bytes) :
    ∀ (ds : List Nat) (st : Option VisitState), StOK z s cs docOK T requested st →
      (∀ d ∈ ds, docOK d) →
      ∃ st', visitDocs z s cs requested st ds =
          .ok (st', ds.map (expected s.fieldsInv T requested)) ∧
        StOK z s cs docOK T requested st' := by
  intro ds
  induction ds with
  | nil => intro st hst _; exact ⟨st, rfl, hst⟩
  | cons d ds ih =>
    intro st hst hds
    obtain ⟨v', h1, hst'⟩ := visitDocumentFieldTerms_spec hs hlen hcs requested st hst d
      (hds d (by simp))
    obtain ⟨st'', h2, hst''⟩ := ih (some v') hst' (fun x hx => hds x (by simp [hx]))
    refine ⟨st'', ?_, hst''⟩
    simp only [visitDocs, visitDoc, h1, h2, List.map_cons]

/-- the driver on correct per-field readers: a `DocumentValueReader` opened on any list of
    names, visiting any sequence of documents inside the contract, delivers `expected` at every
    visit -/
theorem readDocs_spec (hs : SegOK z s cs docOK T) (hlen : s.fieldsInv.length ≤ 65536)
    (hcs : 0 < cs) (requested : List Bytes) (ds : List Nat) (hds : ∀ d ∈ ds, docOK d) :
    readDocs z s cs requested ds = .ok (ds.map (expected s.fieldsInv T requested)) := by
  obtain ⟨st', h, _⟩ := visitDocs_spec hs hlen hcs requested ds none
    (stOK_fresh hs hlen requested) hds
  simp only [readDocs, Seg.documentValueReader, h]

end

section
open Ice.Model.Format

/-! ### what `load` puts into a segment

  Every doc-value reader `load` puts into a segment has an empty cache: it is its own clone
  (`cloneInto` of the segment's reader, docvalues.go:307, is the reader as loaded). -/

theorem loadField_fresh {d : Data} {s e : Nat} {r : Reader}
    (h : loadFieldDocValueReader d s e = .ok (some r)) : r.clone = r := by
  obtain ⟨h1, _, h3, h4, h5⟩ := loadField_shape h
  cases r
  simp_all [Reader.clone]

theorem loadDvLoop_fresh (d : Data) (dvo : Nat) : ∀ (fs : List Bytes) (read : Nat)
    (rs : List (Option Reader)), loadDvLoop d dvo fs read = .ok rs →
    ∀ r, some r ∈ rs → r.clone = r := by
  intro fs
  induction fs with
  | nil =>
    intro read rs h r hr
    simp only [loadDvLoop, Res.ok.injEq] at h
    subst h; cases hr
  | cons f fs ih =>
    intro read rs h r hr
    simp only [loadDvLoop] at h
    obtain ⟨w, _, h⟩ := Format.bind_eq_ok h
    split at h
    · cases h
    · obtain ⟨w2, _, h⟩ := Format.bind_eq_ok h
      split at h
      · cases h
      · obtain ⟨o, ho, h⟩ := Format.bind_eq_ok h
        obtain ⟨rest, hrest, h⟩ := Format.bind_eq_ok h
        simp only [pure_eq, Res.ok.injEq] at h
        subst h
        rcases List.mem_cons.mp hr with e | e
        · rw [← e] at ho; exact loadField_fresh ho
        · exact ih _ _ hrest r e

theorem load_fresh {mem : Bool} {file : Bytes} {ld : Loaded} (h : load mem file = .ok ld) :
    ∀ (i : Nat) (r : Reader), ld.dvReaders[i]? = some (some r) → r.clone = r := by
  intro i r hi
  have hmem : some r ∈ ld.dvReaders := List.mem_of_getElem? hi
  unfold load at h
  split at h
  · cases h
  · obtain ⟨fa, _, h⟩ := Format.bind_eq_ok h
    obtain ⟨offs, _, h⟩ := Format.bind_eq_ok h
    obtain ⟨dvr, hdvr, h⟩ := Format.bind_eq_ok h
    simp only [pure_eq, Res.ok.injEq] at h
    subst h
    simp only at hmem
    unfold loadDvReaders at hdvr
    split at hdvr
    · simp only [Res.ok.injEq] at hdvr
      subst hdvr
      simp at hmem
    · exact loadDvLoop_fresh _ _ _ _ _ hdvr r hmem

end

end Ice.Model.DvLoop
