import IceModel.Model.MergeRest
import IceModel.Lemmas.DocValues
import IceModel.Lemmas.MergeRestRemap
/-
  `iterateAllDocValues` on a column written by the doc-value writer (either mode), and
  `buildMergedDocVals` as `DocValues.mergeField` of the survivors; `dvField` on the inputs in focus.
-/
namespace Ice.Model.MergeRest
open Ice Ice.Model Ice.Model.DocValues

/-- the visitor applied to the pairs in order, stopping at the first failure -/
def foldV {σ : Type} (f : σ → Nat → Bytes → Res σ) : List (Nat × Bytes) → σ → Res σ
  | [], s => .ok s
  | (d, v) :: r, s => f s d v >>= fun s => foldV f r s

theorem foldV_append {σ : Type} (f : σ → Nat → Bytes → Res σ) (a b : List (Nat × Bytes)) :
    ∀ s, foldV f (a ++ b) s = foldV f a s >>= fun s => foldV f b s := by
  induction a with
  | nil => intro s; rfl
  | cons p a ih =>
    intro s
    obtain ⟨d, v⟩ := p
    simp only [List.cons_append, foldV]
    cases f s d v with
    | ok s' => simp [ih]
    | err => rfl
    | panic => rfl

/-- the result without the reader -/
def resFst {σ ρ : Type} (r : Res (σ × ρ)) : Res σ := r >>= fun p => .ok p.1

@[simp] theorem resFst_ok {σ ρ : Type} (s : σ) (r : ρ) : resFst (Res.ok (s, r)) = .ok s := rfl

theorem bind_resFst {σ ρ β : Type} (x : Res (σ × ρ)) (g : σ → Res β) :
    (x >>= fun p => g p.1) = resFst x >>= g := by
  cases x <;> rfl

theorem res_bind_assoc {α β γ : Type} (x : Res α) (f : α → Res β) (g : β → Res γ) :
    (x >>= f) >>= g = x >>= fun a => f a >>= g := by
  cases x <;> rfl

theorem iterChunk_spec {σ : Type} (f : σ → Nat → Bytes → Res σ) :
    ∀ (g : List (Nat × Bytes)) (P X : Bytes) (s : σ),
    iterChunk f (P ++ (dataOf g ++ X)) (hdrExt P.length g) P.length s = foldV f g s := by
  intro g
  induction g with
  | nil => intro P X s; rfl
  | cons p g ih =>
    intro P X s
    obtain ⟨d, v⟩ := p
    simp only [hdrExt, iterChunk, foldV, dataOf_cons]
    have h1 : P.length ≤ P.length + v.length ∧
        P.length + v.length ≤ (P ++ (v ++ dataOf g ++ X)).length := by
      simp only [List.length_append]; omega
    rw [if_pos h1]
    have h2 : ((P ++ (v ++ dataOf g ++ X)).drop P.length).take (P.length + v.length - P.length) = v := by
      rw [List.drop_left, Nat.add_sub_cancel_left, List.append_assoc, List.take_left]
    rw [h2]
    cases f s d v with
    | ok s' =>
      simp only [ok_bind]
      have := ih (P ++ v) X s'
      simp only [List.length_append, List.append_assoc] at this
      simpa [List.append_assoc] using this
    | err => rfl
    | panic => rfl

/-- `iterateAllDocValues` over any list of chunk numbers of a written column: the visitor sees
    the documents of those chunks, in order; empty and never-flushed chunks contribute nothing -/
theorem iterateAll_chunks {σ : Type} (z : Codec) {cs maxDocNum : Nat} {vals : List (Nat × Bytes)}
    (hv : ValidVals cs maxDocNum vals) {file : Data} {pre suf : Bytes}
    (L : Layout file pre (chunksOf z cs (maxDocNum / cs + 1) vals) suf)
    (f : σ → Nat → Bytes → Res σ) :
    ∀ (l : List Nat) (di : Reader) (s : σ), (∀ c ∈ l, c < maxDocNum / cs + 1) →
    di.chunkOffsets = offsOf (chunksOf z cs (maxDocNum / cs + 1) vals) →
    di.dvDataLoc = pre.length →
    resFst (iterateAll z file f l di s) = foldV f (l.flatMap (chunkVals cs vals)) s := by
  intro l
  induction l with
  | nil => intro di s _ _ _; rfl
  | cons c r ih =>
    intro di s hl ho hloc
    have hr : ∀ x ∈ r, x < maxDocNum / cs + 1 := fun x hx => hl x (by simp [hx])
    simp only [List.flatMap_cons]
    rw [foldV_append, iterateAll, L.loadDvChunk_written hv di ho hloc c (hl c (by simp))]
    simp only [ok_bind]
    by_cases hnil : chunkVals cs vals c = []
    · -- nothing to visit, whether the empty chunk was flushed (chunk 0) or not
      simp only [hnil, hdrExt, List.length_nil, foldV, ok_bind]
      split <;> exact ih _ s hr ho hloc
    · have hlen : ¬ (hdrExt 0 (chunkVals cs vals c)).length = 0 := by
        rw [length_hdrExt]
        intro h; exact hnil (List.length_eq_zero_iff.mp h)
      simp only [if_pos (Or.inr hnil : c = 0 ∨ chunkVals cs vals c ≠ []), if_neg hlen, z.rt]
      have hch := iterChunk_spec f (chunkVals cs vals c) [] [] s
      simp only [List.nil_append, List.append_nil, List.length_nil] at hch
      rw [hch]
      cases hfv : foldV f (chunkVals cs vals c) s with
      | ok s' =>
        simp only [ok_bind]
        exact ih _ s' hr ho hloc
      | err => rfl
      | panic => rfl

/-- all chunks: the visitor sees every (docNum, bytes) of the column (`ValidVals`: the documents
    ascend, so the chunks' buckets concatenate to the column) -/
theorem iterateAll_spec {σ : Type} (z : Codec) {cs maxDocNum : Nat} {vals : List (Nat × Bytes)}
    (hv : ValidVals cs maxDocNum vals) {file : Data} {pre suf : Bytes}
    (L : Layout file pre (chunksOf z cs (maxDocNum / cs + 1) vals) suf)
    (f : σ → Nat → Bytes → Res σ) (di : Reader) (s : σ)
    (ho : di.chunkOffsets = offsOf (chunksOf z cs (maxDocNum / cs + 1) vals))
    (hloc : di.dvDataLoc = pre.length) :
    resFst (iterateAll z file f (List.range di.chunkOffsets.length) di s) = foldV f vals s := by
  have hlen : di.chunkOffsets.length = maxDocNum / cs + 1 := by
    rw [ho]; simp [offsOf, endOffsets_length, chunksOf_length]
  rw [hlen, iterateAll_chunks z hv L f _ di s (fun c hc => List.mem_range.1 hc) ho hloc]
  have hcs := chunkSorted_of_ascending cs maxDocNum vals hv.asc hv.max
  rw [show (List.range _).flatMap (chunkVals cs vals) = vals from
    flatMap_range_filter_key (fun p : Nat × Bytes => p.1 / cs) _ vals hcs.1
      hcs.2]

/-- the survivors of a column under the map `nums`: (newDocNum, bytes) -/
def mapVals (nums : List Nat) (vals : List (Nat × Bytes)) : List (Nat × Bytes) :=
  vals.filterMap fun p =>
    match nums[p.1]? with
    | some nn => if nn = docDropped then none else some (nn, p.2)
    | none => none

theorem foldV_dvVisitor (z : Codec) (ndn : List (List Nat)) (segI : Nat) (nums : List Nat)
    (hn : ndn[segI]? = some nums) : ∀ (vals : List (Nat × Bytes)) (c : Coder),
    (∀ p ∈ vals, p.1 < nums.length) →
    foldV (dvVisitor z ndn segI) vals c = addAll z c (mapVals nums vals) := by
  intro vals
  induction vals with
  | nil => intro c _; rfl
  | cons p r ih =>
    intro c hb
    obtain ⟨d, v⟩ := p
    have hd : d < nums.length := hb (d, v) (by simp)
    have hr : ∀ q ∈ r, q.1 < nums.length := fun q hq => hb q (by simp [hq])
    simp only [foldV, dvVisitor, hn, Option.bind_some, List.getElem?_eq_getElem hd, mapVals,
      List.filterMap_cons]
    by_cases hdrop : nums[d] = docDropped
    · simp only [hdrop, if_true, ok_bind]
      exact ih c hr
    · simp only [hdrop, if_false, addAll]
      cases c.add z nums[d] v with
      | ok c' => simp only [ok_bind]; exact ih c' hr
      | err => rfl
      | panic => rfl

theorem addAll_eq_foldV (z : Codec) (l : List (Nat × Bytes)) : ∀ c,
    addAll z c l = foldV (fun c d v => c.add z d v) l c := by
  induction l with
  | nil => intro c; rfl
  | cons p l ih =>
    intro c
    obtain ⟨d, v⟩ := p
    simp only [addAll, foldV]
    cases c.add z d v with
    | ok c' => exact ih c'
    | err => rfl
    | panic => rfl

theorem addAll_append (z : Codec) (a b : List (Nat × Bytes)) (c : Coder) :
    addAll z c (a ++ b) = addAll z c a >>= fun c => addAll z c b := by
  simp only [addAll_eq_foldV, foldV_append]

/-- a segment in focus with what is known about its column: `none` = no reader for the field -/
structure DvSpec where
  seg : DvSeg
  cs : Nat
  maxDocNum : Nat
  pre : Bytes
  suf : Bytes
  col : Option (List (Nat × Bytes))

/-- the segment's reader, if any, reads a column written by the doc-value writer from `col` -/
def DvSpec.OK (z : Codec) (cs : Nat) (s : DvSpec) : Prop :=
  match s.col with
  | none => s.seg.reader = none
  | some vals =>
    s.cs = cs ∧ ValidVals cs s.maxDocNum vals ∧
    Layout s.seg.data s.pre (chunksOf z cs (s.maxDocNum / cs + 1) vals) s.suf ∧
    ∃ r, s.seg.reader = some r ∧
      r.chunkOffsets = offsOf (chunksOf z cs (s.maxDocNum / cs + 1) vals) ∧
      r.dvDataLoc = s.pre.length

namespace DvSpec.OK

theorem of_none {z : Codec} {cs : Nat} {s : DvSpec} (h : s.OK z cs)
    (hc : s.col = none) : s.seg.reader = none := by
  unfold DvSpec.OK at h
  rwa [hc] at h

theorem of_some {z : Codec} {cs : Nat} {s : DvSpec} (h : s.OK z cs)
    {vals : List (Nat × Bytes)} (hc : s.col = some vals) :
    s.cs = cs ∧ ValidVals cs s.maxDocNum vals ∧
    Layout s.seg.data s.pre (chunksOf z cs (s.maxDocNum / cs + 1) vals) s.suf ∧
    ∃ r, s.seg.reader = some r ∧
      r.chunkOffsets = offsOf (chunksOf z cs (s.maxDocNum / cs + 1) vals) ∧
      r.dvDataLoc = s.pre.length := by
  unfold DvSpec.OK at h
  rwa [hc] at h

theorem valid {z : Codec} {cs : Nat} {s : DvSpec} (h : s.OK z cs)
    {vals : List (Nat × Bytes)} (hc : s.col = some vals) : ValidVals cs s.maxDocNum vals :=
  (h.of_some hc).2.1

end DvSpec.OK

/-- what the segment contributes to the merged column -/
def DvSpec.part (s : DvSpec) (nums : List Nat) : List (Nat × Bytes) :=
  match s.col with
  | none => []
  | some vals => mapVals nums vals

theorem dvLoop_spec (z : Codec) (cs : Nat) (ndn : List (List Nat)) :
    ∀ (S : List DvSpec) (k : Nat) (c : Coder) (av : Bool),
    (∀ s ∈ S, s.OK z cs) → k + S.length ≤ ndn.length →
    (∀ q ∈ S.zip (ndn.drop k), ∀ vals, q.1.col = some vals → ∀ p ∈ vals, p.1 < q.2.length) →
    dvLoop z ndn ((S.map (·.seg)).zipIdx k) c av =
      addAll z c ((S.zip (ndn.drop k)).flatMap fun q => q.1.part q.2) >>= fun c =>
        .ok (c, av || S.any fun s => s.col.isSome) := by
  intro S
  induction S with
  | nil => intro k c av _ _ _; simp [dvLoop, addAll]
  | cons s S ih =>
    intro k c av hok hlen hn
    have hs := hok s (by simp)
    have hS : ∀ t ∈ S, t.OK z cs := fun t ht => hok t (by simp [ht])
    rw [List.length_cons] at hlen
    have hk : k < ndn.length := by omega
    have hlen' : k + 1 + S.length ≤ ndn.length := by omega
    rw [List.drop_eq_getElem_cons hk, List.zip_cons_cons] at hn ⊢
    obtain ⟨hb, hnS⟩ := List.forall_mem_cons.1 hn
    have hnums : ndn[k]? = some ndn[k] := List.getElem?_eq_getElem hk
    simp only [List.map_cons, List.zipIdx_cons, List.flatMap_cons, List.any_cons]
    rw [dvLoop, addAll_append, res_bind_assoc]
    cases hcol : s.col with
    | none =>
      rw [show s.part ndn[k] = [] by simp only [DvSpec.part, hcol]]
      simp only [hs.of_none hcol, addAll, ok_bind, Option.isSome_none, Bool.false_or]
      exact ih (k + 1) c av hS hlen' hnS
    | some vals =>
      obtain ⟨_, hv, L, r, hr, ho, hloc⟩ := hs.of_some hcol
      rw [show s.part ndn[k] = mapVals ndn[k] vals by simp only [DvSpec.part, hcol]]
      simp only [hr, Option.isSome_some, Bool.true_or, Bool.or_true]
      rw [bind_resFst _ fun c' => dvLoop z ndn ((S.map (·.seg)).zipIdx (k + 1)) c' true,
        show r.chunkOffsets = r.clone.chunkOffsets from rfl,
        iterateAll_spec z hv L (dvVisitor z ndn k) r.clone c ho hloc,
        foldV_dvVisitor z ndn k ndn[k] hnums vals c (hb vals hcol)]
      congr 1
      funext c'
      rw [ih (k + 1) c' true hS hlen' hnS, Bool.true_or]

/-- `buildMergedDocVals` is `DocValues.mergeField` applied to the concatenation, over the segments
    in focus in order, of the surviving (newDocNum, bytes) pairs; the field gets a column iff some
    segment in focus has a reader. -/
theorem buildMergedDocVals_eq (z : Codec) (cs n count : Nat) (hcs : 0 < cs) (S : List DvSpec)
    (ndn : List (List Nat)) (hok : ∀ s ∈ S, s.OK z cs) (hlen : S.length ≤ ndn.length)
    (hn : ∀ q ∈ S.zip ndn, ∀ vals, q.1.col = some vals → ∀ p ∈ vals, p.1 < q.2.length) :
    buildMergedDocVals z cs n count (S.map (·.seg)) ndn =
      if S.any (fun s => s.col.isSome) then
        mergeField z cs (sub64 n 1) count ((S.zip ndn).flatMap fun q => q.1.part q.2)
      else .ok ([], fieldNotUninverted, fieldNotUninverted) := by
  have hcs' : cs ≠ 0 := by omega
  unfold buildMergedDocVals mergeField
  simp only [Coder.new, hcs', if_false, ok_bind, pure_eq]
  rw [dvLoop_spec z cs ndn S 0 _ false hok (by omega) hn, List.drop_zero, res_bind_assoc]
  simp only [ok_bind, Bool.false_or]
  by_cases hany : (S.any fun s => s.col.isSome) = true
  · simp only [hany, if_true]
  · -- no segment has a column: nothing is added
    have hnil : ((S.zip ndn).flatMap fun q => q.1.part q.2) = [] := by
      rw [List.flatMap_eq_nil_iff]
      intro q hq
      cases hc : q.1.col with
      | none => simp only [DvSpec.part, hc]
      | some v =>
        exact absurd (List.any_eq_true.2 ⟨q.1, (List.of_mem_zip hq).1, by rw [hc]; rfl⟩) hany
    rw [hnil, if_neg hany]
    simp only [addAll, ok_bind, hany]
    rfl

/-! ### `setupActiveForField` + `buildMergedDocVals` (`dvField`)

  The maps handed on are the FILTERED ones, parallel to the segments in focus; the result is
  `mergeField` of the parts of the inputs in focus, each under its OWN map. -/

theorem setupFocus_eq {α β : Type} (inFocus : α → Bool) (N : List β) (dflt : β) :
    ∀ (l : List (α × Nat)), (∀ p ∈ l, p.2 < N.length) →
    setupFocus inFocus N l =
      .ok ((l.filter fun p => inFocus p.1).map (fun p => N.getD p.2 dflt),
           (l.filter fun p => inFocus p.1).map (·.1)) := by
  intro l
  induction l with
  | nil => intro _; rfl
  | cons p r ih =>
    intro h
    obtain ⟨a, i⟩ := p
    have hi : i < N.length := h (a, i) (by simp)
    have hr := ih (fun q hq => h q (by simp [hq]))
    rw [setupFocus, List.filter_cons]
    by_cases hf : inFocus a = true
    · simp only [hf, if_true, List.getElem?_eq_getElem hi, hr, ok_bind, List.map_cons]
      rw [← List.getElem_eq_getD (h := hi)]
    · simp only [hf, Bool.false_eq_true, if_false]
      exact hr

theorem flatMap_filter {α γ : Type} (q : α → Bool) (H : α → List γ) : ∀ (l : List α),
    (l.filter q).flatMap H = l.flatMap fun x => if q x then H x else [] := by
  intro l
  induction l with
  | nil => rfl
  | cons a l ih =>
    rw [List.filter_cons, List.flatMap_cons]
    by_cases h : q a = true
    · simp [h, ih]
    · simp [h, ih]

theorem zipIdx_flatMap_getD {α β γ : Type} (F : α → β → List γ) (dflt : β) (S : List α)
    (N : List β) (k : Nat) (h : k + S.length ≤ N.length) :
    (S.zipIdx k).flatMap (fun p => F p.1 (N.getD p.2 dflt)) =
      (S.zip (N.drop k)).flatMap fun q => F q.1 q.2 := by
  rw [← zipIdx_map_getD dflt S N k h, List.flatMap_map]

theorem any_zipIdx_fst {α : Type} (g : α → Bool) (l : List α) (k : Nat) :
    (l.zipIdx k).any (fun p => g p.1) = l.any g := by
  rw [← List.zipIdx_map_fst k l, List.any_map]
  simp [Function.comp_def]

/-- The part of input number `i` is taken under `newDocNumsIn[i]`, the entry of the segment itself:
    Go indexes the filtered list with the position among the segments in focus, and that IS
    `newDocNumsIn[i]`. -/
theorem dvField_eq {α : Type} (z : Codec) (cs n count : Nat) (hcs : 0 < cs) (segs : List α)
    (inFocus : α → Bool) (spec : α → DvSpec) (ndnIn : List (List Nat))
    (hlen : segs.length ≤ ndnIn.length)
    (hok : ∀ a ∈ segs, inFocus a = true → (spec a).OK z cs)
    (hb : ∀ (j : Nat) (a : α), segs[j]? = some a → inFocus a = true →
      ∀ vals, (spec a).col = some vals → ∀ p ∈ vals, p.1 < (ndnIn.getD j []).length) :
    dvField z cs n count segs inFocus (fun a => (spec a).seg) ndnIn =
      if segs.any (fun a => inFocus a && (spec a).col.isSome) then
        mergeField z cs (sub64 n 1) count
          ((segs.zip ndnIn).flatMap fun q => if inFocus q.1 then (spec q.1).part q.2 else [])
      else .ok ([], fieldNotUninverted, fieldNotUninverted) := by
  unfold dvField
  have hidx : ∀ p ∈ segs.zipIdx, p.2 < ndnIn.length := fun p hp =>
    Nat.lt_of_lt_of_le (List.snd_lt_of_mem_zipIdx hp) hlen
  rw [setupFocus_eq inFocus ndnIn [] segs.zipIdx hidx]
  simp only [ok_bind, List.map_map]
  have hS : ((segs.zipIdx.filter fun p => inFocus p.1).map
        ((fun a => (spec a).seg) ∘ fun p => p.1)) =
      ((segs.zipIdx.filter fun p => inFocus p.1).map fun p => spec p.1).map (·.seg) := by
    rw [List.map_map]; rfl
  rw [hS, buildMergedDocVals_eq z cs n count hcs _ _ ?_ ?_ ?_]
  · rw [List.zip_map', List.flatMap_map, flatMap_filter,
      zipIdx_flatMap_getD (fun a nums => if inFocus a then (spec a).part nums else []) []
        segs ndnIn 0 (by omega), List.drop_zero, List.any_map, List.any_filter]
    have hany : (segs.zipIdx.any fun x =>
          inFocus x.1 && ((fun s : DvSpec => s.col.isSome) ∘ fun p => spec p.1) x) =
        segs.any fun a => inFocus a && (spec a).col.isSome :=
      any_zipIdx_fst (fun a => inFocus a && (spec a).col.isSome) segs 0
    rw [hany]
  · intro s hs
    obtain ⟨p, hp, rfl⟩ := List.mem_map.1 hs
    obtain ⟨hp1, hp2⟩ := List.mem_filter.1 hp
    exact hok p.1 (List.fst_mem_of_mem_zipIdx hp1) hp2
  · rw [List.length_map, List.length_map]
    exact Nat.le_refl _
  · intro q hq
    rw [List.zip_map'] at hq
    obtain ⟨p, hp, rfl⟩ := List.mem_map.1 hq
    obtain ⟨hp1, hp2⟩ := List.mem_filter.1 hp
    exact hb p.2 p.1 (List.mem_zipIdx_iff_getElem?.1 hp1) hp2

end Ice.Model.MergeRest
