import IceModel.Lemmas.IterBytesMk
import IceModel.Lemmas.IterBytesSim
/-
  Reuse without any assumption on the bytes: two iterator states that differ only in what no code
  path reads before overwriting it (stale tails of the reused arrays, the capacity of `nextLocs`,
  a nil `memUvarintReader` versus one on the nil slice, decoders behind a flag that is off) behave
  identically under every operation - same answers, same errors, same panics.  A reused and a
  fresh iterator are related in this way, whatever `data` holds.
-/
namespace Ice.Model.IterBytes
open Ice Ice.Spec Ice.Model Ice.Model.ChunkBytes
open Ice.Model.Iter (RFlags It)

def ResRel {α β : Type} (R : α → β → Prop) : Res α → Res β → Prop
  | .ok a, .ok b => R a b
  | .err, .err => True
  | .panic, .panic => True
  | _, _ => False

/-- related computations fail in the same way or return related values -/
@[elab_as_elim]
theorem ResRel.elim {α β : Type} {R : α → β → Prop} {P : Res α → Res β → Prop} {x : Res α} {y : Res β}
    (h : ResRel R x y) (ok : ∀ a b, R a b → P (.ok a) (.ok b)) (err : P .err .err)
    (panic : P .panic .panic) : P x y :=
  match x, y, h with
  | .ok a, .ok b, h => ok a b h
  | .err, .err, _ => err
  | .panic, .panic, _ => panic
  | .ok _, .err, h | .ok _, .panic, h | .err, .ok _, h | .err, .panic, h | .panic, .ok _, h
  | .panic, .err, h => False.elim h

theorem ResRel.bind {α β γ δ : Type} {R : α → β → Prop} {S : γ → δ → Prop} {x : Res α} {y : Res β}
    {f : α → Res γ} {g : β → Res δ} (h : ResRel R x y) (hfg : ∀ a b, R a b → ResRel S (f a) (g b)) :
    ResRel S (x >>= f) (y >>= g) :=
  h.elim hfg trivial trivial

theorem ResRel.of_eq {α : Type} {x y : Res α} (h : x = y) : ResRel Eq x y := by
  subst h
  cases x with
  | ok a => exact rfl
  | err => trivial
  | panic => trivial

theorem ResRel.imp {α β : Type} {R S : α → β → Prop} {x : Res α} {y : Res β} (h : ResRel R x y)
    (hRS : ∀ a b, R a b → S a b) : ResRel S x y :=
  h.elim hRS trivial trivial

theorem ResRel.of_ok {α β : Type} {R : α → β → Prop} {x : Res α} {b : β} (h : ResRel R x (.ok b)) :
    ∃ a, x = .ok a ∧ R a b :=
  match x, h with
  | .ok a, h => ⟨a, rfl, h⟩

theorem ResRel.eq {α : Type} {x y : Res α} (h : ResRel Eq x y) : x = y :=
  h.elim (fun _ _ e => congrArg Res.ok e) rfl rfl

/-- no reader, or a reader on the nil slice: every read through it panics -/
def deadR (r : Option Rd) : Prop := r = none ∨ r = some ⟨[], 0⟩

/-- decoders that agree on everything that is read: the parsed offsets, the data pointer, the
    loaded chunk, the reader (or both readers dead).  `offsTail`, `uncompressed`, `uncTail` are
    free. -/
structure DecEq (a b : DecB) : Prop where
  d : a.d = b.d
  dataNil : a.dataNil = b.dataNil
  cur : a.curChunkBytes = b.curChunkBytes
  r : a.r = b.r ∨ (deadR a.r ∧ deadR b.r)

theorem DecEq.setR {a b : DecB} (h : DecEq a b) (r : Rd) :
    DecEq { a with r := some r } { b with r := some r } :=
  ⟨h.d, h.dataNil, h.cur, Or.inl rfl⟩

def SlotEq : Option DecB → Option DecB → Prop
  | none, none => True
  | some a, some b => DecEq a b
  | _, _ => False

@[elab_as_elim]
theorem SlotEq.elim {P : Option DecB → Option DecB → Prop} {x y : Option DecB} (h : SlotEq x y)
    (none : P none none) (some : ∀ a b, DecEq a b → P (some a) (some b)) : P x y :=
  match x, y, h with
  | .none, .none, _ => none
  | .some a, .some b, h => some a b h
  | .none, .some _, h | .some _, .none, h => False.elim h

/-- iterator states with flags `fl` that agree on everything that is read; a decoder slot behind a
    flag that is off, `nextLocsCap` and the postings-list fields (used only by the constructor) are
    free -/
structure ItEq (fl : RFlags) (a b : ItB) : Prop where
  cs : a.cs = b.cs
  finv : a.fieldsInv = b.fieldsInv
  all : a.all = b.all
  act : a.act = b.act
  clean : a.clean = b.clean
  cur : a.currChunk = b.currChunk
  fla : a.fl = fl
  flb : b.fl = fl
  fn : fl.incFN = true → SlotEq a.fnR b.fnR
  lc : fl.incL = true → SlotEq a.lcR b.lcR

variable {fl : RFlags}

theorem ItEq.cursors {a b : ItB} (h : ItEq fl a b) {x x' y y' : List Nat} (hx : x = x') (hy : y = y') :
    ItEq fl { a with act := x, all := y } { b with act := x', all := y' } :=
  ⟨h.cs, h.finv, hy, hx, h.clean, h.cur, h.fla, h.flb, h.fn, h.lc⟩

theorem ItEq.setFn {a b : ItB} (h : ItEq fl a b) {x y : DecB} (hd : DecEq x y) :
    ItEq fl { a with fnR := some x } { b with fnR := some y } :=
  ⟨h.cs, h.finv, h.all, h.act, h.clean, h.cur, h.fla, h.flb, fun _ => hd, h.lc⟩

theorem ItEq.setLc {a b : ItB} (h : ItEq fl a b) {x y : DecB} (hd : DecEq x y) {c c' : Nat} :
    ItEq fl { a with lcR := some x, nextLocsCap := c } { b with lcR := some y, nextLocsCap := c' } :=
  ⟨h.cs, h.finv, h.all, h.act, h.clean, h.cur, h.fla, h.flb, h.fn, fun _ => hd⟩

theorem rd_dead {b : DecB} (h : deadR b.r) {γ : Type} {f : Rd → Res γ} (hf : f ⟨[], 0⟩ = .panic) :
    (b.rd >>= f) = .panic := by
  unfold DecB.rd
  rcases h with h | h <;> rw [h]
  · rfl
  · exact hf

theorem rd_rel {a b : DecB} (h : DecEq a b) {γ δ : Type} {S : γ → δ → Prop} {f : Rd → Res γ}
    {g : Rd → Res δ} (hfg : ∀ r, ResRel S (f r) (g r)) (hf : f ⟨[], 0⟩ = .panic)
    (hg : g ⟨[], 0⟩ = .panic) : ResRel S (a.rd >>= f) (b.rd >>= g) := by
  rcases h.r with he | ⟨ha, hb⟩
  · unfold DecB.rd
    rw [he]
    cases b.r with
    | none => trivial
    | some r => exact hfg r
  · rw [rd_dead ha hf, rd_dead hb hg]
    trivial

theorem loadChunk_rel (K : Codec) {a b : DecB} (h : DecEq a b) (c : Nat) :
    ResRel DecEq (a.loadChunk K c) (b.loadChunk K c) := by
  unfold DecB.loadChunk
  rw [h.d, h.dataNil]
  by_cases h0 : b.d.startOffset = 0
  · rw [if_pos h0, if_pos h0]
    exact ⟨rfl, rfl, h.cur, Or.inl rfl⟩
  rw [if_neg h0, if_neg h0]
  by_cases hge : c ≥ b.d.chunkOffsets.length
  · rw [if_pos hge, if_pos hge]
    trivial
  rw [if_neg hge, if_neg hge]
  cases b.dataNil with
  | true => trivial
  | false =>
    cases Decoder.loadChunk K b.d c with
    | ok bytes => exact ⟨rfl, rfl, rfl, Or.inl rfl⟩
    | err => trivial
    | panic => trivial

theorem optLoad_rel (K : Codec) (on : Bool) {x y : Option DecB} (h : on = true → SlotEq x y) (c : Nat) :
    ResRel (fun x' y' => on = true → SlotEq x' y') (optLoad K on x c) (optLoad K on y c) := by
  unfold optLoad
  cases on with
  | false => exact nofun
  | true =>
    refine (h rfl).elim trivial fun a b hd => ?_
    exact (loadChunk_rel K hd c).bind fun _ _ h' _ => h'

theorem loadChunkB_rel (K : Codec) {a b : ItB} (h : ItEq fl a b) (c : Nat) :
    ResRel (ItEq fl) (loadChunkB K a c) (loadChunkB K b c) := by
  unfold loadChunkB
  rw [congrArg RFlags.incFN h.fla, congrArg RFlags.incFN h.flb, congrArg RFlags.incL h.fla,
    congrArg RFlags.incL h.flb]
  refine (optLoad_rel K fl.incFN h.fn c).bind fun f1 f2 hf => ?_
  refine (optLoad_rel K fl.incL h.lc c).bind fun l1 l2 hl => ?_
  exact ⟨h.cs, h.finv, h.all, h.act, h.clean, rfl, h.fla, h.flb, hf, hl⟩

theorem needLoadB_rel {a b : ItB} (h : ItEq fl a b) (hfn : fl.incFN = true) (c : Nat) :
    needLoadB a c = needLoadB b c := by
  unfold needLoadB
  rw [show (a.currChunk != c) = (b.currChunk != c) by rw [h.cur]]
  refine (h.fn hfn).elim rfl fun x y hd => ?_
  simp only [DecB.isNil, hd.cur]

theorem ensureB_rel (K : Codec) {a b : ItB} (h : ItEq fl a b) (hfn : fl.incFN = true) (c : Nat) :
    ResRel (ItEq fl) (ensureB K a c) (ensureB K b c) := by
  unfold ensureB
  rw [needLoadB_rel h hfn c]
  refine (ResRel.of_eq rfl).bind fun nl _ e => ?_
  subst e
  cases nl
  · exact h
  · exact loadChunkB_rel K h c

theorem consumeB_rel {a b : ItB} (h : ItEq fl a b) (hfn : fl.incFN = true) :
    ResRel (ItEq fl) (consumeB a) (consumeB b) := by
  unfold consumeB
  refine (h.fn hfn).elim trivial fun fa fb hd => ?_
  refine rd_rel hd (fun r => ?_) rfl rfl
  refine (ResRel.of_eq rfl).bind fun p _ e => ?_
  subst e
  obtain ⟨hasLocs, r'⟩ := p
  have h' := h.setFn (hd.setR r')
  dsimp only
  rw [congrArg RFlags.incL h.fla, congrArg RFlags.incL h.flb]
  cases hc : (fl.incL && hasLocs) with
  | false => exact h'
  | true =>
    refine (h.lc (Bool.and_eq_true_iff.mp hc).1).elim trivial fun la lb hld => ?_
    refine rd_rel hld (fun lr => ?_) rfl rfl
    refine (ResRel.of_eq rfl).bind fun lr' _ e => ?_
    subst e
    exact h'.setLc (hld.setR lr')

theorem currChunkNextB_rel (K : Codec) {a b : ItB} (h : ItEq fl a b) (hfn : fl.incFN = true) (c : Nat) :
    ResRel (ItEq fl) (currChunkNextB K a c) (currChunkNextB K b c) :=
  (ensureB_rel K h hfn c).bind fun _ _ h' => consumeB_rel h' hfn

theorem repeatSkipB_rel (K : Codec) (hfn : fl.incFN = true) (c k : Nat) : ∀ {a b : ItB},
    ItEq fl a b → ResRel (ItEq fl) (repeatSkipB K k a c) (repeatSkipB K k b c) := by
  induction k with
  | zero => exact fun h => h
  | succ k ih =>
    intro a b h
    rw [repeatSkipB, repeatSkipB]
    exact (currChunkNextB_rel K h hfn c).elim (fun _ _ h' => ih h') trivial trivial

theorem exclLoopB_rel (K : Codec) (n nChunk : Nat) : ∀ (rest : List Nat) {a b : ItB} (allN : Nat),
    ItEq fl a b →
    ResRel (fun x y => ItEq fl x.1 y.1 ∧ x.2 = y.2) (exclLoopB K n nChunk a allN rest)
      (exclLoopB K n nChunk b allN rest) := by
  intro rest a b allN h
  rw [exclLoopB, exclLoopB, congrArg RFlags.incFN h.fla, congrArg RFlags.incFN h.flb,
    show decide (allN ≥ nChunk * a.cs) = decide (allN ≥ nChunk * b.cs) by rw [h.cs]]
  have hstep : ResRel (ItEq fl)
      (if fl.incFN && decide (allN ≥ nChunk * b.cs) then currChunkNextB K a nChunk else .ok a)
      (if fl.incFN && decide (allN ≥ nChunk * b.cs) then currChunkNextB K b nChunk else .ok b) := by
    split
    · rename_i hc
      exact currChunkNextB_rel K h (Bool.and_eq_true_iff.mp hc).1 nChunk
    · exact h
  split
  · exact ⟨h, rfl⟩
  · refine hstep.elim (fun a' b' h' => ?_) trivial trivial
    cases rest with
    | nil => trivial
    | cons x r => exact exclLoopB_rel K n nChunk r x h'

/-- the relation on the results of `nextDocB` / `deliverB` / `stepB` -/
def RelOut {α : Type} (fl : RFlags) : α × ItB → α × ItB → Prop :=
  fun x y => x.1 = y.1 ∧ ItEq fl x.2 y.2

theorem nextDocB_rel (K : Codec) {a b : ItB} (h : ItEq fl a b) (d : Nat) :
    ResRel (RelOut fl) (nextDocB K a d) (nextDocB K b d) := by
  unfold nextDocB
  rw [← h.act]
  generalize a.act.dropWhile (· < d) = dw
  cases a.act with
  | nil => exact ⟨rfl, h⟩
  | cons n0 r0 =>
    dsimp only
    by_cases hc : a.clean = true
    · rw [if_pos hc, if_pos (h.clean.symm.trans hc), congrArg RFlags.incFN h.fla,
        congrArg RFlags.incFN h.flb]
      cases hfn : fl.incFN with
      | false =>
        simp only [Bool.not_false, if_true]
        cases dw with
        | nil => exact ⟨rfl, h.cursors rfl rfl⟩
        | cons n r => exact ⟨rfl, h.cursors rfl rfl⟩
      | true =>
        simp only [Bool.not_true, Bool.false_eq_true, if_false]
        rw [show cleanLoopB b.cs d n0 (n0 / b.cs) 0 r0 = cleanLoopB a.cs d n0 (n0 / a.cs) 0 r0 by
          rw [h.cs]]
        rcases cleanLoopB a.cs d n0 (n0 / a.cs) 0 r0 with ⟨n, nChunk, same, rest⟩
        dsimp only
        split
        · exact ⟨rfl, h.cursors rfl rfl⟩
        · refine (repeatSkipB_rel K hfn nChunk same (h.cursors rfl rfl)).elim (fun a' b' h' => ?_)
            trivial trivial
          dsimp only
          exact (ensureB_rel K h' hfn nChunk).elim (fun _ _ h'' => ⟨rfl, h''⟩) trivial trivial
    · rw [if_neg hc, if_neg fun e => hc (h.clean.trans e), ← h.all]
      cases dw with
      | nil => exact ⟨rfl, h.cursors rfl rfl⟩
      | cons n r =>
        dsimp only
        cases a.all with
        | nil => trivial
        | cons allN arest =>
          dsimp only
          rw [show n / b.cs = n / a.cs by rw [h.cs]]
          refine (exclLoopB_rel K n (n / a.cs) arest allN (h.cursors rfl rfl)).elim (fun p q hpq => ?_)
            trivial trivial
          obtain ⟨a', ra⟩ := p
          obtain ⟨b', rb⟩ := q
          obtain ⟨hab, rfl⟩ := hpq
          dsimp only
          rw [congrArg RFlags.incFN hab.fla, congrArg RFlags.incFN hab.flb]
          cases hfn : fl.incFN with
          | false => exact ⟨rfl, hab.cursors hab.act rfl⟩
          | true =>
            exact (ensureB_rel K (hab.cursors hab.act rfl) hfn (n / a.cs)).elim
              (fun _ _ h'' => ⟨rfl, h''⟩) trivial trivial

theorem deliverB_rel {a b : ItB} (h : ItEq fl a b) (n : Nat) :
    ResRel (RelOut fl) (deliverB a n) (deliverB b n) := by
  unfold deliverB
  rw [congrArg RFlags.incFN h.fla, congrArg RFlags.incFN h.flb]
  cases hfn : fl.incFN with
  | false => exact ⟨rfl, h⟩
  | true =>
    refine (h.fn hfn).elim trivial fun fa fb hd => ?_
    refine rd_rel hd (fun r => ?_) rfl rfl
    refine (ResRel.of_eq rfl).bind fun p _ e => ?_
    subst e
    obtain ⟨fnl, r'⟩ := p
    have h' := h.setFn (hd.setR r')
    dsimp only
    rw [congrArg RFlags.incL h.fla, congrArg RFlags.incL h.flb,
      show readLocsB b.fieldsInv = readLocsB a.fieldsInv by rw [h.finv]]
    cases hc : (fl.incL && fnl.2.2) with
    | false => exact ⟨rfl, h'⟩
    | true =>
      refine (h.lc (Bool.and_eq_true_iff.mp hc).1).elim trivial fun la lb hld => ?_
      refine rd_rel hld (fun lr => ?_) rfl rfl
      refine (ResRel.of_eq rfl).bind fun q _ e => ?_
      subst e
      exact ⟨rfl, h'.setLc (hld.setR q.2)⟩

theorem stepB_rel (K : Codec) {a b : ItB} (h : ItEq fl a b) (op : IterOp) :
    ResRel (RelOut fl) (stepB K a op) (stepB K b op) := by
  rw [stepB_eq, stepB_eq]
  refine (nextDocB_rel K h (Iter.dOf op)).elim (fun p q hpq => ?_) trivial trivial
  obtain ⟨oa, a'⟩ := p
  obtain ⟨ob, b'⟩ := q
  obtain ⟨rfl, hab⟩ := hpq
  cases oa with
  | none => exact ⟨rfl, hab⟩
  | some n => exact deliverB_rel hab n

theorem runB_rel (K : Codec) (ops : List IterOp) : ∀ {a b : ItB}, ItEq fl a b →
    runB K a ops = runB K b ops := by
  induction ops with
  | nil => exact fun _ => rfl
  | cons op ops ih =>
    intro a b h
    rw [runB, runB]
    refine (stepB_rel K h op).elim (fun p q hpq => ?_) rfl rfl
    obtain ⟨oa, a'⟩ := p
    obtain ⟨ob, b'⟩ := q
    obtain ⟨rfl, hab⟩ := hpq
    exact congrArg _ (ih hab)

theorem newSlot_rel (on : Bool) (file : Bool) (data : Bytes) (offset : Nat) {old : Option DecB}
    (ho : ResetSlot old) :
    ResRel (fun x y => on = true → SlotEq x y) (newSlot on file data offset old)
      (newSlot on file data offset none) := by
  unfold newSlot
  cases on with
  | false => exact nofun
  | true =>
    obtain ⟨tail1, e1⟩ := newDecB_eq file data offset old
    obtain ⟨tail2, e2⟩ := newDecB_eq file data offset none
    rw [if_pos rfl, if_pos rfl, e1, e2]
    cases Decoder.newWith file data offset with
    | err => trivial
    | panic => trivial
    | ok d =>
      refine fun _ => ⟨rfl, rfl, ?_, Or.inr ⟨?_, Or.inl rfl⟩⟩
      · rcases ho with rfl | ⟨u, rfl⟩ <;> rfl
      · rcases ho with rfl | ⟨u, rfl⟩
        · exact Or.inl rfl
        · show deadR (u.r.map (fun _ => (⟨[], 0⟩ : Rd)))
          cases u.r with
          | none => exact Or.inl rfl
          | some _ => exact Or.inr rfl

theorem iteratorB_rel (p : PLB) (fl : RFlags) (used : ItB) :
    ResRel (ItEq fl) (iteratorB p fl (some used)) (iteratorB p fl none) := by
  unfold iteratorB
  refine (newSlot_rel fl.incFN p.file p.data p.freqOffset (resetSlot_keptFn (some used))).bind
    fun f1 f2 hf => ?_
  refine (newSlot_rel fl.incL p.file p.data p.locOffset (resetSlot_keptLc (some used))).bind
    fun l1 l2 hl => ?_
  exact ⟨rfl, rfl, rfl, rfl, rfl, rfl, rfl, rfl, hf, hl⟩

theorem reuse_run (K : Codec) (p : PLB) (fl : RFlags) (used : ItB) :
    ResRel (fun i1 i0 => ∀ ops, runB K i1 ops = runB K i0 ops) (mkBReuse used p fl) (mkB p fl) :=
  (iteratorB_rel p fl used).imp fun _ _ h ops => runB_rel K ops h

end Ice.Model.IterBytes
