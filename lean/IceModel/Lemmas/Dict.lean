import IceModel.Model.Dict
import IceModel.Lemmas.Bits
/-
  Lemmas on the dictionary / postings-list model: what `read` produces for the two encodings,
  `count`/`orInto`/`iterDocs` of the result, lookups in `dictionary` and `fstGet`.
-/
namespace Ice.Model.Dict
open Ice Ice.Model

/-- a 1-hit value only sets the offset and the two 1-hit fields (whatever the version) -/
theorem read_1hit (ver : Version) (s : Seg) (p : PL) (v : Nat) (h : is1Hit v = true) :
    read ver s p v = .ok { p with postingsOffset := v, docNum1Hit := (decode1Hit v).1,
                                  normBits1Hit := (decode1Hit v).2 } := by
  simp [read, h]

/-- a readable general value, after the fix: the 1-hit markers are cleared -/
theorem read_fixed_general (s : Seg) (p : PL) (v : Nat) (r : Rec) (h : is1Hit v = false)
    (hs : s.store v = some r) (hm : s.chunkMode ≤ 1025) :
    ∃ cs, read fixed s p v = .ok { p with
      postingsOffset := v, docNum1Hit := 0, normBits1Hit := 0, freqOffset := r.freqOffset,
      locOffset := (if r.locOffset > 0 ∧ r.freqOffset > 0 then r.locOffset + r.freqOffset
                    else r.locOffset),
      postings := some r.docs, chunkSize := cs } := by
  obtain ⟨cs, hcs⟩ := getChunkSize_ok s.chunkMode r.docs.length s.numDocs hm
  refine ⟨cs, ?_⟩
  simp [read, h, hs, hcs, fixed]

theorem read_unreadable (ver : Version) (s : Seg) (p : PL) (v : Nat) (h : is1Hit v = false)
    (hs : s.store v = none) : read ver s p v = .err := by
  simp [read, h, hs]

theorem count_1hit (p : PL) (hn : p.normBits1Hit ≠ 0) (he : p.except = none) : count p = 1 := by
  simp [count, hn, he]

theorem count_general (p : PL) (ds : List Nat) (hn : p.normBits1Hit = 0) (he : p.except = none)
    (hp : p.postings = some ds) : count p = ds.length := by
  simp [count, hn, he, hp]

theorem iterDocs_fixed_general (p : PL) (ds : List Nat) (hn : p.normBits1Hit = 0)
    (he : p.except = none) (hp : p.postings = some ds) (hs : p.hasSeg = true) :
    iterDocs fixed p = .ok ds := by
  cases ds <;> simp [iterDocs, hn, he, hp, hs, fixed]

theorem dictionary_none (s : Seg) (f : Bytes) (h : (dictionary s f).fst = none) :
    dictionary s f = { hasSeg := false, fst := none } := by
  unfold dictionary at h ⊢
  split
  · rfl
  · next hp => rw [hp] at h; cases h

theorem dictionary_some (s : Seg) (f : Bytes) (fst : List (Bytes × Nat))
    (h : (dictionary s f).fst = some fst) :
    (dictionary s f).hasSeg = true ∧ ∃ fe ∈ s.fields, fe.2 = fst := by
  unfold dictionary at *
  split at h
  · simp at h
  · rename_i p hp
    simp at h
    exact ⟨rfl, p, List.mem_of_find?_eq_some hp, h⟩

theorem dictionary_unknown (s : Seg) (f : Bytes) (hf : ∀ fe ∈ s.fields, fe.1 ≠ f) :
    dictionary s f = { hasSeg := false, fst := none } := by
  unfold dictionary
  have : s.fields.find? (fun p => p.1 == f) = none := by
    simp only [List.find?_eq_none]
    intro x hx
    simpa using hf x hx
  simp [this]

theorem fstGet_mem (fst : List (Bytes × Nat)) (t : Bytes) (v : Nat) (h : fstGet fst t = some v) :
    ∃ e ∈ fst, e.2 = v := by
  unfold fstGet at h
  cases hfd : fst.find? (fun p => p.1 == t) with
  | none => simp [hfd] at h
  | some e =>
    simp [hfd] at h
    exact ⟨e, List.mem_of_find?_eq_some hfd, h⟩

end Ice.Model.Dict
