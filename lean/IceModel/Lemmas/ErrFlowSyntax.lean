import IceModel.Lemmas.ErrFlowCheck
/-
  Error flow, part 1 (syntax): structured programs, the flattening that the translator performs
  (`facts/errflow.go`), a parser for the flat event lists, the round trip, and the structured form
  of the checker `Bridge.ErrFlow.unchecked`.
-/
namespace Ice.ErrFlow
open Ice.Bridge.ErrFlow

/-- error-flow skeleton of a function body.
    `call c`  : `F:c`, a call whose error result is bound (or returned directly)
    `drop c`  : `D:c`, a call whose error result is discarded
    `ret b`   : `R:err` (`b = true`) / `R:nil` (`b = false`)
    `jump`    : `B`, break / continue / goto
    `block g body` : `{ … }`; `g = true` is `{:err`, the body of `if <error variable> != nil` -/
inductive Stmt where
  | call (callee : String)
  | drop (callee : String)
  | ret (isErr : Bool)
  | jump
  | block (errGuard : Bool) (body : List Stmt)
  deriving Repr

abbrev Prog := List Stmt

def openEv (g : Bool) : Ev := ("{", if g then "err" else "")
def retEv (b : Bool) : Ev := ("R", if b then "err" else "nil")
def closeEv : Ev := ("}", "")

mutual
/-- the events the translator emits for one statement -/
def flatS : Stmt → List Ev
  | .call c => [("F", c)]
  | .drop c => [("D", c)]
  | .ret b => [retEv b]
  | .jump => [("B", "")]
  | .block g body => openEv g :: (flat body ++ [closeEv])
def flat : List Stmt → List Ev
  | [] => []
  | s :: rest => flatS s ++ flat rest
end

@[simp] theorem flat_nil : flat [] = [] := by simp [flat]
@[simp] theorem flat_cons (s : Stmt) (rest : Prog) : flat (s :: rest) = flatS s ++ flat rest := by
  simp [flat]

theorem flat_append (p q : Prog) : flat (p ++ q) = flat p ++ flat q := by
  induction p with
  | nil => simp
  | cons s p ih => simp [ih]

inductive Tok where
  | stmt (s : Stmt)
  | opn (g : Bool)
  | cls
  | bad

def tok (e : Ev) : Tok :=
  if e.1 = "F" then .stmt (.call e.2)
  else if e.1 = "D" then .stmt (.drop e.2)
  else if e.1 = "R" then
    (if e.2 = "err" then .stmt (.ret true) else if e.2 = "nil" then .stmt (.ret false) else .bad)
  else if e.1 = "B" then (if e.2 = "" then .stmt .jump else .bad)
  else if e.1 = "{" then (if e.2 = "err" then .opn true else if e.2 = "" then .opn false else .bad)
  else if e.1 = "}" then (if e.2 = "" then .cls else .bad)
  else .bad

/-- `cur` : the statements of the innermost open block read so far (reversed);
    `stk` : the enclosing open blocks (their guard, and the statements read before them, reversed) -/
def parseAux : List Ev → List Stmt → List (Bool × List Stmt) → Option (List Stmt)
  | [], cur, [] => some cur.reverse
  | [], _, _ :: _ => none
  | e :: rest, cur, stk =>
    match tok e with
    | .stmt s => parseAux rest (s :: cur) stk
    | .opn g => parseAux rest [] ((g, cur) :: stk)
    | .cls =>
      match stk with
      | [] => none
      | (g, outer) :: stk' => parseAux rest (.block g cur.reverse :: outer) stk'
    | .bad => none

/-- the structured program of a flat event list (`none`: unbalanced braces or an unknown event) -/
def parse (l : List Ev) : Option Prog := parseAux l [] []

/-- what the parser has consumed when it is in state `(cur, stk)` -/
def consumed : List Stmt → List (Bool × List Stmt) → List Ev
  | cur, [] => flat cur.reverse
  | cur, (g, outer) :: stk => consumed outer stk ++ openEv g :: flat cur.reverse

/-- the events a token stands for -/
def Tok.evs : Tok → List Ev
  | .stmt s => flatS s
  | .opn g => [openEv g]
  | .cls => [closeEv]
  | .bad => []

/-- `tok` classifies an event as the token that flattens to it -/
theorem tok_evs {e : Ev} {t : Tok} (h : tok e = t) (ht : t ≠ .bad) : t.evs = [e] := by
  obtain ⟨k, n⟩ := e
  subst h
  unfold tok at ht ⊢
  dsimp only at ht ⊢
  -- down the cascade on the tag `k` by hand (`split` on the whole cascade is slow); the `then` branches
  -- are collected and closed together: there the tests on `n` say what `n` is
  by_cases h : k = "F"; rotate_left; rw [if_neg h] at ht ⊢; clear h
  by_cases h : k = "D"; rotate_left; rw [if_neg h] at ht ⊢; clear h
  by_cases h : k = "R"; rotate_left; rw [if_neg h] at ht ⊢; clear h
  by_cases h : k = "B"; rotate_left; rw [if_neg h] at ht ⊢; clear h
  by_cases h : k = "{"; rotate_left; rw [if_neg h] at ht ⊢; clear h
  by_cases h : k = "}"; rotate_left
  · rw [if_neg h] at ht; exact absurd rfl ht
  all_goals
    rw [if_pos h] at ht ⊢; subst h
    repeat' split at ht
    all_goals first | exact absurd rfl ht | (subst_vars; rfl)

theorem parseAux_flat : ∀ (l : List Ev) (cur : List Stmt) (stk : List (Bool × List Stmt)) (p : Prog),
    parseAux l cur stk = some p → flat p = consumed cur stk ++ l
  | [], cur, [], p, h => by
    simp only [parseAux, Option.some.injEq] at h
    subst h; simp [consumed]
  | [], _, _ :: _, p, h => by simp [parseAux] at h
  | e :: rest, cur, stk, p, h => by
    simp only [parseAux] at h
    split at h
    · rename_i s hs
      have := parseAux_flat rest (s :: cur) stk p h
      rw [this]
      have he : flatS s = [e] := tok_evs hs nofun
      cases stk with
      | nil => simp [consumed, flat_append, he]
      | cons fr stk => obtain ⟨g, outer⟩ := fr; simp [consumed, flat_append, he]
    · rename_i g hg
      have := parseAux_flat rest [] ((g, cur) :: stk) p h
      rw [this, ← List.singleton_inj.1 (tok_evs hg nofun)]
      cases stk with
      | nil => simp [consumed]
      | cons fr stk => obtain ⟨g', outer⟩ := fr; simp [consumed]
    · rename_i hc
      split at h
      · cases h
      · rename_i g outer stk'
        have := parseAux_flat rest (.block g cur.reverse :: outer) stk' p h
        rw [this, ← List.singleton_inj.1 (tok_evs hc nofun)]
        cases stk' with
        | nil => simp [consumed, flat_append, flatS]
        | cons fr stk => obtain ⟨g', outer'⟩ := fr; simp [consumed, flat_append, flatS]
    · cases h

theorem parse_flat {l : List Ev} {p : Prog} (h : parse l = some p) : flat p = l := by
  have := parseAux_flat l [] [] p h
  simpa [consumed] using this

@[simp] theorem tok_call (c : String) : tok ("F", c) = .stmt (.call c) := by simp [tok]
@[simp] theorem tok_drop (c : String) : tok ("D", c) = .stmt (.drop c) := by simp [tok]
@[simp] theorem tok_ret (b : Bool) : tok (retEv b) = .stmt (.ret b) := by
  cases b <;> simp [tok, retEv]
@[simp] theorem tok_jump : tok ("B", "") = .stmt .jump := by simp [tok]
@[simp] theorem tok_open (g : Bool) : tok (openEv g) = .opn g := by
  cases g <;> simp [tok, openEv]
@[simp] theorem tok_close : tok closeEv = .cls := by simp [tok, closeEv]

mutual
theorem parseAux_flatS : ∀ (s : Stmt) (tail : List Ev) (cur : List Stmt) (stk : List (Bool × List Stmt)),
    parseAux (flatS s ++ tail) cur stk = parseAux tail (s :: cur) stk
  | .call c, tail, cur, stk => by simp [flatS, parseAux]
  | .drop c, tail, cur, stk => by simp [flatS, parseAux]
  | .ret b, tail, cur, stk => by simp [flatS, parseAux]
  | .jump, tail, cur, stk => by simp [flatS, parseAux]
  | .block g body, tail, cur, stk => by
    have := parseAux_flatL body (closeEv :: tail) [] ((g, cur) :: stk)
    simp only [flatS, List.cons_append, List.append_assoc, List.nil_append, parseAux, tok_open]
    rw [this]
    simp [parseAux]
theorem parseAux_flatL : ∀ (p : List Stmt) (tail : List Ev) (cur : List Stmt) (stk : List (Bool × List Stmt)),
    parseAux (flat p ++ tail) cur stk = parseAux tail (p.reverse ++ cur) stk
  | [], tail, cur, stk => by simp
  | s :: rest, tail, cur, stk => by
    have h1 := parseAux_flatS s (flat rest ++ tail) cur stk
    have h2 := parseAux_flatL rest tail (s :: cur) stk
    simp only [flat_cons, List.append_assoc]
    rw [h1, h2]
    simp
end

theorem parse_flat_eq (p : Prog) : parse (flat p) = some p := by
  have := parseAux_flatL p [] [] []
  simp only [List.append_nil] at this
  simp [parse, this, parseAux]

theorem flat_injective {p q : Prog} (h : flat p = flat q) : p = q := by
  have h1 := parse_flat_eq p
  rw [h, parse_flat_eq q] at h1
  exact (Option.some.inj h1).symm

/-- the statements after a call are its check: `R err`, `{:err R err }` or `{:err F R err }` -/
def checkedNext : List Stmt → Bool
  | .ret true :: _ => true
  | .block true [.ret true] :: _ => true
  | .block true [.call _, .ret true] :: _ => true
  | _ => false

mutual
def uncheckedStmt : Stmt → List String
  | .block _ body => uncheckedS body
  | _ => []
/-- structured form of `Bridge.ErrFlow.unchecked` -/
def uncheckedS : List Stmt → List String
  | [] => []
  | s :: rest =>
    (match s with
      | .call c => if checkedNext rest then [] else [c]
      | _ => []) ++ uncheckedStmt s ++ uncheckedS rest
end

def isCheckF : List Ev → Bool
  | ("R", "err") :: _ => true
  | ("{", "err") :: ("R", "err") :: ("}", _) :: _ => true
  | ("{", "err") :: ("F", _) :: ("R", "err") :: ("}", _) :: _ => true
  | _ => false

theorem unchecked_cons (e : Ev) (rest : List Ev) :
    unchecked (e :: rest) =
      if e.1 = "F" then (if isCheckF rest then unchecked rest else e.2 :: unchecked rest)
      else unchecked rest := by
  rw [unchecked.eq_def]
  simp only
  by_cases h : e.1 = "F"
  · simp only [h, if_true]
    unfold isCheckF
    split
    · simp
    · simp
    · simp
    · rename_i h1 h2 h3
      split
      · exact absurd rfl (h1 _)
      · exact absurd rfl (h2 _ _)
      · exact absurd rfl (h3 _ _ _)
      · simp
  · simp [h]

/-- what may follow the flat form of a statement list: nothing, or the `}` of the enclosing block -/
def TailOK (tail : List Ev) : Prop := ∀ e ∈ tail.head?, e.1 = "}"

theorem tailOK_nil : TailOK [] := by simp [TailOK]
theorem tailOK_close (t : List Ev) : TailOK (closeEv :: t) := by simp [TailOK, closeEv]

theorem isCheckF_tail {tail : List Ev} (ht : TailOK tail) : isCheckF tail = false := by
  unfold isCheckF
  split <;> simp_all [TailOK]

/-- the first event of a statement is never a closing brace -/
theorem flatS_head (s : Stmt) : ∃ e l, flatS s = e :: l ∧ e.1 ≠ "}" := by
  cases s with
  | call c => exact ⟨("F", c), [], rfl, by simp⟩
  | drop c => exact ⟨("D", c), [], rfl, by simp⟩
  | ret b => exact ⟨retEv b, [], rfl, by cases b <;> decide⟩
  | jump => exact ⟨("B", ""), [], rfl, by decide⟩
  | block g body => exact ⟨openEv g, flat body ++ [closeEv], rfl, by cases g <;> decide⟩

theorem isCheckF_flat (rest : List Stmt) (tail : List Ev) (ht : TailOK tail) :
    isCheckF (flat rest ++ tail) = checkedNext rest := by
  -- along the patterns of `checkedNext`; every case computes, except a guarded body that goes on
  -- after its `R err`: there the next event is no `}` (`flatS_head`)
  match rest with
  | [] => simpa [checkedNext] using isCheckF_tail ht
  | .call c :: _ => rfl
  | .drop c :: _ => rfl
  | .jump :: _ => rfl
  | .ret true :: _ => rfl
  | .ret false :: _ => rfl
  | .block false _ :: _ => rfl
  | .block true [] :: _ => rfl
  | .block true (.drop _ :: _) :: _ => rfl
  | .block true (.jump :: _) :: _ => rfl
  | .block true (.block _ _ :: _) :: _ => rfl
  | .block true (.ret false :: _) :: _ => rfl
  | .block true [.ret true] :: _ => rfl
  | .block true (.ret true :: s :: _) :: _ =>
    obtain ⟨e, l, he, hne⟩ := flatS_head s
    obtain ⟨k, n⟩ := e
    simp [flatS, openEv, retEv, closeEv, isCheckF, checkedNext, he]
    split <;> simp_all
  | .block true [.call _] :: _ => rfl
  | .block true (.call _ :: .call _ :: _) :: _ => rfl
  | .block true (.call _ :: .drop _ :: _) :: _ => rfl
  | .block true (.call _ :: .jump :: _) :: _ => rfl
  | .block true (.call _ :: .block _ _ :: _) :: _ => rfl
  | .block true (.call _ :: .ret false :: _) :: _ => rfl
  | .block true [.call _, .ret true] :: _ => rfl
  | .block true (.call _ :: .ret true :: s :: _) :: _ =>
    obtain ⟨e, l, he, hne⟩ := flatS_head s
    obtain ⟨k, n⟩ := e
    simp [flatS, openEv, retEv, closeEv, isCheckF, checkedNext, he]
    split <;> simp_all

mutual
theorem unchecked_flatS : ∀ (s : Stmt) (X : List Ev),
    unchecked (flatS s ++ X) =
      (match s with
        | .call c => if isCheckF X then [] else [c]
        | _ => []) ++ uncheckedStmt s ++ unchecked X
  | .call c, X => by
    simp only [flatS, List.cons_append, List.nil_append, unchecked_cons, if_true, uncheckedStmt]
    split <;> simp
  | .drop c, X => by simp [flatS, unchecked_cons, uncheckedStmt]
  | .ret b, X => by simp [flatS, unchecked_cons, uncheckedStmt, retEv]
  | .jump, X => by simp [flatS, unchecked_cons, uncheckedStmt]
  | .block g body, X => by
    have := unchecked_flatL body (closeEv :: X) (tailOK_close X)
    simp only [flatS, List.cons_append, List.append_assoc, List.nil_append, unchecked_cons, uncheckedStmt]
    simp only [closeEv] at this ⊢
    rw [this]
    simp [openEv, unchecked_cons]
theorem unchecked_flatL : ∀ (p : List Stmt) (tail : List Ev), TailOK tail →
    unchecked (flat p ++ tail) = uncheckedS p ++ unchecked tail
  | [], tail, _ => by simp [uncheckedS]
  | s :: rest, tail, ht => by
    have h1 := unchecked_flatS s (flat rest ++ tail)
    have h2 := unchecked_flatL rest tail ht
    have h3 := isCheckF_flat rest tail ht
    rw [flat_cons, List.append_assoc, h1, h2, h3]
    cases s <;> simp [uncheckedS]
end

theorem unchecked_flat (p : Prog) : unchecked (flat p) = uncheckedS p := by
  have := unchecked_flatL p [] tailOK_nil
  simpa [unchecked] using this

theorem unchecked_parse {l : List Ev} {p : Prog} (h : parse l = some p) :
    unchecked l = uncheckedS p := by
  rw [← parse_flat h, unchecked_flat]

end Ice.ErrFlow
