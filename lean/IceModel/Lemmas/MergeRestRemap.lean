import IceModel.Model.MergeRest
import IceModel.Lemmas.Merge
import IceModel.Lemmas.Stored
import IceModel.Lemmas.DocValues
/-
  The document-number side of `mergeStoredAndRemap` and `computeNewDocCount`: whatever the stored
  bytes are, IF the segment loop returns, the maps it returns are `Spec.remapAll` (with
  `docDropped` for `none`), one per input segment.  In front, list facts both the stored and
  the doc-value part use: a list sorted by a key is the concatenation of its buckets, and indexing
  a parallel list through `zipIdx` is zipping.
-/
namespace Ice.Model.MergeRest
open Ice Ice.Model Ice.Spec

/-- how `newDocNums` shows a deleted document -/
def encNum : Option Nat → Nat
  | none => docDropped
  | some k => k

theorem filter_key_split {α : Type} (key : α → Nat) (n : Nat) : ∀ (L : List α),
    L.Pairwise (fun a b => key a ≤ key b) → (∀ p ∈ L, key p ≤ n) →
    L = (L.filter fun p => decide (key p < n)) ++ L.filter fun p => key p == n := by
  intro L
  induction L with
  | nil => intro _ _; rfl
  | cons p r ih =>
    intro hs hb
    have hs' := List.pairwise_cons.1 hs
    have hr := ih hs'.2 (fun q hq => hb q (by simp [hq]))
    by_cases hp : key p < n
    · have hne : ¬ key p = n := by omega
      simp only [List.filter_cons, hp, decide_true, if_true, beq_iff_eq, hne, if_false,
        List.cons_append]
      exact congrArg _ hr
    · have hall : ∀ q ∈ p :: r, key q = n := by
        intro q hq
        have := hb q hq
        rcases List.mem_cons.1 hq with rfl | hq'
        · omega
        · have := hs'.1 q hq'
          have := hb p (by simp)
          omega
      rw [List.filter_eq_nil_iff.2 (fun q hq => by simp [hall q hq]),
        List.filter_eq_self.2 (fun q hq => by simp [hall q hq]), List.nil_append]

theorem flatMap_range_filter_key {α : Type} (key : α → Nat) : ∀ (n : Nat) (L : List α),
    L.Pairwise (fun a b => key a ≤ key b) → (∀ p ∈ L, key p < n) →
    (List.range n).flatMap (fun m => L.filter fun p => key p == m) = L := by
  intro n
  induction n with
  | zero =>
    intro L _ hb
    cases L with
    | nil => rfl
    | cons p _ => exact absurd (hb p (by simp)) (Nat.not_lt_zero _)
  | succ n ih =>
    intro L hs hb
    rw [List.range_succ, List.flatMap_append]
    simp only [List.flatMap_cons, List.flatMap_nil, List.append_nil]
    have h1 : (List.range n).flatMap (fun m => L.filter fun p => key p == m) =
        (List.range n).flatMap
          (fun m => (L.filter fun p => decide (key p < n)).filter fun p => key p == m) := by
      apply flatMap_congr'
      intro m hm
      have hmn := List.mem_range.1 hm
      rw [List.filter_filter]
      apply List.filter_congr
      intro p _
      by_cases he : key p = m
      · simp [he, hmn]
      · simp [he]
    rw [h1, ih _ (hs.filter _) (fun p hp => by simpa using (List.mem_filter.1 hp).2)]
    exact (filter_key_split key n L hs (fun p hp => Nat.le_of_lt_succ (hb p hp))).symm

theorem zipIdx_map_getD {α β : Type} (dflt : β) : ∀ (S : List α) (N : List β) (k : Nat),
    k + S.length ≤ N.length →
    (S.zipIdx k).map (fun p => (p.1, N.getD p.2 dflt)) = S.zip (N.drop k) := by
  intro S
  induction S with
  | nil => intro N k _; rfl
  | cons s S ih =>
    intro N k h
    simp only [List.length_cons] at h
    have hk : k < N.length := by omega
    rw [List.zipIdx_cons, List.map_cons, ih N (k + 1) (by omega), List.drop_eq_getElem_cons hk,
      List.zip_cons_cons, ← List.getElem_eq_getD (h := hk)]

theorem computeNewDocCount_fold (l : List (Nat × List Nat))
    (hv : ∀ p ∈ l, p.2.Nodup ∧ ∀ x ∈ p.2, x < p.1) : ∀ (acc : Nat),
    acc + (l.map (·.1)).sum < 2 ^ 64 →
    l.foldl (fun acc p => DocValues.sub64 (DocValues.add64 acc p.1) p.2.length) acc =
      acc + (l.map (fun p => liveCount p.2 p.1)).sum := by
  induction l with
  | nil => intro acc _; simp
  | cons p r ih =>
    intro acc hb
    simp only [List.map_cons, List.sum_cons] at hb ⊢
    have hp := hv p (by simp)
    have hl := liveCount_valid p.2 p.1 hp.1 hp.2
    have hlen : p.2.length ≤ p.1 := by
      simpa using hp.1.length_le_of_subset (l₂ := List.range p.1) fun x hx => List.mem_range.2 (hp.2 x hx)
    have hA : acc + p.1 < 2 ^ 64 := by omega
    rw [List.foldl_cons, DocValues.add64_small hA,
      DocValues.sub64_small hA (Nat.le_trans hlen (Nat.le_add_left _ _)),
      ih (fun q hq => hv q (by simp [hq])) _ (by omega)]
    omega

theorem computeNewDocCount_eq (l : List (Nat × List Nat))
    (hv : ∀ p ∈ l, p.2.Nodup ∧ ∀ x ∈ p.2, x < p.1) (hb : (l.map (·.1)).sum < 2 ^ 64) :
    computeNewDocCount l = (l.map fun p => liveCount p.2 p.1).sum := by
  simpa [computeNewDocCount] using computeNewDocCount_fold l hv 0 (by simpa using hb)

theorem isDropped_small (drops : List Nat) (d : Nat) (h : d < 2 ^ 32) :
    isDropped drops d = drops.contains d := by
  unfold isDropped; rw [Nat.mod_eq_of_lt h]

section
open Ice.Model.Stored

theorem remapSegLoop_append (cd : Codec) (src : Src) (drops : List Nat)
    (fm : Builder.AMap Bytes Nat) (nM : Nat) (a b : List Nat) : ∀ (st : MS) (seen : List Nat),
    remapSegLoop cd src drops fm nM (a ++ b) st seen =
      Res.bind (remapSegLoop cd src drops fm nM a st seen) fun p =>
        remapSegLoop cd src drops fm nM b p.1 p.2 := by
  induction a with
  | nil => intro st seen; rfl
  | cons d a ih =>
    intro st seen
    simp only [List.cons_append, remapSegLoop]
    split
    · exact ih _ _
    · cases visit cd src.seg st.vdc d none with
      | err => rfl
      | panic => rfl
      | ok dv =>
        simp only [Res.bind_ok]
        cases collectVals src.fields fm dv.1 (List.replicate nM []) with
        | err => rfl
        | panic => rfl
        | ok vals =>
          simp only [Res.bind_ok]
          split
          · exact ih _ _
          · rfl

theorem remapSegment_nums (cd : Codec) (src : Src) (drops : List Nat)
    (fm : Builder.AMap Bytes Nat) (nM : Nat) (st st' : MS) (seen' : List Nat)
    (hn : src.seg.numDocs ≤ 2 ^ 32)
    (h : remapSegment cd src drops fm nM st = .ok (st', seen')) :
    seen' = (remapList src.seg.numDocs drops st.newDocNum).map encNum ∧
    st'.newDocNum = st.newDocNum + liveCount drops src.seg.numDocs := by
  unfold remapSegment at h
  generalize src.seg.numDocs = n at hn h
  induction n generalizing st' seen' with
  | zero =>
    simp only [List.range_zero, remapSegLoop, Res.ok.injEq, Prod.mk.injEq] at h
    obtain ⟨rfl, rfl⟩ := h
    exact ⟨rfl, rfl⟩
  | succ n ih =>
    rw [List.range_succ, remapSegLoop_append] at h
    obtain ⟨⟨st1, seen1⟩, h1, h⟩ := DocValues.bind_eq_ok h
    obtain ⟨rfl, e2⟩ := ih st1 seen1 (by omega) h1
    rw [remapSegLoop, isDropped_small drops n (by omega)] at h
    rw [remapList_succ, liveCount_succ, List.map_append]
    have hlast : ∀ {x : Nat} {st2 : MS} {seen2 : List Nat},
        remapSegLoop cd src drops fm nM [] st2 (seen2 ++ [x]) = .ok (st', seen') →
        seen' = seen2 ++ [x] ∧ st'.newDocNum = st2.newDocNum := by
      intro x st2 seen2 h
      simp only [remapSegLoop, Res.ok.injEq, Prod.mk.injEq] at h
      exact ⟨h.2.symm, by rw [h.1]⟩
    split at h
    · next hc =>
      obtain ⟨rfl, e⟩ := hlast h
      rw [if_pos hc, if_pos hc, e, e2]
      exact ⟨rfl, rfl⟩
    · next hc =>
      obtain ⟨dv, _, h⟩ := DocValues.bind_eq_ok h
      obtain ⟨vals, _, h⟩ := DocValues.bind_eq_ok h
      split at h
      · obtain ⟨rfl, e⟩ := hlast h
        rw [if_neg hc, if_neg hc, e, e2]
        exact ⟨rfl, rfl⟩
      · cases h

theorem remapList_nil (n start : Nat) :
    remapList n [] start = (List.range n).map fun d => some (start + d) := by
  simp [remapList, liveCount_nil]

theorem remap_nil (n start : Nat) :
    remap n [] start = ((List.range n).map (fun d => some (start + d)), start + n) := by
  rw [remap_eq, remapList_nil, liveCount_nil]

theorem segLoop_nums (cd : Codec) (drops : List (List Nat)) (fm : Builder.AMap Bytes Nat)
    (nM : Nat) (same : Bool) : ∀ (srcs : List Src) (k : Nat) (st : MS) (acc : List (List Nat))
    (st' : MS) (acc' : List (List Nat)), (∀ s ∈ srcs, s.seg.numDocs ≤ 2 ^ 32) →
    segLoop cd drops fm nM same (srcs.zipIdx k) st acc = .ok (st', acc') →
    acc' = acc ++ (remapAll ((srcs.zip (drops.drop k)).map fun q => (q.1.seg.numDocs, q.2))
      st.newDocNum).map (·.map encNum) ∧
    st'.newDocNum = st.newDocNum +
      ((srcs.zip (drops.drop k)).map fun q => liveCount q.2 q.1.seg.numDocs).sum := by
  intro srcs
  induction srcs with
  | nil =>
    intro k st acc st' acc' _ h
    simp only [List.zipIdx_nil, segLoop, Res.ok.injEq, Prod.mk.injEq] at h
    obtain ⟨rfl, rfl⟩ := h
    simp [remapAll]
  | cons src r ih =>
    intro k st acc st' acc' hl h
    have hr : ∀ s ∈ r, s.seg.numDocs ≤ 2 ^ 32 := fun s hs => hl s (List.mem_cons_of_mem _ hs)
    rw [List.zipIdx_cons, segLoop] at h
    cases hd : drops[k]? with
    | none => rw [hd] at h; cases h
    | some dropsI =>
      rw [hd] at h
      simp only at h
      obtain ⟨hk, rfl⟩ := List.getElem?_eq_some_iff.1 hd
      rw [List.drop_eq_getElem_cons hk, List.zip_cons_cons, List.map_cons, remapAll_cons,
        List.map_cons, List.map_cons, List.sum_cons, ← Nat.add_assoc]
      split at h
      · next hcopy =>
        simp only [Bool.and_eq_true, beq_iff_eq] at hcopy
        rw [List.length_eq_zero_iff.mp hcopy.2]
        obtain ⟨cs, _, h⟩ := DocValues.bind_eq_ok h
        obtain ⟨h1, h2⟩ := ih _ _ _ _ _ hr h
        rw [h1, h2, remapList_nil, liveCount_nil]
        simp [encNum, Function.comp_def]
      · obtain ⟨⟨st1, seen1⟩, hc, h⟩ := DocValues.bind_eq_ok h
        obtain ⟨g1, g2⟩ := remapSegment_nums cd src drops[k] fm nM st st1 seen1
          (hl src List.mem_cons_self) hc
        obtain ⟨h1, h2⟩ := ih _ _ _ _ _ hr h
        rw [h1, h2, g1, g2]
        simp

/-- the argument of `computeNewDocCount` in `mergeStored` -/
theorem zipIdx_map_numDocs_getD {γ : Type} (X : List γ) (f : γ → Src) (g : γ → List Nat) :
    ((X.map f).zipIdx.map fun p => (p.1.seg.numDocs, (X.map g).getD p.2 [])) =
      X.map fun x => ((f x).seg.numDocs, g x) := by
  have := congrArg (List.map fun q : Src × List Nat => (q.1.seg.numDocs, q.2))
    (zipIdx_map_getD [] (X.map f) (X.map g) 0 (by simp))
  rw [List.drop_zero, List.zip_map', List.map_map, List.map_map] at this
  exact this

end

end Ice.Model.MergeRest
