import IceModel.Model.ChunkBytes
import IceModel.Lemmas.Varint
import IceModel.Lemmas.Bits
import IceModel.Lemmas.Ends
/-
  The readers of Model/ChunkBytes.lean on what the writers wrote.
  Entries ↔ bytes of one chunk: a reader stands at cursor `C` of a slice `S` in front of something
  written when `S.drop C = written ++ rest`; the `_drop` lemmas say what it returns there and that
  it stops `written.length` bytes further on.  On any bytes, written or not, the location loop
  never uses up its fuel (`readLocsLoop_fuel`).
  `chunkedIntCoder`: `Inv` is the state in the middle of a run of `Add`s, `Done` the state after the
  last `Close`; `Fresh` and `TailZero` are what makes a coder reusable.
  `chunkedIntDecoder` on a stream `header L ++ body` that stands at a non-zero offset of the data
  (`Decoder.newWith_enc`, `Decoder.loadChunk_enc`).
  What the `Add` calls of the postings writer put into chunk `c` (`bytesOfChunk_tfAdds`,
  `bytesOfChunk_locAdds`).
-/
namespace Ice.Model.ChunkBytes
open Ice Ice.Model

@[simp] theorem ok_bind {α β : Type} (a : α) (f : α → Res β) : (Res.ok a >>= f) = f a := rfl
@[simp] theorem err_bind {α β : Type} (f : α → Res β) : ((Res.err : Res α) >>= f) = .err := rfl
@[simp] theorem panic_bind {α β : Type} (f : α → Res β) : ((Res.panic : Res α) >>= f) = .panic := rfl
@[simp] theorem pure_eq_ok {α : Type} (a : α) : (pure a : Res α) = .ok a := rfl

theorem bind_eq_ok {α β : Type} {x : Res α} {f : α → Res β} {b : β} :
    (x >>= f) = .ok b ↔ ∃ a, x = .ok a ∧ f a = .ok b := by
  cases x <;> simp

theorem Rd.readUvarint_drop {S B : Bytes} {C x : Nat} (h : S.drop C = putUvarint x ++ B)
    (hx : x < two64) :
    Rd.readUvarint ⟨S, C⟩ = .ok (x, ⟨S, C + (putUvarint x).length⟩) := by
  simp only [Rd.readUvarint, h, readUvarint_put x B hx]

theorem Rd.skipUvarint_drop {S B : Bytes} {C x : Nat} (h : S.drop C = putUvarint x ++ B) :
    Rd.skipUvarint ⟨S, C⟩ = .ok ⟨S, C + (putUvarint x).length⟩ := by
  simp only [Rd.skipUvarint, h, skipUvarint_put x B]

theorem readFreqNormHasLocs_drop {S B : Bytes} {C : Nat} {e : Entry} (hv : e.Valid)
    (h : S.drop C = encFN e ++ B) :
    readFreqNormHasLocs ⟨S, C⟩ =
      .ok ((e.freq, e.norm, !e.locs.isEmpty), ⟨S, C + (encFN e).length⟩) := by
  obtain ⟨hf, hn, -, -⟩ := hv
  rw [encFN, List.append_assoc] at h
  simp only [readFreqNormHasLocs, Rd.readUvarint_drop h (encodeFreqHasLocs_lt _ _ hf), ok_bind,
    decode_encodeFreqHasLocs _ _ hf, Rd.readUvarint_drop (drop_append_next h) hn, pure_eq_ok, encFN,
    List.length_append, Nat.add_assoc]

theorem skipFreqNormReadHasLocs_drop {S B : Bytes} {C : Nat} {e : Entry} (hv : e.Valid)
    (h : S.drop C = encFN e ++ B) :
    skipFreqNormReadHasLocs ⟨S, C⟩ =
      .ok (!e.locs.isEmpty, ⟨S, C + (encFN e).length⟩) := by
  have hf := hv.1
  rw [encFN, List.append_assoc] at h
  have hb : (encodeFreqHasLocs e.freq (!e.locs.isEmpty) % 2 != 0) = !e.locs.isEmpty :=
    (Prod.mk.inj (decode_encodeFreqHasLocs e.freq (!e.locs.isEmpty) hf)).2
  simp only [skipFreqNormReadHasLocs, Rd.readUvarint_drop h (encodeFreqHasLocs_lt _ _ hf), ok_bind,
    Rd.skipUvarint_drop (drop_append_next h), pure_eq_ok, hb, encFN, List.length_append, Nat.add_assoc]

theorem readLocation_drop {S B : Bytes} {C : Nat} {l : BLoc} (hv : l.Valid)
    (h : S.drop C = encLoc l ++ B) :
    readLocation ⟨S, C⟩ = .ok (l, ⟨S, C + (encLoc l).length⟩) := by
  obtain ⟨h1, h2, h3, h4⟩ := hv
  simp only [encLoc, List.append_assoc] at h
  have d2 := drop_append_next h
  have d3 := drop_append_next d2
  simp only [readLocation, Rd.readUvarint_drop h h1, Rd.readUvarint_drop d2 h2,
    Rd.readUvarint_drop d3 h3, Rd.readUvarint_drop (drop_append_next d3) h4, ok_bind, pure_eq_ok]
  simp only [encLoc, List.length_append, Nat.add_assoc]

theorem encLoc_length_pos (l : BLoc) : 0 < (encLoc l).length := by
  rw [encLoc, List.length_append]
  exact Nat.lt_of_lt_of_le (putUvarint_length_pos l.stop) (Nat.le_add_left _ _)

theorem encLoc_length_le (l : BLoc) (hv : l.Valid) : (encLoc l).length ≤ 40 := by
  obtain ⟨h1, h2, h3, h4⟩ := hv
  simp only [encLoc, List.length_append]
  exact Nat.add_le_add (Nat.add_le_add (Nat.add_le_add (putUvarint_length_le_ten _ h1)
    (putUvarint_length_le_ten _ h2)) (putUvarint_length_le_ten _ h3)) (putUvarint_length_le_ten _ h4)

theorem totalUvarintBytes_eq (l : BLoc) :
    totalUvarintBytes l.fieldID l.pos l.start l.stop = (encLoc l).length := by
  simp only [totalUvarintBytes, encLoc, numUvarintBytes_eq_length, List.length_append]

theorem numBytesLocs_eq (e : Entry) : numBytesLocs e = (e.locs.flatMap encLoc).length := by
  have h : ∀ (ls : List BLoc) (n : Nat),
      ls.foldl (fun n l => n + totalUvarintBytes l.fieldID l.pos l.start l.stop) n
        = n + (ls.flatMap encLoc).length := by
    intro ls
    induction ls with
    | nil => intro n; rfl
    | cons l ls ih =>
      intro n
      rw [List.foldl_cons, ih, totalUvarintBytes_eq, List.flatMap_cons, List.length_append,
        Nat.add_assoc]
  rw [numBytesLocs, h, Nat.zero_add]

theorem length_le_flatMap {α : Type} {f : α → Bytes} (h : ∀ x, 0 < (f x).length) (l : List α) :
    l.length ≤ (l.flatMap f).length := by
  induction l with
  | nil => exact Nat.le_refl 0
  | cons x t ih =>
    rw [List.flatMap_cons, List.length_append, List.length_cons, Nat.add_comm]
    exact Nat.add_le_add (h x) ih

theorem length_flatMap_le {α : Type} {f : α → Bytes} {k : Nat} (l : List α)
    (h : ∀ x ∈ l, (f x).length ≤ k) : (l.flatMap f).length ≤ k * l.length := by
  induction l with
  | nil => exact Nat.le_refl 0
  | cons x t ih =>
    rw [List.flatMap_cons, List.length_append, List.length_cons, Nat.mul_succ, Nat.add_comm]
    exact Nat.add_le_add (ih fun y hy => h y (List.mem_cons_of_mem _ hy)) (h x List.mem_cons_self)

/-- at most 40 bytes per location and fewer than `2^57` locations -/
theorem numBytesLocs_lt (e : Entry) (hv : e.Valid) : numBytesLocs e < two63 := by
  rw [numBytesLocs_eq]
  exact Nat.lt_of_le_of_lt
    (length_flatMap_le e.locs fun l hl => encLoc_length_le l (hv.2.2.2 l hl))
    (Nat.lt_of_lt_of_le (Nat.mul_lt_mul_of_pos_left hv.2.2.1 (by decide)) (by decide))

/-- One iteration of the loop that was entered with `nlb + B.length` bytes left, in front of a
    written location followed by `T ++ B`, all of it but `B` belonging to the `nlb` bytes. -/
theorem readLocsLoop_encLoc {S T B : Bytes} {C nlb : Nat} {l : BLoc} (hv : l.Valid)
    (h : S.drop C = encLoc l ++ (T ++ B)) (hle : (encLoc l).length + T.length ≤ nlb)
    (fuel : Nat) (cap : Option Nat) (j : Nat) (acc : List BLoc) :
    readLocsLoop (fuel + 1) cap (nlb + B.length) nlb j ⟨S, C⟩ acc =
      if capOk cap j then
        readLocsLoop fuel cap (nlb + B.length) nlb (j + 1) ⟨S, C + (encLoc l).length⟩ (acc ++ [l])
      else .panic := by
  have hpos := encLoc_length_pos l
  have hlen := congrArg List.length h
  simp only [List.length_drop, List.length_append] at hlen
  have hlt : nlb + B.length - (S.length - C) < nlb := by
    rw [hlen, ← Nat.add_assoc, Nat.add_sub_add_right]
    exact Nat.sub_lt (Nat.lt_of_lt_of_le (Nat.lt_of_lt_of_le hpos (Nat.le_add_right _ _)) hle)
      (Nat.lt_of_lt_of_le hpos (Nat.le_add_right _ _))
  rw [readLocsLoop, Rd.len, if_pos hlt, readLocation_drop hv h]

/-- `B` lies behind the `nlb` bytes, so the loop was entered with `nlb + B.length` bytes left;
    `cap = some f` is `len(nextLocs) = f`, and the `panic` is `nextLocs[f]`. -/
theorem readLocsLoop_drop {S B : Bytes} {nlb : Nat} (cap : Option Nat) :
    ∀ (todo : List BLoc) (fuel j C : Nat) (acc : List BLoc),
      (∀ l ∈ todo, l.Valid) → S.drop C = todo.flatMap encLoc ++ B →
      (todo.flatMap encLoc).length ≤ nlb → todo.length < fuel → cap.all (j ≤ ·) = true →
      readLocsLoop fuel cap (nlb + B.length) nlb j ⟨S, C⟩ acc
        = if cap.all (j + todo.length ≤ ·) then
            .ok (acc ++ todo, ⟨S, C + (todo.flatMap encLoc).length⟩)
          else .panic := by
  intro todo
  induction todo with
  | nil =>
    intro fuel j C acc _ hdrop _ hfuel hj
    obtain ⟨f, rfl⟩ := Nat.exists_eq_add_one.mpr hfuel
    have hlen := congrArg List.length hdrop
    rw [List.length_drop] at hlen
    rw [readLocsLoop, Rd.len, hlen, if_neg (by simp), List.append_nil]
    exact (if_pos hj).symm
  | cons l t ih =>
    intro fuel j C acc hv hdrop hle hfuel hj
    obtain ⟨f, rfl⟩ := Nat.exists_eq_add_one.mpr (Nat.zero_lt_of_lt hfuel)
    simp only [List.flatMap_cons, List.length_append, List.append_assoc, List.length_cons]
      at hdrop hle hfuel ⊢
    rw [readLocsLoop_encLoc (hv l List.mem_cons_self) hdrop hle f cap j acc]
    by_cases hok : capOk cap j = true
    · rw [if_pos hok, ih f (j + 1) _ _ (fun x hx => hv x (List.mem_cons_of_mem _ hx))
        (drop_append_next hdrop) (Nat.le_trans (Nat.le_add_left _ _) hle) (Nat.lt_of_succ_lt_succ hfuel)
        (by cases cap <;> exact hok),
        Nat.add_right_comm j 1, Nat.add_assoc j, List.append_assoc, Nat.add_assoc C]
      rfl
    · rw [if_neg hok]
      refine (if_neg fun h => hok ?_).symm
      cases cap with
      | none => rfl
      | some f' =>
        exact decide_eq_true (Nat.lt_of_lt_of_le (Nat.lt_add_of_pos_right (Nat.succ_pos _))
          (of_decide_eq_true h))

theorem encLocs_of_ne {e : Entry} (h : e.locs ≠ []) :
    encLocs e = putUvarint (numBytesLocs e) ++ e.locs.flatMap encLoc := by
  rw [encLocs, if_neg (by simpa using h)]

theorem encLocs_length_pos {e : Entry} (h : e.locs ≠ []) : 0 < (encLocs e).length := by
  rw [encLocs_of_ne h, List.length_append]
  exact Nat.lt_of_lt_of_le (putUvarint_length_pos _) (Nat.le_add_right _ _)

/-- for `cap = some freq` the condition is the input contract `#locations ≤ freq` -/
theorem readLocsWith_drop {S B : Bytes} {C : Nat} {e : Entry} (cap : Option Nat) (hv : e.Valid)
    (hne : e.locs ≠ []) (h : S.drop C = encLocs e ++ B) :
    readLocsWith cap ⟨S, C⟩ =
      if cap.all (e.locs.length ≤ ·) then .ok (e.locs, ⟨S, C + (encLocs e).length⟩)
      else .panic := by
  have hnb := numBytesLocs_lt e hv
  have hge := length_le_flatMap encLoc_length_pos e.locs
  rw [encLocs_of_ne hne, List.append_assoc] at h
  have hlen := congrArg List.length (drop_append_next h)
  rw [List.length_drop, List.length_append, ← numBytesLocs_eq] at hlen
  simp only [readLocsWith, Rd.readUvarint_drop h (Nat.lt_trans hnb (by decide)), ok_bind, if_pos hnb,
    Rd.len, hlen]
  rw [readLocsLoop_drop cap e.locs _ 0 _ [] hv.2.2.2 (drop_append_next h)
      (Nat.le_of_eq (numBytesLocs_eq e).symm) (by rw [numBytesLocs_eq]; exact Nat.lt_succ_of_le hge)
      (by cases cap <;> simp),
    Nat.zero_add, encLocs_of_ne hne, List.length_append, Nat.add_assoc]
  rfl

theorem skipLocs_drop {S B : Bytes} {C : Nat} {e : Entry} (hv : e.Valid) (hne : e.locs ≠ [])
    (h : S.drop C = encLocs e ++ B) :
    skipLocs ⟨S, C⟩ = .ok ⟨S, C + (encLocs e).length⟩ := by
  have hnb := numBytesLocs_lt e hv
  rw [encLocs_of_ne hne, List.append_assoc] at h
  simp only [skipLocs, Rd.readUvarint_drop h (Nat.lt_trans hnb (by decide)), ok_bind,
    Rd.skipBytesInt, if_pos hnb, Rd.skipBytes, encLocs_of_ne hne, List.length_append,
    ← numBytesLocs_eq, Nat.add_assoc]

theorem fnBytes_drop (pre : List Entry) (e : Entry) (post : List Entry) :
    (fnBytes (pre ++ e :: post)).drop (fnBytes pre).length = encFN e ++ fnBytes post := by
  simp [fnBytes]

theorem locBytes_drop (pre : List Entry) (e : Entry) (post : List Entry) :
    (locBytes (pre ++ e :: post)).drop (locBytes pre).length = encLocs e ++ locBytes post := by
  simp [locBytes]

theorem fnBytes_snoc_length (pre : List Entry) (e : Entry) :
    (fnBytes (pre ++ [e])).length = (fnBytes pre).length + (encFN e).length := by
  simp [fnBytes]

theorem locBytes_snoc_length (pre : List Entry) (e : Entry) :
    (locBytes (pre ++ [e])).length = (locBytes pre).length + (encLocs e).length := by
  simp [locBytes]

theorem encFN_length_pos (e : Entry) : 0 < (encFN e).length := by
  rw [encFN, List.length_append]
  exact Nat.lt_of_lt_of_le (putUvarint_length_pos e.norm) (Nat.le_add_left _ _)

theorem decodeAll_drop {F L BL : Bytes} :
    ∀ (es : List Entry) (fuel cf cl : Nat), (∀ e ∈ es, e.Valid) →
      F.drop cf = fnBytes es → L.drop cl = locBytes es ++ BL → es.length < fuel →
      decodeAll fuel ⟨F, cf⟩ ⟨L, cl⟩ = .ok (es.map fun e => (e.freq, e.norm, e.locs)) := by
  intro es
  induction es with
  | nil =>
    intro fuel cf cl _ hF _ hfuel
    obtain ⟨f, rfl⟩ := Nat.exists_eq_add_one.mpr hfuel
    have hlen := congrArg List.length hF
    rw [List.length_drop] at hlen
    rw [decodeAll]
    exact if_pos hlen
  | cons e t ih =>
    intro fuel cf cl hv hF hL hfuel
    obtain ⟨f, rfl⟩ := Nat.exists_eq_add_one.mpr (Nat.zero_lt_of_lt hfuel)
    have hve := hv e List.mem_cons_self
    rw [fnBytes, List.flatMap_cons] at hF
    rw [locBytes, List.flatMap_cons, List.append_assoc] at hL
    have hlen := congrArg List.length hF
    rw [List.length_drop, List.length_append] at hlen
    have hne : ¬ Rd.len ⟨F, cf⟩ = 0 := by
      show ¬ F.length - cf = 0
      rw [hlen]
      exact Nat.ne_of_gt (Nat.lt_of_lt_of_le (encFN_length_pos e) (Nat.le_add_right _ _))
    have hnext := fun cl' hcl => ih f _ cl' (fun x hx => hv x (List.mem_cons_of_mem _ hx))
      (drop_append_next hF) hcl (Nat.lt_of_succ_lt_succ hfuel)
    rw [decodeAll, if_neg hne, readFreqNormHasLocs_drop hve hF]
    by_cases hl : e.locs = []
    · rw [encLocs, hl] at hL
      simp only [ok_bind, hl, hnext cl hL, List.isEmpty_nil, Bool.not_true, Bool.false_eq_true,
        if_false, pure_eq_ok, List.map_cons]
    · have hb : (!e.locs.isEmpty) = true := by simpa using hl
      simp only [ok_bind, hb, if_true, readLocs, (readLocsWith_drop none hve hl hL).trans (if_pos rfl),
        hnext _ (drop_append_next hL), pure_eq_ok, List.map_cons]

theorem readUvarintAux_consumed : ∀ (S : Bytes) (x s n v m : Nat),
    readUvarintAux S x s n = .ok (v, m) → n < m ∧ m ≤ n + S.length := by
  intro S
  induction S with
  | nil => intro x s n v m h; simp [readUvarintAux] at h
  | cons b rest ih =>
    intro x s n v m h
    unfold readUvarintAux at h
    split at h
    · split at h
      · cases h
      · cases h
        exact ⟨Nat.lt_succ_self n, Nat.succ_le_succ (Nat.le_add_right n _)⟩
    · have := ih _ _ _ _ _ h
      exact ⟨Nat.lt_of_succ_lt this.1,
        Nat.le_trans this.2 (Nat.le_of_eq (Nat.add_right_comm n 1 rest.length))⟩

theorem Rd.readUvarint_consumed {r r' : Rd} {v : Nat} (h : r.readUvarint = .ok (v, r')) :
    r'.S = r.S ∧ r.C < r'.C ∧ r'.C ≤ r.S.length := by
  unfold Rd.readUvarint at h
  split at h
  · rename_i v' n heq
    cases h
    have := readUvarintAux_consumed _ _ _ _ _ _ heq
    rw [List.length_drop, Nat.zero_add] at this
    exact ⟨rfl, Nat.lt_add_of_pos_right this.1, Nat.add_comm n r.C ▸ Nat.add_le_of_le_sub
      (Nat.le_of_lt (Nat.lt_of_sub_pos (Nat.lt_of_lt_of_le this.1 this.2))) this.2⟩
  · cases h
  · cases h

theorem readLocation_consumed {r r' : Rd} {l : BLoc} (h : readLocation r = .ok (l, r')) :
    r'.S = r.S ∧ r.C < r'.C ∧ r'.C ≤ r.S.length := by
  simp only [readLocation, bind_eq_ok, pure_eq_ok, Prod.exists, Res.ok.injEq, Prod.mk.injEq] at h
  obtain ⟨_, r1, h1, _, r2, h2, _, r3, h3, _, r4, h4, -, rfl⟩ := h
  obtain ⟨a1, b1, -⟩ := Rd.readUvarint_consumed h1
  obtain ⟨a2, b2, -⟩ := Rd.readUvarint_consumed h2
  obtain ⟨a3, b3, -⟩ := Rd.readUvarint_consumed h3
  obtain ⟨a4, b4, c4⟩ := Rd.readUvarint_consumed h4
  rw [a3, a2, a1] at c4 a4
  exact ⟨a4, Nat.lt_trans (Nat.lt_trans (Nat.lt_trans b1 b2) b3) b4, c4⟩

/-- Every iteration consumes at least one of the `nlb` bytes, so any two amounts of fuel above
    the number `m` of bytes still to be consumed give the same result: the `panic` of the `0`-fuel
    case is unreachable from `readLocsWith`. -/
theorem readLocsLoop_fuel (cap : Option Nat) (start nlb : Nat) :
    ∀ (f1 f2 m j : Nat) (r : Rd) (acc : List BLoc), r.len ≤ start → r.C ≤ r.S.length →
      nlb ≤ start - r.len + m → m < f1 → m < f2 →
      readLocsLoop f1 cap start nlb j r acc = readLocsLoop f2 cap start nlb j r acc := by
  intro f1
  induction f1 with
  | zero => intro f2 m j r acc _ _ _ h; exact absurd h (Nat.not_lt_zero m)
  | succ f1 ih =>
    intro f2 m j r acc hs hC hm h1 h2
    obtain ⟨g, rfl⟩ := Nat.exists_eq_add_one.mpr (Nat.zero_lt_of_lt h2)
    rw [readLocsLoop, readLocsLoop]
    split
    · rename_i hcond
      split
      · cases hrl : readLocation r with
        | err => rfl
        | panic => rfl
        | ok p =>
          obtain ⟨l, r'⟩ := p
          obtain ⟨hS, hlt, hle⟩ := readLocation_consumed hrl
          have hlen : r'.len < r.len := by
            unfold Rd.len
            rw [hS]
            exact Nat.sub_lt_sub_left (Nat.lt_of_lt_of_le hlt hle) hlt
          have hmpos : 0 < m := Nat.pos_of_ne_zero fun h0 => by
            rw [h0] at hm
            exact Nat.lt_irrefl _ (Nat.lt_of_lt_of_le hcond hm)
          obtain ⟨m', rfl⟩ := Nat.exists_eq_add_one.mpr hmpos
          have hstep : start - r.len + 1 ≤ start - r'.len :=
            Nat.sub_lt_sub_left (Nat.lt_of_lt_of_le hlen hs) hlen
          exact ih g m' _ r' _ (Nat.le_trans (Nat.le_of_lt hlen) hs) (by rw [hS]; exact hle)
            (Nat.le_trans hm (by
              rw [Nat.add_comm m' 1, ← Nat.add_assoc]
              exact Nat.add_le_add_right hstep m'))
            (Nat.lt_of_succ_lt_succ h1) (Nat.lt_of_succ_lt_succ h2)
      · rfl
    · rfl

/-- concatenation of the compressed chunks `0 … n-1` -/
def concatZ (K : Codec) (B : Nat → Bytes) (n : Nat) : Bytes :=
  (List.range n).flatMap (fun i => K.Z (B i))

theorem concatZ_succ (K : Codec) (B : Nat → Bytes) (n : Nat) :
    concatZ K B (n + 1) = concatZ K B n ++ K.Z (B n) := by
  simp [concatZ, List.range_succ]

theorem concatZ_congr (K : Codec) {B B' : Nat → Bytes} {n : Nat} (h : ∀ i, i < n → B i = B' i) :
    concatZ K B n = concatZ K B' n := by
  induction n with
  | zero => rfl
  | succ n ih =>
    rw [concatZ_succ, concatZ_succ, ih (fun i hi => h i (Nat.lt_succ_of_lt hi)),
      h n (Nat.lt_succ_self n)]

theorem concatZ_skip (K : Codec) {B : Nat → Bytes} {k c : Nat} (hkc : k ≤ c)
    (h : ∀ i, k ≤ i → i < c → B i = []) : concatZ K B c = concatZ K B k := by
  induction c with
  | zero => rw [Nat.le_zero.mp hkc]
  | succ c ih =>
    by_cases hk : k = c + 1
    · subst hk; rfl
    · have hkc' : k ≤ c := Nat.le_of_lt_succ (Nat.lt_of_le_of_ne hkc hk)
      rw [concatZ_succ, h c hkc' (Nat.lt_succ_self c), K.z_nil, List.append_nil]
      exact ih hkc' (fun i h1 h2 => h i h1 (Nat.lt_succ_of_lt h2))

/-- from the two codec laws: `Z` is injective by `rt` -/
theorem Codec.eq_nil_of_z_nil (K : Codec) {b : Bytes} (h : K.Z b = []) : b = [] := by
  have h1 := K.rt b
  have h2 := K.rt []
  rw [h] at h1
  rw [K.z_nil, h1] at h2
  cases h2; rfl

theorem concatZ_eq_nil (K : Codec) {B : Nat → Bytes} {n : Nat} (h : concatZ K B n = []) :
    ∀ i, i < n → B i = [] := by
  intro i hi
  unfold concatZ at h
  rw [List.flatMap_eq_nil_iff] at h
  exact K.eq_nil_of_z_nil (h i (List.mem_range.mpr hi))

/-- the state of a coder in the middle of a run of `Add`s: `B i` are the uncompressed bytes
    received so far for chunk `i`, `k` is the open chunk -/
structure Inv (K : Codec) (total cs : Nat) (c : Coder) (B : Nat → Bytes) (k : Nat) : Prop where
  cs : c.chunkSize = cs
  len : c.lensLen = total
  cap : total ≤ c.lensArr.length
  cur : c.currChunk = k
  klt : k < total
  buf : c.chunkBuf = B k
  above : ∀ i, k < i → B i = []
  fin : c.final = concatZ K B k
  lo : ∀ i, i < k → c.lensArr[i]? = some (K.Z (B i)).length
  hi : ∀ i, k ≤ i → i < c.lensArr.length → c.lensArr[i]? = some 0

/-- the state after the final `Close` -/
structure Done (K : Codec) (total cs : Nat) (c : Coder) (B : Nat → Bytes) : Prop where
  cs : c.chunkSize = cs
  len : c.lensLen = total
  cap : total ≤ c.lensArr.length
  fin : c.final = concatZ K B total
  lens : ∀ i, i < total → c.lensArr[i]? = some (K.Z (B i)).length
  tail : ∀ i, total ≤ i → i < c.lensArr.length → c.lensArr[i]? = some 0

theorem Inv.close {K : Codec} {total cs : Nat} {c : Coder} {B : Nat → Bytes} {k : Nat}
    (h : Inv K total cs c B k) : ∃ c', c.close K = .ok c' ∧ Done K total cs c' B := by
  have hk := h.klt
  have hkl : k < c.lensArr.length := Nat.lt_of_lt_of_le hk h.cap
  refine ⟨{ c with lensArr := c.lensArr.set c.currChunk (K.Z c.chunkBuf).length,
                   final := c.final ++ K.Z c.chunkBuf,
                   currChunk := c.capLens },
    by rw [Coder.close, if_pos (by rw [h.cur, h.len]; exact ⟨hk, hkl⟩)], h.cs, h.len,
    by rw [List.length_set]; exact h.cap, ?_, ?_, ?_⟩
  · show c.final ++ K.Z c.chunkBuf = _
    rw [h.fin, h.buf, ← concatZ_succ]
    exact (concatZ_skip K hk (fun i h1 _ => h.above i h1)).symm
  · intro i hi
    show (c.lensArr.set c.currChunk (K.Z c.chunkBuf).length)[i]? = _
    rw [h.cur, h.buf]
    rcases Nat.lt_trichotomy i k with hik | rfl | hik
    · rw [List.getElem?_set_ne (Nat.ne_of_gt hik)]
      exact h.lo i hik
    · rw [List.getElem?_set_self hkl]
    · rw [List.getElem?_set_ne (Nat.ne_of_lt hik), h.hi i (Nat.le_of_lt hik)
        (Nat.lt_of_lt_of_le hi h.cap), h.above i hik, K.z_nil]
      rfl
  · intro i hi hil
    show (c.lensArr.set c.currChunk (K.Z c.chunkBuf).length)[i]? = _
    rw [List.length_set] at hil
    rw [h.cur, List.getElem?_set_ne (Nat.ne_of_lt (Nat.lt_of_lt_of_le hk hi))]
    exact h.hi i (Nat.le_trans (Nat.le_of_lt hk) hi) hil

/-- `Add` for a document of the open chunk appends to the chunk buffer; for a later chunk it
    closes the open one (and, implicitly, the untouched ones in between) first. -/
theorem Inv.add {K : Codec} {total cs : Nat} {c : Coder} {B : Nat → Bytes} {k : Nat}
    (h : Inv K total cs c B k) (hcs : 0 < cs) (d : Nat) (vs : List Nat)
    (hk : k ≤ d / cs) (ht : d / cs < total) :
    ∃ c', c.add K d vs = .ok c' ∧
      Inv K total cs c' (fun i => B i ++ (if d / cs = i then vs.flatMap putUvarint else [])) (d / cs) := by
  have hne : ¬ c.chunkSize = 0 := h.cs ▸ Nat.ne_of_gt hcs
  have hB : ∀ i, d / cs ≠ i →
      B i ++ (if d / cs = i then vs.flatMap putUvarint else []) = B i :=
    fun i hi => by rw [if_neg hi, List.append_nil]
  have hfin : concatZ K B (d / cs)
      = concatZ K (fun i => B i ++ (if d / cs = i then vs.flatMap putUvarint else [])) (d / cs) :=
    concatZ_congr K (fun i hi => (hB i (Nat.ne_of_gt hi)).symm)
  by_cases hsame : d / cs = k
  · refine ⟨{ c with chunkBuf := c.chunkBuf ++ vs.flatMap putUvarint },
      by rw [Coder.add, if_neg hne, h.cs, h.cur, if_neg (by simpa using hsame)], ?_⟩
    rw [hsame] at hB hfin ⊢
    exact ⟨h.cs, h.len, h.cap, h.cur, h.klt, by rw [if_pos rfl, ← h.buf],
      fun i hi => by rw [hB i (Nat.ne_of_lt hi)]; exact h.above i hi, h.fin.trans hfin,
      fun i hi => by rw [hB i (Nat.ne_of_gt hi)]; exact h.lo i hi, h.hi⟩
  · have hlt : k < d / cs := Nat.lt_of_le_of_ne hk (Ne.symm hsame)
    obtain ⟨c1, hc1, hd⟩ := h.close
    refine ⟨{ c1 with chunkBuf := vs.flatMap putUvarint, currChunk := d / cs },
      by rw [Coder.add, if_neg hne, h.cs, h.cur, if_pos (by simpa using hsame), hc1], ?_⟩
    refine ⟨hd.cs, hd.len, hd.cap, rfl, ht, by rw [if_pos rfl, h.above _ hlt]; rfl,
      fun i hi => by rw [hB i (Nat.ne_of_lt hi)]; exact h.above i (Nat.lt_trans hlt hi), ?_, ?_, ?_⟩
    · show c1.final = _
      rw [hd.fin, ← hfin]
      exact concatZ_skip K (Nat.le_of_lt ht) (fun i h1 _ => h.above i (Nat.lt_of_lt_of_le hlt h1))
    · intro i hi
      rw [hB i (Nat.ne_of_gt hi)]
      exact hd.lens i (Nat.lt_trans hi ht)
    · intro i hi hil
      by_cases hit : i < total
      · rw [hd.lens i hit, h.above i (Nat.lt_of_lt_of_le hlt hi), K.z_nil]
        rfl
      · exact hd.tail i (Nat.le_of_not_lt hit) hil

theorem bytesOfChunk_nil (cs c : Nat) : bytesOfChunk cs [] c = [] := rfl

theorem bytesOfChunk_cons (cs : Nat) (d : Nat) (vs : List Nat) (rest : List (Nat × List Nat))
    (i : Nat) :
    bytesOfChunk cs ((d, vs) :: rest) i
      = (if d / cs = i then vs.flatMap putUvarint else []) ++ bytesOfChunk cs rest i := by
  unfold bytesOfChunk
  by_cases h : d / cs = i <;> simp [h]

theorem Inv.encode {K : Codec} {total cs : Nat} (hcs : 0 < cs) :
    ∀ (adds : List (Nat × List Nat)) (c : Coder) (B : Nat → Bytes) (k : Nat),
      Inv K total cs c B k →
      (∀ a ∈ adds, k ≤ a.1 / cs ∧ a.1 / cs < total) →
      (adds.map (fun a => a.1 / cs)).Pairwise (· ≤ ·) →
      ∃ c', c.encode K adds = .ok c' ∧
        Done K total cs c' (fun i => B i ++ bytesOfChunk cs adds i) := by
  intro adds
  induction adds with
  | nil =>
    intro c B k h _ _
    obtain ⟨c', hc, hd⟩ := h.close
    refine ⟨c', by simp [Coder.encode, Coder.addAll, hc], ?_⟩
    simpa only [bytesOfChunk_nil, List.append_nil] using hd
  | cons a rest ih =>
    intro c B k h hb hs
    obtain ⟨d, vs⟩ := a
    obtain ⟨hk, ht⟩ := hb (d, vs) (by simp)
    obtain ⟨c1, hadd, hinv⟩ := h.add hcs d vs hk ht
    simp only [List.map_cons, List.pairwise_cons, List.mem_map] at hs
    obtain ⟨c', henc, hdone⟩ := ih c1 _ (d / cs) hinv
      (fun a ha => ⟨hs.1 _ ⟨a, ha, rfl⟩, (hb a (by simp [ha])).2⟩) hs.2
    refine ⟨c', ?_, ?_⟩
    · simp only [Coder.encode, Coder.addAll, hadd]
      exact henc
    · have : (fun i => B i ++ bytesOfChunk cs ((d, vs) :: rest) i)
          = (fun i => (B i ++ (if d / cs = i then vs.flatMap putUvarint else [])) ++ bytesOfChunk cs rest i) := by
        funext i; rw [bytesOfChunk_cons, List.append_assoc]
      rw [this]; exact hdone

/-- a coder as `newChunkedIntCoder` or `Reset` leaves it -/
structure Fresh (c : Coder) : Prop where
  fin : c.final = []
  buf : c.chunkBuf = []
  cur : c.currChunk = 0
  cap : c.lensLen ≤ c.lensArr.length
  zero : ∀ x ∈ c.lensArr, x = 0

/-- everything behind the slice `chunkLens` in its backing array is zero -/
def TailZero (c : Coder) : Prop :=
  c.lensLen ≤ c.lensArr.length ∧
    ∀ i, c.lensLen ≤ i → i < c.lensArr.length → c.lensArr[i]? = some 0

theorem Fresh.inv (K : Codec) {c : Coder} (h : Fresh c) (ht : 0 < c.lensLen) :
    Inv K c.lensLen c.chunkSize c (fun _ => []) 0 := by
  refine ⟨rfl, rfl, h.cap, h.cur, ht, h.buf, fun _ _ => rfl, h.fin, fun i hi => absurd hi (Nat.not_lt_zero i), ?_⟩
  intro i _ hil
  rw [List.getElem?_eq_getElem hil, h.zero _ (List.getElem_mem hil)]

theorem totalChunks_ok {cs m : Nat} (hcs : 0 < cs) (hm : m / cs + 1 < two63) :
    totalChunks cs m = .ok (m / cs + 1) := by
  rw [totalChunks, if_neg (Nat.ne_of_gt hcs), Nat.mod_eq_of_lt (Nat.lt_trans hm (by decide))]

theorem Coder.new_ok {cs m : Nat} (hcs : 0 < cs) (hm : m / cs + 1 < two63) :
    ∃ c, Coder.new cs m = .ok c ∧ Fresh c ∧ c.chunkSize = cs ∧ c.lensLen = m / cs + 1 :=
  ⟨{ chunkSize := cs, lensArr := List.replicate (m / cs + 1) 0, lensLen := m / cs + 1,
     currChunk := 0, chunkBuf := [], final := [] },
    by simp only [Coder.new, totalChunks_ok hcs hm, ok_bind, if_neg (Nat.not_le.mpr hm), pure_eq_ok],
    ⟨rfl, rfl, rfl, Nat.le_of_eq List.length_replicate.symm, fun _ hx => List.eq_of_mem_replicate hx⟩,
    rfl, rfl⟩

theorem Coder.new_fresh {cs m : Nat} (hcs : 0 < cs) (hm : m / cs + 1 < two63) {c : Coder}
    (h : Coder.new cs m = .ok c) : Fresh c ∧ c.chunkSize = cs ∧ c.lensLen = m / cs + 1 := by
  obtain ⟨c0, hnew, hf⟩ := Coder.new_ok (m := m) hcs hm
  rw [h] at hnew
  cases hnew
  exact hf

theorem Coder.setChunkSize_ok {c : Coder} (hf : Fresh c) {cs m : Nat} (hcs : 0 < cs)
    (hm : m / cs + 1 < two63) :
    ∃ c', c.setChunkSize cs m = .ok c' ∧ Fresh c' ∧ c'.chunkSize = cs ∧ c'.lensLen = m / cs + 1 := by
  by_cases hc : c.capLens < m / cs + 1
  · exact ⟨{ c with chunkSize := cs, lensArr := List.replicate (m / cs + 1) 0, lensLen := m / cs + 1 },
      by simp only [Coder.setChunkSize, totalChunks_ok hcs hm, ok_bind, if_neg (Nat.not_le.mpr hm),
        if_pos hc, pure_eq_ok],
      ⟨hf.fin, hf.buf, hf.cur, Nat.le_of_eq List.length_replicate.symm,
        fun _ hx => List.eq_of_mem_replicate hx⟩, rfl, rfl⟩
  · exact ⟨{ c with chunkSize := cs, lensLen := m / cs + 1 },
      by simp only [Coder.setChunkSize, totalChunks_ok hcs hm, ok_bind, if_neg (Nat.not_le.mpr hm),
        if_neg hc, pure_eq_ok],
      ⟨hf.fin, hf.buf, hf.cur, Nat.not_lt.mp hc, hf.zero⟩, rfl, rfl⟩

theorem Done.tailZero {K : Codec} {total cs : Nat} {c : Coder} {B : Nat → Bytes}
    (h : Done K total cs c B) : TailZero c := by
  refine ⟨by rw [h.len]; exact h.cap, ?_⟩
  rw [h.len]; exact h.tail

theorem Done.chunkLens_eq {K : Codec} {total cs : Nat} {c : Coder} {B : Nat → Bytes}
    (h : Done K total cs c B) :
    c.chunkLens = (List.range total).map (fun i => (K.Z (B i)).length) := by
  apply List.ext_getElem?
  intro i
  unfold Coder.chunkLens
  rw [h.len, List.getElem?_take]
  by_cases hi : i < total
  · simp [hi, h.lens i hi]
  · simp [hi]

theorem TailZero.write {c : Coder} (h : TailZero c) : TailZero c.write.2 := by
  obtain ⟨hle, hz⟩ := h
  have hlen : (endOffsets 0 c.chunkLens).length = c.lensLen := by
    rw [endOffsets_length, Coder.chunkLens, List.length_take, Nat.min_eq_left hle]
  have harr : (endOffsets 0 c.chunkLens ++ c.lensArr.drop c.lensLen).length = c.lensArr.length := by
    rw [List.length_append, hlen, List.length_drop, Nat.add_sub_cancel' hle]
  refine ⟨Nat.le_trans hle (Nat.le_of_eq harr.symm), fun i (hi : c.lensLen ≤ i) hil => ?_⟩
  show (endOffsets 0 c.chunkLens ++ c.lensArr.drop c.lensLen)[i]? = _
  rw [List.getElem?_append_right (by rw [hlen]; exact hi), hlen, List.getElem?_drop,
    Nat.add_sub_cancel' hi]
  exact hz i hi (Nat.lt_of_lt_of_eq hil harr)

theorem TailZero.reset {c : Coder} (h : TailZero c) : Fresh c.reset := by
  obtain ⟨hle, hz⟩ := h
  refine ⟨rfl, rfl, rfl, ?_, fun x hx => ?_⟩
  · show c.lensLen ≤ (List.replicate (min c.lensLen c.lensArr.length) 0 ++ c.lensArr.drop c.lensLen).length
    rw [List.length_append, List.length_replicate, List.length_drop, Nat.min_eq_left hle]
    exact Nat.le_add_right _ _
  · rcases List.mem_append.mp hx with h1 | h1
    · exact List.eq_of_mem_replicate h1
    · obtain ⟨i, hi⟩ := List.mem_iff_getElem?.mp h1
      rw [List.getElem?_drop] at hi
      obtain ⟨hlt, -⟩ := List.getElem?_eq_some_iff.mp hi
      rw [hz _ (Nat.le_add_right _ _) hlt] at hi
      exact (Option.some.inj hi).symm

/-- the decoder parses its header with `binary.Uvarint`, not with the `ReadUvarint` of the readers:
    where the latter succeeds the former returns the same pair (`s` is the shift at byte `i`) -/
theorem uvarintU64Aux_of_read : ∀ (S : Bytes) (x s i v m : Nat), s = 7 * i →
    readUvarintAux S x s i = .ok (v, m) → i ≤ 9 ∧ uvarintU64Aux S x s i = (v, m) := by
  intro S
  induction S with
  | nil => intro x s i v m _ h; simp [readUvarintAux] at h
  | cons b rest ih =>
    intro x s i v m hs h
    unfold readUvarintAux at h
    split at h
    · rename_i hb
      split at h
      · cases h
      · rename_i hc
        cases h
        have hi : i ≤ 9 ∧ ¬ (i = 9 ∧ b > 1) := by omega
        exact ⟨hi.1, by rw [uvarintU64Aux, if_neg (Nat.ne_of_lt (Nat.lt_succ_of_le hi.1)), if_pos hb,
          if_neg hi.2]⟩
    · rename_i hb
      obtain ⟨hi, he⟩ := ih _ _ _ _ _ (by rw [hs, Nat.mul_succ]) h
      exact ⟨Nat.le_of_succ_le hi, by
        rw [uvarintU64Aux, if_neg (Nat.ne_of_lt (Nat.lt_of_lt_of_le (Nat.lt_of_succ_le hi) (by decide))),
          if_neg hb, he]⟩

theorem uvarintU64_put (x : Nat) (rest : Bytes) (h : x < two64) :
    uvarintU64 (putUvarint x ++ rest) = (x, (putUvarint x).length) := by
  have := readUvarint_put x rest h
  exact (uvarintU64Aux_of_read _ 0 0 0 _ _ rfl this).2

/-- a read that ends below `2^63`: no `uint64 → int` conversion wraps, so it is the plain slice -/
theorem Data.read_ok {file : Bool} {data : Bytes} {s e : Nat} (hse : s ≤ e) (he : e < two63)
    (hf : file = true → e ≤ data.length) :
    Data.read file data (s % two64) (e % two64) = .ok ((data.drop s).take (e - s)) := by
  have h64 : e < two64 := Nat.lt_trans he (by decide)
  have h3 : (file && decide (data.length < e)) = false := by
    cases file
    · rfl
    · simpa using hf rfl
  rw [Nat.mod_eq_of_lt h64, Nat.mod_eq_of_lt (Nat.lt_of_le_of_lt hse h64)]
  simp only [Data.read, intLt, if_neg (Nat.not_le.mpr he),
    if_neg (Nat.not_le.mpr (Nat.lt_of_le_of_lt hse he)), decide_eq_false (Nat.not_lt.mpr hse), h3,
    Bool.false_eq_true, if_false]

theorem window_put {file : Bool} {data rest : Bytes} {pos x : Nat} (hx : x < two64)
    (hd : data.drop pos = putUvarint x ++ rest) (hsz : data.length < 2 ^ 62)
    (hf : file = true → pos + 10 ≤ data.length) :
    ∃ w, Data.read file data (pos % two64) ((pos + 10) % two64) = .ok w ∧
      uvarintU64 w = (x, (putUvarint x).length) := by
  have hpos : pos < data.length := Nat.lt_of_not_le fun hle => by
    rw [List.drop_eq_nil_of_le hle] at hd
    exact putUvarint_ne_nil x (List.append_eq_nil_iff.mp hd.symm).1
  refine ⟨_, Data.read_ok (Nat.le_add_right _ _)
    (Nat.lt_of_lt_of_le (Nat.add_lt_add_right (Nat.lt_trans hpos hsz) 10) (by decide)) hf, ?_⟩
  rw [Nat.add_sub_cancel_left, take_drop_append hd (putUvarint_length_le_ten x hx), uvarintU64_put x _ hx]

theorem readOffsets_drop {file : Bool} {data tail : Bytes} {off : Nat} (hsz : data.length < 2 ^ 62)
    (hf : file = true → 10 ≤ tail.length) :
    ∀ (offs : List Nat) (n : Nat) (acc : List Nat), (∀ o ∈ offs, o < two64) →
      data.drop (off + n) = offs.flatMap putUvarint ++ tail →
      readOffsets file data off offs.length n acc
        = .ok (acc ++ offs, n + (offs.flatMap putUvarint).length) := by
  intro offs
  induction offs with
  | nil => intro n acc _ _; rw [List.append_nil]; rfl
  | cons o os ih =>
    intro n acc hlt hd
    rw [List.flatMap_cons, List.append_assoc] at hd
    have hlen := drop_append_length' hd (putUvarint_length_pos o)
    rw [List.length_append] at hlen
    have ho := hlt o List.mem_cons_self
    obtain ⟨w, hw, hu⟩ := window_put (file := file) ho hd hsz fun hfile => hlen ▸
      Nat.add_le_add_left
        (Nat.le_trans (hf hfile) (Nat.le_trans (Nat.le_add_left _ _) (Nat.le_add_left _ _))) _
    have hn : (n + (putUvarint o).length) % two64 = n + (putUvarint o).length :=
      Nat.mod_eq_of_lt (Nat.lt_trans (Nat.lt_of_le_of_lt (Nat.le_trans
        (Nat.add_le_add (Nat.le_add_left n off) (Nat.le_add_right _ _)) (Nat.le_of_eq hlen.symm))
        hsz) (by decide))
    have hd' := drop_append_next hd
    rw [Nat.add_assoc] at hd'
    simp only [List.length_cons, readOffsets, hw, hu, hn]
    rw [ih _ _ (fun x hx => hlt x (List.mem_cons_of_mem _ hx)) hd', List.append_assoc,
      List.flatMap_cons, List.length_append, Nat.add_assoc]
    rfl

/-- what `Write` emits in front of `final` -/
def header (L : List Nat) : Bytes :=
  putUvarint (endOffsets 0 L).length ++ (endOffsets 0 L).flatMap putUvarint

theorem Coder.write_eq (c : Coder) : c.write.1 = header c.chunkLens ++ c.final := rfl

theorem Decoder.newWith_enc {file : Bool} {pre suf body : Bytes} (L : List Nat) (hpre : pre ≠ [])
    (hsz : (pre ++ (header L ++ body) ++ suf).length < 2 ^ 62)
    (hf : file = true → 10 ≤ body.length + suf.length) :
    Decoder.newWith file (pre ++ (header L ++ body) ++ suf) pre.length
      = .ok { file, data := pre ++ (header L ++ body) ++ suf, startOffset := pre.length,
              dataStartOffset := pre.length + (header L).length,
              chunkOffsets := endOffsets 0 L } := by
  have hoff : ¬ pre.length = 0 := fun h => hpre (List.eq_nil_of_length_eq_zero h)
  have hd : (pre ++ (header L ++ body) ++ suf).drop pre.length
      = putUvarint (endOffsets 0 L).length ++ ((endOffsets 0 L).flatMap putUvarint ++ (body ++ suf)) := by
    rw [List.append_assoc, List.drop_left, header, List.append_assoc, List.append_assoc]
  have hlen : (pre ++ (header L ++ body) ++ suf).length = pre.length +
      ((putUvarint (endOffsets 0 L).length).length +
        (((endOffsets 0 L).flatMap putUvarint).length + (body.length + suf.length))) := by
    rw [drop_append_length' hd (putUvarint_length_pos _), List.length_append, List.length_append]
  rw [hlen] at hsz
  have hn62 : (endOffsets 0 L).length < 2 ^ 62 :=
    Nat.lt_of_le_of_lt (Nat.le_trans (length_le_flatMap putUvarint_length_pos (endOffsets 0 L))
      (Nat.le_trans (Nat.le_trans (Nat.le_add_right _ _) (Nat.le_add_left _ _))
        (Nat.le_add_left _ _))) hsz
  have hnc : (endOffsets 0 L).length < two64 := Nat.lt_trans hn62 (by decide)
  obtain ⟨w, hw, hu⟩ := window_put (file := file) hnc hd (hlen ▸ hsz) fun hfile => hlen ▸
    Nat.add_le_add_left
      (Nat.le_trans (hf hfile) (Nat.le_trans (Nat.le_add_left _ _) (Nat.le_add_left _ _))) _
  have h63 : ¬ two63 ≤ (endOffsets 0 L).length := Nat.not_le.mpr (Nat.lt_trans hn62 (by decide))
  have hd2 := drop_append_next hd
  have hro := readOffsets_drop (file := file) (off := pre.length) (hlen ▸ hsz)
    (fun hfile => by rw [List.length_append]; exact hf hfile) (endOffsets 0 L)
    (putUvarint (endOffsets 0 L).length).length [] (endOffsets_lt L 0) hd2
  have hmod : (pre.length + ((putUvarint (endOffsets 0 L).length).length
      + ((endOffsets 0 L).flatMap putUvarint).length)) % two64
      = pre.length + (header L).length := by
    rw [Nat.mod_eq_of_lt (Nat.lt_trans (Nat.lt_of_le_of_lt (Nat.add_le_add_left
      (Nat.add_le_add_left (Nat.le_add_right _ _) _) _) hsz) (by decide)), header, List.length_append]
  simp only [Decoder.newWith, hoff, if_false, hw, hu, ok_bind, h63, hro, pure_eq_ok, List.nil_append,
    hmod]

theorem Decoder.newWith_zero (file : Bool) (data : Bytes) :
    Decoder.newWith file data 0
      = .ok { file, data, startOffset := 0, dataStartOffset := 0, chunkOffsets := [] } := by
  have : ¬ two63 ≤ 0 := by decide
  simp [Decoder.newWith, this, readOffsets]

theorem Decoder.newWith_startOffset {file : Bool} {data : Bytes} {offset : Nat} {d : Decoder}
    (h : Decoder.newWith file data offset = .ok d) : d.startOffset = offset := by
  obtain ⟨⟨numChunks, n⟩, -, h⟩ := bind_eq_ok.mp h
  dsimp only at h
  split at h
  · cases h
  · obtain ⟨⟨offs, n'⟩, -, h⟩ := bind_eq_ok.mp h
    cases h
    rfl

theorem readChunkBoundary_endOffsets (L : List Nat) (i : Nat) (hsum : L.sum < two64)
    (hi : i < L.length) :
    readChunkBoundary i (endOffsets 0 L) = .ok ((L.take i).sum, (L.take (i + 1)).sum) := by
  rw [endOffsets_eq_ends L 0 (by rwa [Nat.zero_add]), readChunkBoundary, (ends_boundary L hi).1,
    (ends_boundary L hi).2]

theorem Data.read_slice {file : Bool} (A X Y : Bytes) (hsz : (A ++ (X ++ Y)).length < 2 ^ 62) :
    Data.read file (A ++ (X ++ Y)) (A.length % two64) ((A.length + X.length) % two64) = .ok X := by
  simp only [List.length_append] at hsz
  rw [Data.read_ok (Nat.le_add_right _ _)
    (Nat.lt_trans (Nat.lt_of_le_of_lt (Nat.add_le_add_left (Nat.le_add_right _ _) _) hsz) (by decide))
    (fun _ => by simp only [List.length_append]; exact Nat.add_le_add_left (Nat.le_add_right _ _) _),
    List.drop_left, Nat.add_sub_cancel_left, List.take_left]

theorem Decoder.loadChunk_enc (K : Codec) {file : Bool} {pre suf : Bytes} (zs : List Bytes)
    (hpre : pre ≠ [])
    (hsz : (pre ++ (header (zs.map List.length) ++ zs.flatten) ++ suf).length < 2 ^ 62)
    (i : Nat) (hi : i < zs.length) :
    Decoder.loadChunk K
      { file, data := pre ++ (header (zs.map List.length) ++ zs.flatten) ++ suf,
        startOffset := pre.length,
        dataStartOffset := pre.length + (header (zs.map List.length)).length,
        chunkOffsets := endOffsets 0 (zs.map List.length) } i
      = (match K.unZ zs[i] with | some b => .ok b | none => .err) := by
  have hoff : ¬ pre.length = 0 := fun h => hpre (List.eq_nil_of_length_eq_zero h)
  have hsum : (zs.map List.length).sum < two64 := by
    rw [← List.length_flatten]
    simp only [List.length_append] at hsz
    exact Nat.lt_trans (Nat.lt_of_le_of_lt (Nat.le_trans (Nat.le_trans (Nat.le_add_left _ _)
      (Nat.le_add_left _ _)) (Nat.le_add_right _ _)) hsz) (by decide)
  have hb := readChunkBoundary_endOffsets (zs.map List.length) i hsum (by rwa [List.length_map])
  rw [sum_take_map_length, sum_take_map_length, List.take_succ_eq_append_getElem hi,
    List.flatten_append, List.length_append, List.flatten_cons, List.flatten_nil,
    List.append_nil] at hb
  have hdata : pre ++ (header (zs.map List.length) ++ zs.flatten) ++ suf
      = (pre ++ header (zs.map List.length) ++ (zs.take i).flatten) ++ (zs[i]
          ++ ((zs.drop (i + 1)).flatten ++ suf)) := by
    conv => lhs; rw [flatten_split zs i hi]
    simp only [List.append_assoc]
  have hrd := Data.read_slice (file := file)
    (pre ++ header (zs.map List.length) ++ (zs.take i).flatten) zs[i]
    ((zs.drop (i + 1)).flatten ++ suf) (by rw [← hdata]; exact hsz)
  rw [← hdata] at hrd
  simp only [List.length_append] at hrd
  have hnlt : ¬ i ≥ (endOffsets 0 (zs.map List.length)).length := by
    rw [endOffsets_length, List.length_map]; exact Nat.not_le.mpr hi
  simp only [Decoder.loadChunk, hoff, if_false, hnlt, hb, ok_bind, ← Nat.add_assoc, hrd]
  cases K.unZ zs[i] <;> rfl

theorem bytesOfChunk_append (cs : Nat) (a b : List (Nat × List Nat)) (c : Nat) :
    bytesOfChunk cs (a ++ b) c = bytesOfChunk cs a c ++ bytesOfChunk cs b c := by
  simp [bytesOfChunk]

theorem bytesOfChunk_same_doc (cs : Nat) {adds : List (Nat × List Nat)} {d : Nat}
    (h : ∀ a ∈ adds, a.1 = d) (c : Nat) :
    bytesOfChunk cs adds c =
      if d / cs = c then adds.flatMap (fun a => a.2.flatMap putUvarint) else [] := by
  unfold bytesOfChunk
  by_cases hc : d / cs = c
  · rw [if_pos hc, List.filter_eq_self.mpr fun a ha => by rw [h a ha, hc]; exact beq_self_eq_true c]
  · rw [if_neg hc, List.filter_eq_nil_iff.mpr fun a ha => by rw [h a ha]; simpa using hc]
    rfl

/-- the additions made for the items `xs` one after the other, those of `x` going to the chunk of
    `key x` -/
theorem bytesOfChunk_flatMap {α : Type} (cs c : Nat) (f : α → List (Nat × List Nat))
    (key : α → Nat) (g : α → Bytes)
    (hf : ∀ x, bytesOfChunk cs (f x) c = if key x / cs = c then g x else []) (xs : List α) :
    bytesOfChunk cs (xs.flatMap f) c = (xs.filter (fun x => key x / cs == c)).flatMap g := by
  induction xs with
  | nil => rfl
  | cons x t ih =>
    rw [List.flatMap_cons, bytesOfChunk_append, hf, ih]
    by_cases h : key x / cs = c <;> simp [h]

theorem locAddsOf_doc (e : Entry) : ∀ a ∈ locAddsOf e, a.1 = e.doc := by
  intro a ha
  unfold locAddsOf at ha
  split at ha
  · simp at ha
  · simp only [List.mem_cons, List.mem_map] at ha
    rcases ha with rfl | ⟨l, -, rfl⟩ <;> rfl

theorem bytesOfChunk_locAddsOf (cs : Nat) (e : Entry) (c : Nat) :
    bytesOfChunk cs (locAddsOf e) c = if e.doc / cs = c then encLocs e else [] := by
  rw [bytesOfChunk_same_doc cs (locAddsOf_doc e)]
  congr 1
  unfold locAddsOf encLocs
  cases e.locs.isEmpty
  · simp only [Bool.false_eq_true, if_false, List.flatMap_cons, List.flatMap_map, List.flatMap_nil,
      List.append_nil]
    congr 2
    funext l
    simp [encLoc]
  · rfl

theorem bytesOfChunk_tfAdds (cs : Nat) (es : List Entry) (c : Nat) :
    bytesOfChunk cs (tfAdds es) c = fnBytes (es.filter (fun e => e.doc / cs == c)) := by
  rw [tfAdds, List.map_eq_flatMap]
  refine bytesOfChunk_flatMap cs c _ (·.doc) encFN (fun e => ?_) es
  show bytesOfChunk cs [(e.doc, _)] c = _
  rw [bytesOfChunk_same_doc cs (d := e.doc) (by simp)]
  simp [encFN]

theorem bytesOfChunk_locAdds (cs : Nat) (es : List Entry) (c : Nat) :
    bytesOfChunk cs (locAdds es) c = locBytes (es.filter (fun e => e.doc / cs == c)) :=
  bytesOfChunk_flatMap cs c locAddsOf (·.doc) encLocs (bytesOfChunk_locAddsOf cs · c) es

theorem pairwise_tfAdds (cs : Nat) (es : List Entry)
    (hs : es.Pairwise (fun a b => a.doc ≤ b.doc)) :
    ((tfAdds es).map (fun a => a.1 / cs)).Pairwise (· ≤ ·) := by
  simp only [tfAdds, List.map_map, List.pairwise_map]
  exact hs.imp (fun h => Nat.div_le_div_right h)

theorem pairwise_locAdds (cs : Nat) (es : List Entry)
    (hs : es.Pairwise (fun a b => a.doc ≤ b.doc)) :
    ((locAdds es).map (fun a => a.1 / cs)).Pairwise (· ≤ ·) := by
  rw [List.pairwise_map]
  induction es with
  | nil => simp [locAdds]
  | cons e t ih =>
    rw [List.pairwise_cons] at hs
    simp only [locAdds, List.flatMap_cons, List.pairwise_append]
    refine ⟨?_, ih hs.2, ?_⟩
    · exact List.pairwise_of_forall_mem_list fun a ha b hb => by
        rw [locAddsOf_doc e a ha, locAddsOf_doc e b hb]
        exact Nat.le_refl _
    · intro a ha b hb
      rw [List.mem_flatMap] at hb
      obtain ⟨e', he', hb⟩ := hb
      rw [locAddsOf_doc e a ha, locAddsOf_doc e' b hb]
      exact Nat.div_le_div_right (hs.1 e' he')

end Ice.Model.ChunkBytes
