import IceModel.Model.Format
import IceModel.Lemmas.Format
import IceModel.Lemmas.FormatTotalBackingDV
/-
  The two backings of `segment.Data` (container side): everything `load` and the lazy readers do
  goes through `Data.read`, so whatever succeeds on the memory backing succeeds with the same
  result on the file backing (`OkLe`, see `Lemmas/FormatTotalBackingDV.lean`).  These lemmas are
  about ARBITRARY bytes, not only written segments.
-/
namespace Ice.Model.Format
open Ice Ice.Model
open Ice.Model.Writer (be unbe Footer footerFields persistFooter parseFooter CRC)
open Ice.Model.ChunkBytes (uvarintU64)
open Ice.Model.DocValues (add64 sub64 maxUint64 Data OkLe read_toFile)

/-- `OkLe.bind` for the monad instance the container model uses -/
theorem okLe_bind {α β : Type} {x y : Res α} {f g : α → Res β} (h : OkLe x y)
    (hf : ∀ a, OkLe (f a) (g a)) : OkLe (x >>= f) (y >>= g) := by
  intro r hr
  cases x with
  | ok a => rw [h a rfl]; exact hf a r hr
  | err => cases hr
  | panic => cases hr

/-- the same segment, file-backed -/
def Loaded.toFile (ld : Loaded) : Loaded := { ld with data := ld.data.toFile }

theorem loadFieldRecord_toFile (d : Data) (addr fe : Nat) :
    OkLe (loadFieldRecord d addr fe) (loadFieldRecord d.toFile addr fe) := by
  unfold loadFieldRecord
  apply okLe_bind (read_toFile _ _ _)
  intro w1
  generalize uvarintU64 w1 = p1
  obtain ⟨a1, b1⟩ := p1
  apply okLe_bind (read_toFile _ _ _)
  intro w2
  generalize uvarintU64 w2 = p2
  obtain ⟨a2, b2⟩ := p2
  apply okLe_bind (read_toFile _ _ _)
  intro w3
  apply okLe_bind (read_toFile _ _ _)
  intro w4
  generalize uvarintU64 w4 = p4
  obtain ⟨a4, b4⟩ := p4
  apply okLe_bind (read_toFile _ _ _)
  intro w5
  exact OkLe.refl _

theorem loadFieldsLoop_toFile (d : Data) (fio : Nat) : ∀ (fuel fieldID : Nat) (acc : FieldsAcc),
    OkLe (loadFieldsLoop d fio fuel fieldID acc) (loadFieldsLoop d.toFile fio fuel fieldID acc)
  | 0, _, _ => OkLe.refl _
  | fuel + 1, fieldID, acc => by
    simp only [loadFieldsLoop]
    have hb : d.toFile.bytes = d.bytes := rfl
    rw [hb]
    by_cases h : add64 fio (mul64 8 fieldID) < u64 d.bytes.length
    · rw [if_pos h, if_pos h]
      apply okLe_bind (read_toFile _ _ _)
      intro w
      apply okLe_bind (loadFieldRecord_toFile _ _ _)
      intro r
      obtain ⟨a, b, c, e⟩ := r
      exact loadFieldsLoop_toFile d fio fuel _ _
    · rw [if_neg h, if_neg h]; exact OkLe.refl _

theorem loadFields_toFile (d : Data) (fio : Nat) :
    OkLe (loadFields d fio) (loadFields d.toFile fio) :=
  loadFieldsLoop_toFile d fio _ _ _

theorem loadDvLoop_toFile (d : Data) (dvo : Nat) : ∀ (names : List Bytes) (read : Nat),
    OkLe (loadDvLoop d dvo names read) (loadDvLoop d.toFile dvo names read)
  | [], _ => OkLe.refl _
  | _ :: fs, read => by
    simp only [loadDvLoop]
    apply okLe_bind (read_toFile _ _ _)
    intro w1
    cases uvarint w1 with
    | none => exact OkLe.refl _
    | some p1 =>
      obtain ⟨s, n1⟩ := p1
      apply okLe_bind (read_toFile _ _ _)
      intro w2
      cases uvarint w2 with
      | none => exact OkLe.refl _
      | some p2 =>
        obtain ⟨e, n2⟩ := p2
        apply okLe_bind (DocValues.loadFieldDocValueReader_toFile d s e)
        intro r
        apply okLe_bind (loadDvLoop_toFile d dvo fs _)
        intro _
        exact OkLe.refl _

theorem loadDvReaders_toFile (d : Data) (ft : Footer) (names : List Bytes) :
    OkLe (loadDvReaders d ft names) (loadDvReaders d.toFile ft names) := by
  unfold loadDvReaders
  by_cases h : ft.docValueOffset = maxUint64 ∨ ft.numDocs = 0
  · rw [if_pos h, if_pos h]; exact OkLe.refl _
  · rw [if_neg h, if_neg h]; exact loadDvLoop_toFile d _ _ _

/-- **`load` for the two backings, any file.**  If the memory-backed `load` succeeds, the
    file-backed one succeeds with the same segment value (only the backing flag differs). -/
theorem load_toFile (file : Bytes) (ld : Loaded) (h : load true file = .ok ld) :
    load false file = .ok ld.toFile := by
  unfold load at h ⊢
  cases hp : parseFooter file with
  | none => rw [hp] at h; cases h
  | some ft =>
    rw [hp] at h
    simp only at h ⊢
    obtain ⟨fa, hfa, h⟩ := bind_eq_ok h
    obtain ⟨offs, hoffs, h⟩ := bind_eq_ok h
    obtain ⟨dvr, hdvr, h⟩ := bind_eq_ok h
    have e1 := loadFields_toFile _ _ _ hfa
    have e3 := loadDvReaders_toFile _ _ _ _ hdvr
    simp only [Data.toFile] at e1 e3
    simp only [ChunkBytes.pure_eq_ok, Res.ok.injEq] at h
    subst h
    simp only [e1, ChunkBytes.ok_bind, hoffs, e3, ChunkBytes.pure_eq_ok]
    rfl

theorem dictionaryOf_toFile (K : Codecs) (ld : Loaded) (i : Nat) :
    OkLe (dictionaryOf K ld i) (dictionaryOf K ld.toFile i) := by
  unfold dictionaryOf
  have hd : ld.toFile.dictLocs = ld.dictLocs := rfl
  rw [hd]
  cases ld.dictLocs[i]? with
  | none => exact OkLe.refl _
  | some ds =>
    dsimp only
    by_cases h : ds > 0
    · rw [if_pos h, if_pos h]
      apply okLe_bind (read_toFile _ _ _)
      intro w
      generalize uvarintU64 w = p
      obtain ⟨a, b⟩ := p
      apply okLe_bind (read_toFile _ _ _)
      intro _
      exact OkLe.refl _
    · rw [if_neg h, if_neg h]; exact OkLe.refl _

theorem readRecord_toFile (K : Codecs) (ld : Loaded) (v : Nat) :
    OkLe (readRecord K ld v) (readRecord K ld.toFile v) := by
  unfold readRecord
  apply okLe_bind (read_toFile _ _ _)
  intro w1
  generalize uvarintU64 w1 = p1
  obtain ⟨a1, b1⟩ := p1
  apply okLe_bind (read_toFile _ _ _)
  intro w2
  generalize uvarintU64 w2 = p2
  obtain ⟨a2, b2⟩ := p2
  apply okLe_bind (read_toFile _ _ _)
  intro w3
  generalize uvarintU64 w3 = p3
  obtain ⟨a3, b3⟩ := p3
  apply okLe_bind (read_toFile _ _ _)
  intro _
  exact OkLe.refl _

theorem readPostings_toFile (K : Codecs) (ld : Loaded) (v : Nat) :
    OkLe (readPostings K ld v) (readPostings K ld.toFile v) := by
  unfold readPostings
  by_cases h : is1Hit v = true
  · rw [if_pos h, if_pos h]; exact OkLe.refl _
  · rw [if_neg h, if_neg h]
    apply okLe_bind (readRecord_toFile K ld v)
    intro _
    exact OkLe.refl _

theorem store_toFile (K : Codecs) (ld : Loaded) (v : Nat) (r : Dict.Rec)
    (h : ld.store K v = some r) : ld.toFile.store K v = some r := by
  unfold Loaded.store at h ⊢
  cases hr : readRecord K ld v with
  | ok r' =>
    rw [hr] at h
    rw [readRecord_toFile K ld v r' hr]
    exact h
  | err => rw [hr] at h; cases h
  | panic => rw [hr] at h; cases h

theorem storedSeg_toFile (ld : Loaded) : ld.toFile.storedSeg = ld.storedSeg := rfl

end Ice.Model.Format
