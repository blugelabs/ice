import IceModel.Lemmas.IterBytesAbs
/-
  Construction: `newChunkedIntDecoder(data, offset, rv)` parses the same decoder whatever `rv`
  is (stale buffer contents are overwritten before they are read), and `PostingsList.iterator`
  - fresh or with ANY reused iterator - yields a well-formed state whose abstraction is `Iter.mk`.
-/
namespace Ice.Model.IterBytes
open Ice Ice.Spec Ice.Model Ice.Model.ChunkBytes
open Ice.Model.Iter (RFlags It)

/-- every stale element of the (re)sliced array is overwritten before anything reads it -/
theorem fillOffsets_eq (file : Bool) (data : Bytes) (offset : Nat) :
    ∀ (k i n : Nat) (acc stale : List Nat), acc.length = i → stale.length = k →
      fillOffsets file data offset k i n (acc ++ stale) = readOffsets file data offset k n acc := by
  intro k
  induction k with
  | zero =>
    intro i n acc stale _ hs
    have : stale = [] := List.eq_nil_of_length_eq_zero hs
    subst this
    simp [fillOffsets, readOffsets]
  | succ k ih =>
    intro i n acc stale hi hs
    cases stale with
    | nil => simp at hs
    | cons s st =>
      rw [fillOffsets, readOffsets]
      cases hrd : Data.read file data ((offset + n) % two64) ((offset + n + 10) % two64) with
      | err => rfl
      | panic => rfl
      | ok w =>
        simp only
        have hset : (acc ++ s :: st).set i (uvarintU64 w).1 = (acc ++ [(uvarintU64 w).1]) ++ st := by
          subst hi
          simp
        rw [hset]
        exact ih (i + 1) _ (acc ++ [(uvarintU64 w).1]) st (by simp [hi]) (by simpa using hs)

theorem newDecB_eq (file : Bool) (data : Bytes) (offset : Nat) (rv : Option DecB) :
    ∃ tail, newDecB file data offset rv = Decoder.newWith file data offset >>= fun d =>
      .ok { (rv.getD emptyDec) with d := d, dataNil := false, offsTail := tail } := by
  unfold newDecB Decoder.newWith
  generalize (if offset = 0 then (Res.ok (0, 0) : Res (Nat × Nat))
     else
      match Data.read file data (offset % two64) ((offset + 10) % two64) with
      | .ok w => .ok (uvarintU64 w)
      | .err => .err
      | .panic => .panic) = hdr
  cases hdr with
  | err => exact ⟨[], rfl⟩
  | panic => exact ⟨[], rfl⟩
  | ok pr =>
    obtain ⟨numChunks, n⟩ := pr
    refine ⟨((rv.getD emptyDec).d.chunkOffsets ++ (rv.getD emptyDec).offsTail).drop numChunks, ?_⟩
    simp only [ok_bind]
    split
    · rfl
    · rw [← List.nil_append (ite _ _ _), fillOffsets_eq file data offset numChunks 0 n [] _ rfl
        (by split
            · rename_i h
              rw [List.length_take]
              exact Nat.min_eq_left h
            · exact List.length_replicate ..)]
      cases readOffsets file data offset numChunks n [] <;> rfl

/-- a decoder slot as `PostingsList.iterator` hands it to `newChunkedIntDecoder`: nil, or a
    decoder that was just `reset()` -/
def ResetSlot (old : Option DecB) : Prop := old = none ∨ ∃ u, old = some (DecB.reset u)

theorem resetSlot_map (o : Option DecB) : ResetSlot (o.map DecB.reset) := by
  cases o with
  | none => exact Or.inl rfl
  | some b => exact Or.inr ⟨b, rfl⟩

theorem resetSlot_keptFn (rv : Option ItB) : ResetSlot (keptFn rv) := by
  cases rv with
  | none => exact Or.inl rfl
  | some u => exact resetSlot_map u.fnR

theorem resetSlot_keptLc (rv : Option ItB) : ResetSlot (keptLc rv) := by
  cases rv with
  | none => exact Or.inl rfl
  | some u => exact resetSlot_map u.lcR

theorem newSlot_ok {file : Bool} {data : Bytes} {offset : Nat} {d : Decoder}
    (hd : Decoder.newWith file data offset = .ok d) (on : Bool) {old : Option DecB}
    (ho : ResetSlot old) :
    ∃ s, newSlot on file data offset old = .ok s ∧
      (on = true → ∃ b, s = some b ∧ b.d = d ∧ b.dataNil = false ∧ b.curChunkBytes = [] ∧
        ∀ r, b.r = some r → r = ⟨[], 0⟩) := by
  unfold newSlot
  cases on with
  | false => exact ⟨old, rfl, nofun⟩
  | true =>
    obtain ⟨tail, h⟩ := newDecB_eq file data offset old
    rw [if_pos rfl, h, hd]
    refine ⟨_, rfl, fun _ => ⟨_, rfl, rfl, rfl, ?_, ?_⟩⟩
    · rcases ho with rfl | ⟨u, rfl⟩ <;> rfl
    · rcases ho with rfl | ⟨u, rfl⟩
      · nofun
      · intro r (hr : u.r.map (fun _ => (⟨[], 0⟩ : Rd)) = some r)
        cases hu : u.r with
        | none => rw [hu] at hr; cases hr
        | some r0 => rw [hu] at hr; cases hr; rfl

/-- the `PostingsList` of the environment with exclusion list `ex` -/
def Env.pl (E : Env) (ex : Option (List Nat)) : PLB :=
  { cs := E.cs, freqOffset := E.freqOffset, locOffset := E.locOffset, file := E.file, data := E.data,
    fieldsInv := E.finv, docs := E.es.map (·.doc), except := ex }

/-- the state `PostingsList.iterator` returns, given the two decoder slots -/
def mkState (E : Env) (ex : Option (List Nat)) (fl : RFlags) (f' l' : Option DecB) (cap : Nat) : ItB :=
  { cs := E.cs, freqOffset := E.freqOffset, locOffset := E.locOffset, file := E.file,
    data := E.data, fieldsInv := E.finv, all := E.es.map (·.doc),
    act := (match ex with
      | none => E.es.map (·.doc)
      | some e => (E.es.map (·.doc)).filter (fun d => !e.contains d)),
    clean := ex.isNone, currChunk := 0, fnR := f', lcR := l', nextLocsCap := cap, fl := fl }

theorem iteratorB_ok {E : Env} (hE : E.OK) (ex : Option (List Nat)) (fl : RFlags) (rv : Option ItB) :
    ∃ i, iteratorB (E.pl ex) fl rv = .ok i ∧ WF E i ∧
      absIt E i = Iter.mk E.cs (E.es.map (toP E.finv)) ex fl := by
  obtain ⟨f', hf1, hf2⟩ := newSlot_ok hE.newT fl.incFN (resetSlot_keptFn rv)
  obtain ⟨l', hl1, hl2⟩ := newSlot_ok hE.newL fl.incL (resetSlot_keptLc rv)
  have hrun : iteratorB (E.pl ex) fl rv = .ok (mkState E ex fl f' l' (keptCap rv)) := by
    simp only [iteratorB, Env.pl, hf1, hl1, ok_bind, pure_eq_ok]
    rfl
  have hfnR : absFnR E (mkState E ex fl f' l' (keptCap rv)) = none := by
    cases hfn : fl.incFN with
    | false => simp [absFnR, mkState, hfn]
    | true =>
      obtain ⟨b, rfl, _, _, hc, _⟩ := hf2 hfn
      exact (absFnR_some (by exact hfn) rfl).trans (absFn_nil hc)
  have hlcR : absLcR E (mkState E ex fl f' l' (keptCap rv)) = [] := by
    cases hl : fl.incL with
    | false => simp [absLcR, mkState, hl]
    | true =>
      obtain ⟨b, rfl, _, _, _, hr⟩ := hl2 hl
      exact (absLcR_some (by exact hl) rfl).trans (absLc_fresh hr)
  have habs : absIt E (mkState E ex fl f' l' (keptCap rv)) =
      Iter.mk E.cs (E.es.map (toP E.finv)) ex fl := by
    unfold absIt Iter.mk
    rw [hfnR, hlcR, show (E.es.map (toP E.finv)).map (·.doc) = E.es.map (·.doc) by
      rw [List.map_map]; rfl]
    cases ex <;> rfl
  refine ⟨_, hrun, ⟨rfl, rfl, ?_, ?_, ?_, ?_⟩, habs⟩
  · intro n hn
    have hmem : n ∈ E.es.map (·.doc) := by
      cases ex with
      | none => exact hn
      | some e => exact (List.mem_filter.mp hn).1
    obtain ⟨e, he, rfl⟩ := List.mem_map.mp hmem
    exact hE.doc e he
  · intro hfn
    obtain ⟨b, rfl, hd, hn, hc, _⟩ := hf2 hfn
    exact ⟨b, rfl, hd, hn, fun _ => hc, fun h => absurd hc h⟩
  · intro hl
    obtain ⟨b, rfl, hd, hn, _, hr⟩ := hl2 hl
    refine ⟨b, rfl, hd, hn, fun _ => hr, fun r hr' hS => ?_⟩
    cases hr r hr'
    exact absurd rfl hS
  · intro _ l hl
    rw [show (absIt E _).fnR = _ from hfnR] at hl
    cases hl

end Ice.Model.IterBytes
