import IceModel.Lemmas.E2EValid
/-
  END-TO-END: the adapter between the container and the byte-level iterator (`term_env`, `iter_env`);
  what a reader observes of a loaded segment (`loadedStats`, `dictKeys`, `plbOf`), and "the loaded
  segment `ld` reads as the abstract segment `S`" (`ReadsAs`); what it says of fresh iterators holds
  of iterators built over a used one (`reuse_answers`, C13).
-/
/-! ## the adapter between the container (C04) and the byte-level iterator (C05Bytes)

  `C04.Reads` gives, for every term of a field, the value `dictionaryOf` finds and what is read there
  (`Format.TermReads`); `term_env` puts that into the form the invariant of the byte-level iterator
  wants (`IterBytes.Env.OK`).  `iter_env` is (B2) of `Props/C05Bytes.lean` for an environment, seen
  through the caller's flags. -/
namespace Ice.Props.E2E
open Ice Ice.Spec Ice.Model Ice.Model.Format
open Ice.Model.ChunkBytes (Entry)
open Ice.Model.IterBytes
open Ice.Model.Iter (RFlags)
open Ice.Model.Writer (Footer)

/-- **C04_postings, in the vocabulary of the byte-level iterator.**  For a general term of a
    written and loaded segment with documents: `dictionaryOf` finds its FST value, `readPostings`
    its record, and the record's offsets, the data section and the backing `file` form an
    environment in which the invariant of the byte-level iterator holds (`Env.OK`) - for any field
    table `finv` for which the entries satisfy the reader's contract. -/
theorem term_env {K : Codecs} {L : LSeg} {ld : Loaded} (hR : C04.Reads K L ld)
    (hnd : 0 < L.numDocs) (i : Nat) (f : FieldDesc) (hf : L.fields[i]? = some f)
    (j : Nat) (key : Bytes) (es : List Entry) (ht : f.terms[j]? = some (key, .general es))
    (finv : List Bytes) (hc : C05Bytes.Contract finv (L.numDocs - 1) es) (file : Bool) :
    ∃ fst v fo lo cs, dictionaryOf K ld i = .ok (some fst) ∧ fst[j]? = some (key, v) ∧
      readPostings K ld v = .ok (.general fo lo (es.map (·.doc)) cs) ∧
      ∃ dt dl, Env.OK
        { K := K.chunk, es := es, cs := cs, maxDoc := L.numDocs - 1, file := file,
          data := ld.data.bytes, freqOffset := fo, locOffset := lo, finv := finv, dt := dt, dl := dl } := by
  obtain ⟨fst, hdict, -, hterm⟩ := hR.dict hnd i f hf
  obtain ⟨v, hvj, -, -, -, fo, lo, -, cs, hread, -, -, hcspos, hdec⟩ := hterm j _ _ ht
  obtain ⟨dt, dl, hdt, hdl, hload⟩ := hdec file
  exact ⟨fst, v, fo, lo, cs, hdict, hvj, hread, dt, dl,
    hcspos, hc.valid, hc.freq, hc.norm, hc.fld, hc.doc, hdt, hdl,
    fun c hcle => (hload c (Nat.lt_succ_of_le hcle)).1,
    fun c hcle => (hload c (Nat.lt_succ_of_le hcle)).2⟩

/-- (B2) of `Props/C05Bytes.lean` for an environment: a fresh iterator over the postings list of
    the environment answers every script as the specification iterator does over the entries seen
    through the field table. -/
theorem iter_env {E : Env} (hE : E.OK) (hsorted : E.es.Pairwise (fun a b => a.doc < b.doc))
    (ex : Option (List Nat)) (fl : Flags) (ops : List IterOp) :
    ∃ i0, mkB (E.pl ex) (RFlags.of fl) = .ok i0 ∧
      (runB E.K i0 ops).map (C05Bytes.viewRes fl) =
        (iterRun fl (live (E.es.map (toP E.finv)) ex) ops).map .ok := by
  obtain ⟨i0, hmk, hrun⟩ := C05Bytes.B2_env hE hsorted ex (RFlags.of fl) (C05.RFlags.of_wf fl) ops
  exact ⟨i0, hmk, hrun ▸ C05Bytes.specRun_view fl _ ops⟩

end Ice.Props.E2E

namespace Ice.Props.E2E
open Ice Ice.Spec Ice.Model Ice.Model.Builder Ice.Model.Format
open Ice.Model.IterBytes (PLB mkB runB toP)
open Ice.Model.Iter (RFlags)
open Ice.Model.Writer (Footer)

/-- `Segment.CollectionStats` (stats.go:45-54) -/
def loadedStats (ld : Loaded) (f : Bytes) : Nat × Nat × Nat :=
  match ld.fieldsInv.idxOf? f with
  | none => (0, 0, 0)
  | some i => (ld.footer.numDocs, ld.fieldDocs.getD i 0, ld.fieldFreqs.getD i 0)

/-- the keys of a dictionary (`none`: nil FST, no keys) -/
def dictKeys : Option (List (Bytes × Nat)) → List Bytes
  | none => []
  | some fst => fst.map (·.1)

/-- the `PostingsList` that `Dictionary.PostingsList` + `PostingsList.read` hand to
    `PostingsList.iterator`: offsets and chunk size from the record, the segment's data (memory- or
    file-backed as the segment is) and field table, the exclusion bitmap of the caller -/
def plbOf (ld : Loaded) (fo lo cs : Nat) (docs : List Nat) (ex : Option (List Nat)) : PLB :=
  { cs := cs, freqOffset := fo, locOffset := lo, file := !ld.data.mem, data := ld.data.bytes,
    fieldsInv := ld.fieldsInv, docs := docs, except := ex }

/-- everything a reader can observe of the loaded segment `ld` is what the abstract segment `S`
    says (the conclusions of `E2E_fields` … `E2E_dv`) -/
structure ReadsAs (K : Codecs) (S : AbsSeg) (ld : Loaded) : Prop where
  fields : ld.fieldsInv = S.fields ∧ ld.fieldDocs = S.fieldDocs ∧ ld.fieldFreqs = S.fieldFreqs ∧
    ld.footer.numDocs = numDocs S ∧ ld.footer.chunkMode = S.chunkMode
  stats : ∀ f, loadedStats ld f = stats S f
  dict : ∀ (i : Nat) (f : Bytes), S.fields[i]? = some f →
    ∃ o, dictionaryOf K ld i = .ok o ∧ dictKeys o = terms S f ∧ (S.docs ≠ [] → o.isSome)
  dictNone : ∀ i : Nat, S.fields[i]? = none → dictionaryOf K ld i = .ok none
  iter : ∀ (i : Nat) (f : Bytes), S.fields[i]? = some f →
    ∀ (j : Nat) (t : Bytes), (terms S f)[j]? = some t →
    ∃ fst v fo lo cs, dictionaryOf K ld i = .ok (some fst) ∧ fst[j]? = some (t, v) ∧
      readPostings K ld v = .ok (.general fo lo ((postings S f t).map (·.doc)) cs) ∧
      ∀ (ex : Option (List Nat)) (fl : Flags) (ops : List IterOp),
        ∃ i0, mkB (plbOf ld fo lo cs ((postings S f t).map (·.doc)) ex) (RFlags.of fl) = .ok i0 ∧
          (runB K.chunk i0 ops).map (C05Bytes.viewRes fl) =
            (iterRun fl (live (postings S f t) ex) ops).map .ok
  stored : ∀ (n : Nat) (buf : Stored.Buf) (stop : Option Nat),
    ∃ vs buf', Stored.visit K.stored ld.storedSeg buf n stop = .ok (vs, buf') ∧
      vs.map (fun p => (ld.fieldsInv.getD p.1 [], p.2)) = Stored.takeStop stop (stored S n)
  dv : ∀ (i : Nat) (f : Bytes), S.fields[i]? = some f →
    ∃ ro, ld.dvReaders[i]? = some ro ∧
      match ro with
      | none => ∀ n, dvOf S n f = []
      | some r0 => ∀ ds : List Nat, (∀ d ∈ ds, d < S.docs.length) →
          ∃ r', DocValues.Reader.visitAll K.dv ld.data dvChunk r0 ds =
            .ok (ds.map (fun n => dvOf S n f), r')

/-- (C13, `B4_any`) what a fresh iterator answers to a script, an iterator constructed over any
    used `PostingsIterator` answers too -/
theorem reuse_answers (K : Codecs) {p : PLB} {fl : RFlags} {α : Type} {g : Res (Option Posting) → α}
    {ops : List IterOp} {out : List α}
    (h : ∃ i0, mkB p fl = .ok i0 ∧ (runB K.chunk i0 ops).map g = out)
    (used : Ice.Model.IterBytes.ItB) :
    ∃ i1, Ice.Model.IterBytes.mkBReuse used p fl = .ok i1 ∧ (runB K.chunk i1 ops).map g = out := by
  obtain ⟨i0, hmk, hrun⟩ := h
  obtain ⟨i1, h1, hr⟩ := (hmk ▸ Ice.Model.IterBytes.reuse_run K.chunk p fl used).of_ok
  exact ⟨i1, h1, hr ops ▸ hrun⟩

/-- the iterator component of `ReadsAs`, for iterators built over a used one (any segment) -/
theorem ReadsAs.iter_reuse {K : Codecs} {S : AbsSeg} {ld : Loaded} (h : ReadsAs K S ld)
    (i : Nat) (f : Bytes) (hf : S.fields[i]? = some f)
    (j : Nat) (t : Bytes) (ht : (terms S f)[j]? = some t) :
    ∃ fst v fo lo cs, dictionaryOf K ld i = .ok (some fst) ∧ fst[j]? = some (t, v) ∧
      readPostings K ld v = .ok (.general fo lo ((postings S f t).map (·.doc)) cs) ∧
      ∀ (used : Ice.Model.IterBytes.ItB) (ex : Option (List Nat)) (fl : Flags) (ops : List IterOp),
        ∃ i1, Ice.Model.IterBytes.mkBReuse used
            (plbOf ld fo lo cs ((postings S f t).map (·.doc)) ex) (RFlags.of fl) = .ok i1 ∧
          (runB K.chunk i1 ops).map (C05Bytes.viewRes fl) =
            (iterRun fl (live (postings S f t) ex) ops).map .ok := by
  obtain ⟨fst, v, fo, lo, cs, h1, h2, h3, h4⟩ := h.iter i f hf j t ht
  exact ⟨fst, v, fo, lo, cs, h1, h2, h3, fun used ex fl ops => reuse_answers K (h4 ex fl ops) used⟩

end Ice.Props.E2E
