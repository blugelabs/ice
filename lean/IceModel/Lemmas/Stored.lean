import IceModel.Model.Stored
import IceModel.Lemmas.Varint
import IceModel.Lemmas.Writer
import IceModel.Lemmas.DocValues
/-
  The stored-fields section (property C06), read back from what the writer wrote: the encoder of
  one document in closed form and the reader's loop on its record; the whole section in closed form
  (`writeStoredFields_eq`: the compressed blocks end to end, the chunk offsets where they end, the
  per-document offsets inside the uncompressed blocks); the reader on a document that lies in such
  bytes (`PieceAt`, `Located`); the offsets trailer and its loader.
-/
namespace Ice.Model.Stored
open Ice Ice.Model
open Ice.Model.Writer (be unbe)

@[simp] theorem Res.bind_ok {α β : Type} (a : α) (f : α → Res β) : Res.bind (.ok a) f = f a := rfl
@[simp] theorem Res.map_ok {α β : Type} (a : α) (f : α → β) : Res.map f (.ok a) = .ok (f a) := rfl

/-! ## varint readers -/

/-- the model keeps its own copy of `binary.Uvarint`; it is the one of the doc-value model -/
theorem uvarintGoAux_eq : ∀ (b : Bytes) (x s i : Nat),
    uvarintGoAux b x s i = DocValues.uvarintGoAux b x s i
  | [], _, _, _ => rfl
  | b :: rest, x, s, i => by rw [uvarintGoAux, DocValues.uvarintGoAux, uvarintGoAux_eq rest]

theorem uvarintGo_of_uvarint (b : Bytes) (v k : Nat) (h : uvarint b = some (v, k)) :
    uvarintGo b = (v, (k : Int)) :=
  (uvarintGoAux_eq b 0 0 0).trans (DocValues.uvarintGo_of_uvarint b v k h)

theorem ioReadUvarintAux_of_uvarintAux (b : Bytes) (x s i v k : Nat)
    (h : uvarintAux b x s i = some (v, k)) :
    i ≤ k ∧ ioReadUvarintAux b x s i = .ok v (b.drop (k - i)) := by
  fun_induction uvarintAux b x s i with
  | case1 => cases h
  | case2 => cases h
  | case3 => cases h
  | case4 b rest x s i h10 hlt h9 =>
    cases h
    simp only [ioReadUvarintAux, h10, hlt, h9, if_false, if_true, Nat.add_sub_cancel_left,
      List.drop_succ_cons, List.drop_zero, Nat.le_succ, and_self]
  | case5 b rest x s i h10 hlt ih =>
    obtain ⟨hle, hr⟩ := ih h
    simp only [ioReadUvarintAux, h10, hlt, if_false, hr]
    rw [show k - i = (k - (i + 1)) + 1 by omega, List.drop_succ_cons]
    exact ⟨by omega, rfl⟩

theorem uvarintGo_put (x : Nat) (rest : Bytes) (h : x < 2 ^ 64) :
    uvarintGo (putUvarint x ++ rest) = (x, ((putUvarint x).length : Int)) :=
  uvarintGo_of_uvarint _ _ _ (uvarint_put x rest h)

theorem ioReadUvarint_put (x : Nat) (rest : Bytes) (h : x < 2 ^ 64) :
    ioReadUvarint (putUvarint x ++ rest) = .ok x rest := by
  have := (ioReadUvarintAux_of_uvarintAux _ 0 0 0 _ _ (uvarint_put x rest h)).2
  simpa [ioReadUvarint] using this

theorem ioReadUvarint_nil : ioReadUvarint [] = .eof := by
  simp [ioReadUvarint, ioReadUvarintAux]

theorem ioReadUvarintAux_rest (b : Bytes) (x s i v : Nat) (rest : Bytes)
    (h : ioReadUvarintAux b x s i = .ok v rest) : rest.length < b.length := by
  fun_induction ioReadUvarintAux b x s i with
  | case1 => cases h
  | case2 => cases h
  | case3 => cases h
  | case4 => cases h
  | case5 => cases h; exact Nat.lt_succ_self _
  | case6 _ _ _ _ _ _ _ ih => exact Nat.lt_succ_of_lt (ih h)

theorem ioReadUvarint_rest (b : Bytes) (v : Nat) (rest : Bytes)
    (h : ioReadUvarint b = .ok v rest) : rest.length < b.length :=
  ioReadUvarintAux_rest b 0 0 0 v rest h

theorem u64_natCast (k : Nat) (h : k < 2 ^ 64) : u64 (k : Int) = k := by
  rw [u64, ← Int.natCast_emod, Int.toNat_natCast]
  exact Nat.mod_eq_of_lt h

theorem be_length (k x : Nat) : (be k x).length = k := Writer.length_be k x

theorem unbe_be (k x : Nat) : unbe (be k x) = x % 256 ^ k := by
  rw [unbe, Writer.foldl_be, Nat.zero_mul, Nat.zero_add]

theorem unbe_be8 (x : Nat) (h : x < 2 ^ 64) : unbe (be 8 x) = x := Writer.unbe_be' 8 x h

theorem unbe_be4 (x : Nat) (h : x < 2 ^ 32) : unbe (be 4 x) = x := Writer.unbe_be' 4 x h

/-! ## the encoder of one document -/

/-- meta triples of a list of `(fieldID, value)` pairs, the first value lying at `curr` -/
def metaOf : List (Nat × Bytes) → Nat → Bytes
  | [], _ => []
  | (f, v) :: r, curr =>
    putUvarint f ++ putUvarint curr ++ putUvarint v.length ++ metaOf r (curr + v.length)

def dataOf : List (Nat × Bytes) → Bytes
  | [] => []
  | (_, v) :: r => v ++ dataOf r

theorem dataOf_append (a b : List (Nat × Bytes)) : dataOf (a ++ b) = dataOf a ++ dataOf b := by
  induction a with
  | nil => rfl
  | cons p a ih => obtain ⟨f, v⟩ := p; simp [dataOf, ih]

theorem metaOf_append (a b : List (Nat × Bytes)) : ∀ c,
    metaOf (a ++ b) c = metaOf a c ++ metaOf b (c + (dataOf a).length) := by
  induction a with
  | nil => intro c; simp [metaOf, dataOf]
  | cons p a ih =>
    intro c; obtain ⟨f, v⟩ := p
    simp [metaOf, dataOf, ih, Nat.add_assoc]

theorem metaOf_length_ge (l : List (Nat × Bytes)) : ∀ c, l.length ≤ (metaOf l c).length := by
  induction l with
  | nil => intro c; simp
  | cons p l ih =>
    intro c; obtain ⟨f, v⟩ := p
    have h1 := List.length_pos_iff.mpr (putUvarint_ne_nil f)
    have := ih (c + v.length)
    simp only [metaOf, List.length_append, List.length_cons]
    omega

theorem encodeStoredFieldValues_eq (f : Nat) : ∀ (vs : List Bytes) (e : Enc),
    encodeStoredFieldValues f vs e =
      { curr := e.curr + (dataOf (vs.map fun v => (f, v))).length,
        mta := e.mta ++ metaOf (vs.map fun v => (f, v)) e.curr,
        data := e.data ++ dataOf (vs.map fun v => (f, v)) } := by
  intro vs
  induction vs with
  | nil => intro e; simp [encodeStoredFieldValues, metaOf, dataOf]
  | cons v vs ih =>
    intro e
    simp [encodeStoredFieldValues, ih, metaOf, dataOf, Nat.add_assoc]

theorem encodeDoc_eq : ∀ (d : Doc) (e : Enc),
    encodeDoc d e =
      { curr := e.curr + (dataOf (flat d)).length,
        mta := e.mta ++ metaOf (flat d) e.curr,
        data := e.data ++ dataOf (flat d) } := by
  intro d
  induction d with
  | nil => intro e; simp [encodeDoc, flat, metaOf, dataOf]
  | cons fv d ih =>
    intro e; obtain ⟨f, vs⟩ := fv
    have hf : flat ((f, vs) :: d) = (vs.map fun v => (f, v)) ++ flat d := by simp [flat]
    simp [encodeDoc, ih, encodeStoredFieldValues_eq, hf, metaOf_append, dataOf_append,
      Nat.add_assoc]

theorem record_eq (d : Doc) :
    record d = putUvarint (metaOf (flat d) 0).length ++ (putUvarint (dataOf (flat d)).length ++
      (metaOf (flat d) 0 ++ dataOf (flat d))) := by
  simp [record, encodeDoc_eq]

theorem record_ne_nil (d : Doc) : record d ≠ [] := by
  rw [record_eq]
  intro h
  exact putUvarint_ne_nil _ (List.append_eq_nil_iff.mp h).1

theorem record_length_pos (d : Doc) : 0 < (record d).length :=
  List.length_pos_iff.mpr (record_ne_nil d)

/-! ## uint64 arithmetic; positions from which the memory is known -/

theorem add64_of_lt {a b : Nat} (h : a + b < 2 ^ 64) : add64 a b = a + b :=
  Nat.mod_eq_of_lt h

theorem mul64_of_lt {a b : Nat} (h : a * b < 2 ^ 64) : mul64 a b = a * b :=
  Nat.mod_eq_of_lt h

theorem slice_ok (b : Buf) (i e : Nat) (h1 : i ≤ e) (h2 : e ≤ b.mem.length) :
    b.slice i e = .ok ⟨b.mem.drop i, e - i⟩ := by
  unfold Buf.slice; rw [if_pos ⟨h2, h1⟩]

theorem slice_of_drop (b : Buf) (i : Nat) (v rest : Bytes) (hi : i ≤ b.mem.length)
    (h : b.mem.drop i = v ++ rest) : b.slice i (i + v.length) = .ok ⟨v ++ rest, v.length⟩ := by
  have := drop_append_length h hi
  rw [slice_ok b _ _ (by omega) (by omega), h, Nat.add_sub_cancel_left]

theorem data_append (v rest : Bytes) : Buf.data ⟨v ++ rest, v.length⟩ = v :=
  List.take_left' rfl

/-! ## the visitor loop on the meta bytes of a record -/

theorem takeStop_nil {α : Type} (s : Option Nat) : takeStop s ([] : List α) = [] := by
  cases s <;> simp [takeStop]

/-- The loop of `visitDocument` run on the meta triples of `l` delivers `l` (up to the visitor's
    stop), provided the data slice holds the values from `curr` on. -/
theorem visitLoop_metaOf (nf : Nat) (unc : Buf) : ∀ (l : List (Nat × Bytes)) (curr fuel : Nat)
    (stop : Option Nat) (rest : Bytes),
    l.length < fuel →
    (∀ p ∈ l, p.1 < nf ∧ p.1 < 2 ^ 64) →
    curr + (dataOf l).length < 2 ^ 64 →
    curr ≤ unc.mem.length →
    unc.mem.drop curr = dataOf l ++ rest →
    visitLoop nf unc fuel (metaOf l curr) stop = .ok (takeStop stop l) := by
  intro l
  induction l with
  | nil =>
    intro curr fuel stop rest hf _ _ _ _
    cases fuel with
    | zero => exact absurd hf (Nat.lt_irrefl _)
    | succ k => simp only [visitLoop, metaOf, ioReadUvarint_nil, takeStop_nil]
  | cons p l ih =>
    intro curr fuel stop rest hf hp hb hc hd
    obtain ⟨f, v⟩ := p
    cases fuel with
    | zero => exact absurd hf (Nat.not_lt_zero _)
    | succ k =>
      have hpf := hp (f, v) List.mem_cons_self
      simp only [dataOf, List.length_append, List.append_assoc] at hb hd
      obtain ⟨hd', hc'⟩ := drop_append_step hd hc
      have a1 : curr + v.length < 2 ^ 64 := by omega
      have ihh := fun stop' => ih (curr + v.length) k stop' rest (Nat.lt_of_succ_lt_succ hf)
        (fun p hp' => hp p (List.mem_cons_of_mem _ hp')) (by omega) hc' hd'
      simp only [visitLoop, metaOf, List.append_assoc, ioReadUvarint_put f _ hpf.2,
        ioReadUvarint_put curr _ (Nat.lt_of_le_of_lt (Nat.le_add_right _ _) a1),
        ioReadUvarint_put v.length _ (Nat.lt_of_le_of_lt (Nat.le_add_left _ _) a1),
        add64_of_lt a1, slice_of_drop unc curr v _ hc hd, Res.bind_ok, hpf.1, if_true,
        data_append, ihh]
      cases stop with
      | none => rfl
      | some j =>
        cases j with
        | zero => rfl
        | succ j => rfl

/-- the fuel of `visitLoop` is never the limiting factor: any two amounts above the number of
    unread meta bytes give the same result (`visitWith` passes `len(meta) + 1`) -/
theorem visitLoop_fuel_stable (nf : Nat) (unc : Buf) : ∀ (f1 f2 : Nat) (r : Bytes) (stop : Option Nat),
    r.length < f1 → r.length < f2 →
    visitLoop nf unc f1 r stop = visitLoop nf unc f2 r stop := by
  intro f1
  induction f1 with
  | zero => intro f2 r stop h; omega
  | succ f1 ih =>
    intro f2 r stop h1 h2
    cases f2 with
    | zero => omega
    | succ f2 =>
      simp only [visitLoop]
      cases e1 : ioReadUvarint r with
      | eof => rfl
      | err => rfl
      | ok field r1 =>
        have l1 := ioReadUvarint_rest _ _ _ e1
        simp only
        cases e2 : ioReadUvarint r1 with
        | eof => rfl
        | err => rfl
        | ok offset r2 =>
          have l2 := ioReadUvarint_rest _ _ _ e2
          simp only
          cases e3 : ioReadUvarint r2 with
          | eof => rfl
          | err => rfl
          | ok l r3 =>
            have l3 := ioReadUvarint_rest _ _ _ e3
            simp only
            have := fun st => ih f2 r3 st (by omega) (by omega)
            simp only [this]

/-! ## pieces laid end to end -/

/-- offsets of the records inside a block buffer that already holds `start` bytes -/
def prefLens (start : Nat) : List Bytes → List Nat
  | [] => []
  | r :: rs => start :: prefLens (start + r.length) rs

theorem prefLens_length (rs : List Bytes) : ∀ s, (prefLens s rs).length = rs.length := by
  induction rs with
  | nil => intro s; rfl
  | cons r rs ih => intro s; simp [prefLens, ih]

theorem prefLens_eq (rs : List Bytes) : ∀ s,
    prefLens s rs = (s :: ends s (rs.map List.length)).take rs.length := by
  induction rs with
  | nil => intro s; rfl
  | cons r rs ih => intro s; simp [prefLens, ends, ih]

theorem prefLens_getElem? (rs : List Bytes) (s n : Nat) (h : n < rs.length) :
    (prefLens s rs)[n]? = some (s + (rs.take n).flatten.length) := by
  rw [prefLens_eq, List.getElem?_take_of_lt h, ends_getElem?_pieces rs s n (Nat.le_of_lt h)]

theorem prefLens_append (a b : List Bytes) : ∀ s,
    prefLens s (a ++ b) = prefLens s a ++ prefLens (s + a.flatten.length) b := by
  induction a with
  | nil => intro s; rfl
  | cons r a ih => intro s; simp [prefLens, ih, Nat.add_assoc]

theorem length_flatten_take_le (l : List Bytes) (n : Nat) :
    (l.take n).flatten.length ≤ l.flatten.length := by
  conv => rhs; rw [← List.take_append_drop n l, List.flatten_append, List.length_append]
  omega

theorem length_flatten_drop_le (l : List Bytes) (n : Nat) :
    (l.drop n).flatten.length ≤ l.flatten.length := by
  conv => rhs; rw [← List.take_append_drop n l, List.flatten_append, List.length_append]
  omega

/-! ## the chunked document coder -/

theorem add_eq (cd : Codec) (c : Coder) (d : Doc) :
    c.add cd (encodeDoc d {}).mta (encodeDoc d {}).data =
      if (c.n + 1) % c.chunkSize != 0 then { c with buf := c.buf ++ record d, n := c.n + 1 }
      else Coder.flush cd { c with buf := c.buf ++ record d, n := c.n + 1 } := by
  simp [Coder.add, record, List.append_assoc]

theorem writeDocs_append (cd : Codec) (a b : List Doc) : ∀ (c : Coder) (dso : List Nat),
    writeDocs cd (a ++ b) c dso =
      writeDocs cd b (writeDocs cd a c dso).1 (writeDocs cd a c dso).2 := by
  induction a with
  | nil => intro c dso; rfl
  | cons d a ih => intro c dso; simp [writeDocs, ih]

/-- the position inside the block after one more document -/
theorem succ_mod_block {n q bs r : Nat} (hn : n = q * bs + r) : (n + 1) % bs = (r + 1) % bs := by
  rw [hn, Nat.add_assoc, Nat.add_comm, Nat.add_mul_mod_self_right]

theorem writeDocs_inBlock (cd : Codec) : ∀ (docs : List Doc) (c : Coder) (dso : List Nat) (q r : Nat),
    c.n = q * c.chunkSize + r → r + docs.length < c.chunkSize →
    writeDocs cd docs c dso =
      ({ c with buf := c.buf ++ (docs.map record).flatten, n := c.n + docs.length },
       dso ++ prefLens c.buf.length (docs.map record)) := by
  intro docs
  induction docs with
  | nil => intro c dso q r _ _; simp [writeDocs, prefLens]
  | cons d docs ih =>
    intro c dso q r hn hr
    simp only [List.length_cons] at hr
    have hmod : (c.n + 1) % c.chunkSize = r + 1 :=
      (succ_mod_block hn).trans (Nat.mod_eq_of_lt (by omega))
    simp only [writeDocs, add_eq, hmod]
    rw [if_pos (by simp)]
    rw [ih _ _ q (r + 1) (by simp [hn]; omega) (by simp; omega)]
    simp [prefLens, Nat.add_assoc, Nat.add_comm 1]

/-- documents that exactly complete the block: the last one is added behind the buffered others,
    and the block is flushed -/
theorem writeDocs_closeBlock (cd : Codec) (docs : List Doc) (c : Coder) (dso : List Nat) (q r : Nat)
    (hn : c.n = q * c.chunkSize + r) (hr : r + docs.length = c.chunkSize) (hne : docs ≠ []) :
    writeDocs cd docs c dso =
      (Coder.flush cd { c with buf := c.buf ++ (docs.map record).flatten, n := c.n + docs.length },
       dso ++ prefLens c.buf.length (docs.map record)) := by
  obtain ⟨init, d, rfl⟩ : ∃ init d, docs = init ++ [d] :=
    ⟨_, _, (List.dropLast_concat_getLast hne).symm⟩
  rw [List.length_append, List.length_singleton, ← Nat.add_assoc] at hr
  have hmod : (c.n + (init.length + 1)) % c.chunkSize = 0 := by
    rw [hn, Nat.add_assoc (q * _), ← Nat.add_assoc r, hr, Nat.add_comm, Nat.add_mul_mod_self_right,
      Nat.mod_self]
  rw [writeDocs_append, writeDocs_inBlock cd init c dso q r hn (by omega)]
  simp [writeDocs, add_eq, hmod, prefLens, prefLens_append, Nat.add_assoc]

/-! ## the blocks of a section -/

def recs (B : List Doc) : Bytes := (B.map record).flatten

/-- what `flush` writes for a block: nothing for an empty buffer -/
def Zs (cd : Codec) (B : List Doc) : Bytes := if B = [] then [] else cd.Z (recs B)

def blockDocs (bs : Nat) (docs : List Doc) (i : Nat) : List Doc := (docs.drop (i * bs)).take bs

/-- the blocks of `bs` documents each; the last one is partial, possibly empty -/
def blocks (bs : Nat) (docs : List Doc) : List (List Doc) :=
  (List.range (docs.length / bs + 1)).map (blockDocs bs docs)

theorem flatten_map_record_ne_nil (docs : List Doc) (h : docs ≠ []) :
    (docs.map record).flatten ≠ [] := by
  cases docs with
  | nil => exact absurd rfl h
  | cons d r =>
    simp only [List.map_cons, List.flatten_cons]
    intro h'
    exact record_ne_nil d (List.append_eq_nil_iff.mp h').1

theorem recs_ne_nil {B : List Doc} (h : B ≠ []) : recs B ≠ [] := flatten_map_record_ne_nil B h

theorem blockDocs_zero (bs : Nat) (docs : List Doc) : blockDocs bs docs 0 = docs.take bs := by
  simp [blockDocs]

theorem blockDocs_succ (bs : Nat) (docs : List Doc) (i : Nat) :
    blockDocs bs docs (i + 1) = blockDocs bs (docs.drop bs) i := by
  simp only [blockDocs, List.drop_drop]
  congr 2
  rw [Nat.add_mul]; omega

theorem blocks_of_lt {bs : Nat} {docs : List Doc} (h : docs.length < bs) :
    blocks bs docs = [docs] := by
  rw [blocks, Nat.div_eq_of_lt h]
  simp only [Nat.zero_add, List.range_one, List.map_cons, List.map_nil, blockDocs_zero]
  rw [List.take_of_length_le (Nat.le_of_lt h)]

theorem blocks_of_le {bs : Nat} {docs : List Doc} (hbs : 0 < bs) (h : bs ≤ docs.length) :
    blocks bs docs = docs.take bs :: blocks bs (docs.drop bs) := by
  rw [blocks, blocks, Nat.div_eq_sub_div hbs h, List.range_succ_eq_map, List.map_cons,
    List.map_map, blockDocs_zero, List.length_drop]
  congr 2
  funext i
  exact blockDocs_succ bs docs i

theorem drop_induction {α : Type} {P : List α → Prop} {bs : Nat} (hbs : 0 < bs)
    (last : ∀ l, l.length < bs → P l) (step : ∀ l, bs ≤ l.length → P (l.drop bs) → P l)
    (l : List α) : P l := by
  generalize hn : l.length = n
  induction n using Nat.strongRecOn generalizing l with
  | ind n ih =>
    by_cases hlt : l.length < bs
    · exact last l hlt
    · exact step l (Nat.le_of_not_lt hlt)
        (ih (l.drop bs).length (by rw [List.length_drop]; omega) _ rfl)

theorem flatten_blocks (bs : Nat) (hbs : 0 < bs) (docs : List Doc) :
    (blocks bs docs).flatten = docs := by
  induction docs using drop_induction hbs with
  | last docs hlt => rw [blocks_of_lt hlt, List.flatten_cons, List.flatten_nil, List.append_nil]
  | step docs hle ih => rw [blocks_of_le hbs hle, List.flatten_cons, ih, List.take_append_drop]

/-! ## the coder's output in closed form -/

/-- the coder stands at a block boundary after `q` complete blocks -/
structure Bdry (bs : Nat) (c : Coder) (q : Nat) : Prop where
  cs : c.chunkSize = bs
  n : c.n = q * bs
  buf : c.buf = []

theorem flush_nonempty (cd : Codec) (c : Coder) (h : c.buf ≠ []) :
    Coder.flush cd c =
      { c with w := c.w ++ cd.Z c.buf, bytes := c.bytes + (cd.Z c.buf).length, buf := [],
               offsets := c.offsets ++ [c.bytes + (cd.Z c.buf).length] } := by
  have : 0 < c.buf.length := List.length_pos_iff.mpr h
  simp [Coder.flush, this]

theorem flush_empty (cd : Codec) (c : Coder) (h : c.buf = []) :
    Coder.flush cd c = { c with offsets := c.offsets ++ [c.bytes] } := by
  simp [Coder.flush, h]

theorem flush_recs (cd : Codec) (c : Coder) (B : List Doc) (m : Nat) (h : c.buf = []) :
    Coder.flush cd { c with buf := c.buf ++ (B.map record).flatten, n := m } =
      { c with w := c.w ++ Zs cd B, bytes := c.bytes + (Zs cd B).length, buf := [], n := m,
               offsets := c.offsets ++ [c.bytes + (Zs cd B).length] } := by
  by_cases hB : B = []
  · subst hB
    rw [flush_empty _ _ (by simp [h])]
    simp [Zs, h]
  · rw [flush_nonempty _ _ (by simpa [h] using flatten_map_record_ne_nil B hB)]
    simp [Zs, hB, h, recs]

theorem writeDocs_firstBlock (cd : Codec) (bs : Nat) (hbs : 0 < bs) (docs : List Doc) (c : Coder)
    (dso : List Nat) (q : Nat) (hB : Bdry bs c q) (hle : bs ≤ docs.length) :
    let c1 : Coder :=
      { c with w := c.w ++ Zs cd (docs.take bs), bytes := c.bytes + (Zs cd (docs.take bs)).length,
               buf := [], n := c.n + (docs.take bs).length,
               offsets := c.offsets ++ [c.bytes + (Zs cd (docs.take bs)).length] }
    writeDocs cd docs c dso =
      writeDocs cd (docs.drop bs) c1 (dso ++ prefLens 0 ((docs.take bs).map record)) ∧
    Bdry bs c1 (q + 1) := by
  have hlen : (docs.take bs).length = bs := by rw [List.length_take]; omega
  have hne : docs.take bs ≠ [] := by
    intro h; rw [h] at hlen; exact absurd hlen.symm (Nat.ne_of_gt hbs)
  refine ⟨?_, hB.cs, by simp only [hB.n, hlen, Nat.add_mul, Nat.one_mul], rfl⟩
  conv => lhs; rw [← List.take_append_drop bs docs]
  rw [writeDocs_append, writeDocs_closeBlock cd (docs.take bs) c dso q 0
    (by rw [hB.n, hB.cs]; rfl) (by rw [hlen, hB.cs, Nat.zero_add]) hne,
    flush_recs cd c _ _ hB.buf, hB.buf]
  rfl

/-- From a block boundary on, the coder puts out the compressed blocks of `docs` one after the
    other and notes where each ends; a document's offset is that of its record in its block. -/
theorem writeDocs_flush (cd : Codec) (bs : Nat) (hbs : 0 < bs) (docs : List Doc) :
    ∀ (q : Nat) (c : Coder) (dso : List Nat), Bdry bs c q →
    (Coder.flush cd (writeDocs cd docs c dso).1).w =
      c.w ++ ((blocks bs docs).map (Zs cd)).flatten ∧
    (Coder.flush cd (writeDocs cd docs c dso).1).offsets =
      c.offsets ++ ends c.bytes (((blocks bs docs).map (Zs cd)).map List.length) ∧
    (writeDocs cd docs c dso).2 =
      dso ++ (blocks bs docs).flatMap fun B => prefLens 0 (B.map record) := by
  induction docs using drop_induction hbs with
  | last docs hlt =>
    -- the last, partial block: flushed by `Write`
    intro q c dso hB
    rw [writeDocs_inBlock cd docs c dso q 0 (by simp [hB.n, hB.cs]) (by simp [hB.cs]; omega),
      blocks_of_lt hlt, flush_recs cd c docs _ hB.buf, hB.buf]
    simp [ends]
  | step docs hle ih =>
    intro q c dso hB
    obtain ⟨hw, hB1⟩ := writeDocs_firstBlock cd bs hbs docs c dso q hB hle
    obtain ⟨h1, h2, h3⟩ := ih (q + 1) _ (dso ++ prefLens 0 ((docs.take bs).map record)) hB1
    rw [hw, blocks_of_le hbs hle, h1, h2, h3]
    simp [ends, List.append_assoc]

theorem write_w (cd : Codec) (c : Coder) :
    (c.write cd).w = (Coder.flush cd c).w ++
      ((Coder.flush cd c).offsets.flatMap putUvarint ++
        (be 4 ((Coder.flush cd c).offsets.flatMap putUvarint).length ++
          be 4 (Coder.flush cd c).offsets.length)) := by
  simp [Coder.write, List.append_assoc]

theorem write_offsets (cd : Codec) (c : Coder) :
    (c.write cd).offsets = (Coder.flush cd c).offsets := rfl

/-! ## where a document lies in the written bytes -/

/-- Document number `k`, whose record is `rec`, can be found in the coder's output `w` through
    the chunk offsets `offs` and the per-document offsets `dso`: piece `k / bs` is the compressed
    block `blk`, and `rec` starts at `dso[k]` inside `blk`. -/
def Located (cd : Codec) (bs : Nat) (w : Bytes) (offs dso : List Nat) (k : Nat) (rec : Bytes)
    (L : Nat) : Prop :=
  ∃ (blk pre post : Bytes), PieceAt w offs (k / bs) (cd.Z blk) ∧
    blk = pre ++ rec ++ post ∧ dso[k]? = some pre.length ∧ blk.length ≤ L

/-! ## reading one record back (record round trip) -/

/-- the end of the look-ahead window (ten bytes, clamped to the block) lies behind whatever of at
    most ten bytes ends inside the block -/
theorem clamp_bounds {off len n : Nat} (h : off + n ≤ len) (hn : n ≤ 10) :
    off ≤ (if off + 10 > len then len else off + 10) ∧
    (if off + 10 > len then len else off + 10) ≤ len ∧
    n ≤ (if off + 10 > len then len else off + 10) - off := by
  split <;> omega

/-- one look-ahead read of `readRecordLens`: the window starting at a written varint, clamped to
    the block, holds the whole varint -/
theorem lookAhead_put (B : Buf) (off x : Nat) (rest : Bytes) (hx : x < 2 ^ 64)
    (hm : B.mem.drop off = putUvarint x ++ rest) (hl : off + (putUvarint x).length ≤ B.len)
    (hl2 : B.len ≤ B.mem.length) :
    ∃ w, B.slice off (if off + 10 > B.len then B.len else off + 10) = .ok w ∧
      uvarintGo w.data = (x, ((putUvarint x).length : Int)) := by
  obtain ⟨c1, c2, c3⟩ := clamp_bounds hl (putUvarint_length_le_ten x hx)
  refine ⟨_, slice_ok B _ _ c1 (Nat.le_trans c2 hl2), ?_⟩
  simp only [Buf.data]
  rw [take_drop_append hm c3]
  exact uvarintGo_put x _ hx

theorem readRecordLens_record (B : Buf) (pre M D rest : Bytes)
    (hm : B.mem = pre ++ (putUvarint M.length ++ (putUvarint D.length ++ (M ++ (D ++ rest)))))
    (hl1 : pre.length + ((putUvarint M.length).length + ((putUvarint D.length).length +
      (M.length + D.length))) ≤ B.len)
    (hl2 : B.len ≤ B.mem.length) (hb : B.len < 2 ^ 63) :
    readRecordLens true B pre.length =
      .ok { storedOffset := pre.length,
            n := (putUvarint M.length).length + (putUvarint D.length).length,
            metaLen := M.length, dataLen := D.length, buf := B } := by
  have ⟨hM, hD, a1, a2, a3⟩ : M.length < 2 ^ 64 ∧ D.length < 2 ^ 64 ∧
      pre.length + (putUvarint M.length).length + 10 < 2 ^ 64 ∧
      pre.length + (putUvarint M.length).length + (putUvarint D.length).length ≤ B.len ∧
      (putUvarint M.length).length + (putUvarint D.length).length < 2 ^ 64 := by omega
  obtain ⟨w1, s1, u1⟩ := lookAhead_put B pre.length M.length _ hM
    (by rw [hm, List.drop_left]) (Nat.le_trans (Nat.le_add_right _ _) a2) hl2
  obtain ⟨w2, s2, u2⟩ := lookAhead_put B (pre.length + (putUvarint M.length).length) D.length _
    hD (by rw [hm, List.drop_length_add_append, List.drop_left]) a2 hl2
  unfold readRecordLens
  simp only [Bool.true_and, decide_eq_true_eq, s1, Res.bind_ok, u1, u2, s2,
    add64_of_lt (Nat.lt_of_le_of_lt (Nat.add_le_add_right (Nat.le_add_right _ _) 10) a1),
    u64_natCast _ (Nat.lt_of_le_of_lt (Nat.le_add_right _ _) a3),
    add64_of_lt (Nat.lt_of_le_of_lt (Nat.le_add_right _ 10) a1), add64_of_lt a1,
    u64_natCast _ (Nat.lt_of_le_of_lt (Nat.le_add_left _ _) a3), add64_of_lt a3]

theorem visitRecord_record (nf : Nat) (B : Buf) (l : List (Nat × Bytes))
    (pre v1 v2 M D rest : Bytes) (stop : Option Nat) (hM : metaOf l 0 = M) (hD : dataOf l = D)
    (hm : B.mem = pre ++ (v1 ++ (v2 ++ (M ++ (D ++ rest)))))
    (hl1 : pre.length + (v1.length + (v2.length + (M.length + D.length))) ≤ B.len)
    (hb : B.len < 2 ^ 63) (hf : ∀ p ∈ l, p.1 < nf ∧ p.1 < 2 ^ 64) :
    visitRecord nf
      { storedOffset := pre.length, n := v1.length + v2.length, metaLen := M.length,
        dataLen := D.length, buf := B } stop =
      .ok (takeStop stop l, B) := by
  have ⟨a1, a2, a4, a5⟩ : pre.length + (v1.length + v2.length) < 2 ^ 64 ∧
      pre.length + (v1.length + v2.length) + M.length < 2 ^ 64 ∧ 0 + D.length < 2 ^ 64 ∧
      pre.length + (v1.length + v2.length) + M.length + D.length < 2 ^ 64 := by omega
  have hd : B.mem.drop (pre.length + (v1.length + v2.length)) = M ++ (D ++ rest) := by
    rw [hm, List.drop_length_add_append, List.drop_length_add_append, List.drop_left]
  have hle : pre.length + (v1.length + v2.length) ≤ B.mem.length := by
    rw [hm]; simp only [List.length_append]; omega
  obtain ⟨hd2, a3⟩ := drop_append_step hd hle
  subst hM hD
  have hloop := visitLoop_metaOf nf ⟨dataOf l ++ rest, (dataOf l).length⟩ l 0
    ((metaOf l 0).length + 1) stop rest (Nat.lt_succ_of_le (metaOf_length_ge l 0)) hf a4
    (Nat.zero_le _) rfl
  unfold visitRecord
  simp only [add64_of_lt a1, add64_of_lt a2, add64_of_lt a5, slice_of_drop B _ _ _ hle hd,
    slice_of_drop B _ _ _ a3 hd2, Res.bind_ok, data_append, hloop, Res.map_ok]

/-! ## the per-document index, decompression, data reads -/

theorem flatMap_be8_length (l : List Nat) : (l.flatMap (be 8)).length = 8 * l.length :=
  length_flatMap_const _ (be_length 8) l

theorem flatMap_be8_drop (l : List Nat) (n x : Nat) (tail : Bytes) (h : l[n]? = some x) :
    ∃ rest, (l.flatMap (be 8) ++ tail).drop (8 * n) = be 8 x ++ rest := by
  have := drop_append_flatMap (be 8) (o := 0) (rest := tail) List.drop_zero h
  rw [Nat.zero_add, flatMap_be8_length, List.length_take_of_le (Nat.le_of_lt (List.getElem?_eq_some_iff.mp h).1)] at this
  exact ⟨_, this⟩

theorem decompressInto_rt (cd : Codec) (buf : Buf) (blk : Bytes) :
    ∃ X, decompressInto cd buf (cd.Z blk) = some ⟨blk ++ X, blk.length⟩ := by
  unfold decompressInto
  rw [cd.rt]
  simp only
  split
  · exact ⟨_, rfl⟩
  · exact ⟨_, rfl⟩

theorem dataRead_ok (mem : Bytes) (s e : Nat) (h1 : s ≤ e) (h2 : e ≤ mem.length) :
    dataRead mem s e = .ok ((mem.drop s).take (e - s)) := by
  unfold dataRead; rw [if_pos ⟨h2, h1⟩]

theorem index_ok (l : List Nat) (i x : Nat) (h : l[i]? = some x) : index l i = .ok x := by
  simp only [index, h]

theorem _root_.Ice.PieceAt.read {w : Bytes} {offs : List Nat} {j : Nat} {z : Bytes} (h : PieceAt w offs j z)
    (rest : Bytes) :
    ∃ a, index offs j = .ok a ∧ index offs (j + 1) = .ok (a + z.length) ∧
      dataRead (w ++ rest) a (a + z.length) = .ok z := by
  obtain ⟨a, h1, h2, h3, h4⟩ := h
  refine ⟨a, index_ok _ _ _ h1, index_ok _ _ _ h2, ?_⟩
  rw [dataRead_ok _ _ _ (Nat.le_add_right _ _) (by rw [List.length_append]; omega),
    Nat.add_sub_cancel_left, List.drop_append_of_le_length (by omega),
    List.take_append_of_le_length (by rw [List.length_drop]; omega), h4]

theorem dataRead_index (W : Bytes) (dso : List Nat) (tail : Bytes) (n x : Nat)
    (h : dso[n]? = some x) :
    dataRead (W ++ (dso.flatMap (be 8) ++ tail)) (W.length + 8 * n) (W.length + 8 * n + 8) =
      .ok (be 8 x) := by
  have hn := (List.getElem?_eq_some_iff.mp h).1
  obtain ⟨rest, hr⟩ := flatMap_be8_drop dso n x tail h
  rw [dataRead_ok _ _ _ (Nat.le_add_right _ _)
      (by simp only [List.length_append, flatMap_be8_length]; omega),
    ← List.drop_drop, List.drop_left, Nat.add_sub_cancel_left, hr, List.take_left' (be_length 8 x)]

/-! ## the reader on a located document -/

/-- A located document is read back by the reader as it stands, whatever the incoming buffer. -/
theorem visit_located (cd : Codec) (s : Seg) (buf : Buf) (n : Nat) (stop : Option Nat) (d : Doc)
    (W : Bytes) (dso : List Nat) (tail : Bytes) (L : Nat)
    (hmem : s.mem = W ++ (dso.flatMap (be 8) ++ tail))
    (hsio : s.storedIndexOffset = W.length)
    (hnd : n < s.numDocs)
    (hloc : Located cd s.bs W s.chunkOffsets dso n (record d) L)
    (hL : L < 2 ^ 63)
    (hfile : W.length + 8 * dso.length < 2 ^ 63)
    (hf : ∀ p ∈ flat d, p.1 < s.numFields ∧ p.1 < 2 ^ 64) :
    ∃ buf', visit cd s buf n stop = .ok (takeStop stop (flat d), buf') := by
  obtain ⟨blk, pre, post, hp, h5, h6, h7⟩ := hloc
  obtain ⟨a, r1, r2, r3⟩ := hp.read (dso.flatMap (be 8) ++ tail)
  have hn : n < dso.length := (List.getElem?_eq_some_iff.mp h6).1
  have ⟨f1, f2, f3⟩ : 8 * n < 2 ^ 64 ∧ W.length + 8 * n < 2 ^ 64 ∧
      W.length + 8 * n + 8 < 2 ^ 64 := by omega
  obtain ⟨X, hdec⟩ := decompressInto_rt cd buf blk
  rw [record_eq] at h5
  generalize hM : metaOf (flat d) 0 = M at h5
  generalize hD : dataOf (flat d) = D at h5
  have hlen := congrArg List.length h5
  simp only [List.length_append] at hlen
  have b1 : pre.length + ((putUvarint M.length).length + ((putUvarint D.length).length +
      (M.length + D.length))) ≤ blk.length := hlen ▸ Nat.le_add_right _ _
  have b2 : blk.length < 2 ^ 63 := Nat.lt_of_le_of_lt h7 hL
  have b5 : pre.length < 2 ^ 64 :=
    Nat.lt_of_le_of_lt (Nat.le_trans (Nat.le_add_right _ _) b1) (Nat.lt_trans b2 (by decide))
  have hB : blk ++ X = pre ++ (putUvarint M.length ++ (putUvarint D.length ++
      (M ++ (D ++ (post ++ X))))) := by
    rw [h5]; simp only [List.append_assoc]
  have hrl := readRecordLens_record ⟨blk ++ X, blk.length⟩ pre M D (post ++ X) hB b1
    (by rw [List.length_append]; exact Nat.le_add_right _ _) b2
  have hvr := visitRecord_record s.numFields ⟨blk ++ X, blk.length⟩ (flat d) pre _ _ M D
    (post ++ X) stop hM hD hB b1 b2 hf
  refine ⟨⟨blk ++ X, blk.length⟩, ?_⟩
  unfold visit visitWith getDocStoredOffsets
  simp only [if_pos hnd, hsio, hmem, mul64_of_lt f1, add64_of_lt f2, add64_of_lt f3,
    dataRead_index _ _ _ _ _ h6, Res.bind_ok, unbe_be8 _ b5, r1, r2, r3, hdec, hrl, hvr]

/-! ## what `writeStoredFields` wrote -/

theorem writeDocs_dso_length (cd : Codec) : ∀ (docs : List Doc) (c : Coder) (dso : List Nat),
    (writeDocs cd docs c dso).2.length = dso.length + docs.length := by
  intro docs
  induction docs with
  | nil => intro c dso; rfl
  | cons d docs ih => intro c dso; simp [writeDocs, ih]; omega

theorem writeDocs_dso_ext (cd : Codec) : ∀ (docs : List Doc) (c : Coder) (dso : List Nat),
    ∃ z, (writeDocs cd docs c dso).2 = dso ++ z := by
  intro docs
  induction docs with
  | nil => intro c dso; exact ⟨[], (List.append_nil _).symm⟩
  | cons d docs ih =>
    intro c dso
    obtain ⟨z, hz⟩ := ih (c.add cd (encodeDoc d {}).mta (encodeDoc d {}).data) (dso ++ [c.buf.length])
    exact ⟨[c.buf.length] ++ z, by rw [writeDocs, hz, List.append_assoc]⟩

theorem writeStoredFields_def (cd : Codec) (bs : Nat) (docs : List Doc) :
    writeStoredFields cd bs docs =
      { bytes := ((writeDocs cd docs { chunkSize := bs } []).1.write cd).w ++
          (writeDocs cd docs { chunkSize := bs } []).2.flatMap (be 8),
        storedIndexOffset := ((writeDocs cd docs { chunkSize := bs } []).1.write cd).w.length,
        chunkOffsets := ((writeDocs cd docs { chunkSize := bs } []).1.write cd).offsets } := rfl

theorem storedIndexOffset_le (cd : Codec) (bs : Nat) (docs : List Doc) :
    (writeStoredFields cd bs docs).storedIndexOffset ≤ (writeStoredFields cd bs docs).bytes.length := by
  rw [writeStoredFields_def]
  exact length_le_of_eq_append rfl

def zsOf (cd : Codec) (bs : Nat) (docs : List Doc) : List Bytes := (blocks bs docs).map (Zs cd)

/-- the chunk offsets: where each compressed block starts, and where the last one ends -/
def offsOf (cd : Codec) (bs : Nat) (docs : List Doc) : List Nat :=
  0 :: ends 0 ((zsOf cd bs docs).map List.length)

/-- the per-document offsets: of each record inside its uncompressed block -/
def dsoOf (bs : Nat) (docs : List Doc) : List Nat :=
  (blocks bs docs).flatMap fun B => prefLens 0 (B.map record)

/-- what `Write` puts behind the blocks: the offsets as uvarints, their byte length and number -/
def trailerOf (offs : List Nat) : Bytes :=
  offs.flatMap putUvarint ++ (be 4 (offs.flatMap putUvarint).length ++ be 4 offs.length)

/-- The section: compressed blocks, trailer, one big-endian u64 per document. -/
theorem writeStoredFields_eq (cd : Codec) (bs : Nat) (hbs : 0 < bs) (docs : List Doc) :
    writeStoredFields cd bs docs =
      { bytes := ((zsOf cd bs docs).flatten ++ trailerOf (offsOf cd bs docs)) ++
          (dsoOf bs docs).flatMap (be 8),
        storedIndexOffset := ((zsOf cd bs docs).flatten ++ trailerOf (offsOf cd bs docs)).length,
        chunkOffsets := offsOf cd bs docs } := by
  obtain ⟨h1, h2, h3⟩ := writeDocs_flush cd bs hbs docs 0 { chunkSize := bs } []
    ⟨rfl, (Nat.zero_mul _).symm, rfl⟩
  rw [writeStoredFields_def, write_w, write_offsets, h1, h2, h3]
  rfl

theorem offsOf_length (cd : Codec) (bs : Nat) (docs : List Doc) :
    (offsOf cd bs docs).length = docs.length / bs + 2 := by
  simp [offsOf, ends_length, zsOf, blocks]

theorem dsoOf_length (bs : Nat) (hbs : 0 < bs) (docs : List Doc) :
    (dsoOf bs docs).length = docs.length := by
  rw [dsoOf, List.length_flatMap]
  simp only [prefLens_length, List.length_map]
  rw [← List.length_flatten, flatten_blocks bs hbs]

theorem zsOf_getElem (cd : Codec) (bs : Nat) (docs : List Doc) (j : Nat)
    (h : j < (zsOf cd bs docs).length) : (zsOf cd bs docs)[j] = Zs cd (blockDocs bs docs j) := by
  simp [zsOf, blocks]

theorem recs_blockDocs_le (bs : Nat) (docs : List Doc) (j : Nat) :
    (recs (blockDocs bs docs j)).length ≤ (recs docs).length := by
  unfold recs blockDocs
  rw [List.map_take, List.map_drop]
  exact Nat.le_trans (length_flatten_take_le _ _) (length_flatten_drop_le _ _)

theorem blockDocs_getElem? (bs : Nat) (hbs : 0 < bs) (docs : List Doc) (n : Nat) :
    (blockDocs bs docs (n / bs))[n % bs]? = docs[n]? := by
  rw [blockDocs, List.getElem?_take_of_lt (Nat.mod_lt n hbs), List.getElem?_drop,
    Nat.mul_comm, Nat.div_add_mod]

theorem dsoOf_getElem? (bs : Nat) (hbs : 0 < bs) (docs : List Doc) : ∀ n, n < docs.length →
    (dsoOf bs docs)[n]? =
      some (((blockDocs bs docs (n / bs)).take (n % bs)).map record).flatten.length := by
  induction docs using drop_induction hbs with
  | last docs hlt =>
    intro n hn
    have hnb := Nat.lt_trans hn hlt
    rw [dsoOf, blocks_of_lt hlt, List.flatMap_cons, List.flatMap_nil, List.append_nil,
      prefLens_getElem? _ _ _ (by rw [List.length_map]; exact hn), Nat.zero_add,
      Nat.div_eq_of_lt hnb, Nat.mod_eq_of_lt hnb, blockDocs_zero,
      List.take_of_length_le (Nat.le_of_lt hlt), List.map_take]
  | step docs hle ih =>
    intro n hn
    have hlen : ((docs.take bs).map record).length = bs := by
      rw [List.length_map, List.length_take]; omega
    rw [dsoOf, blocks_of_le hbs hle, List.flatMap_cons]
    by_cases hnb : n < bs
    · rw [List.getElem?_append_left (by rw [prefLens_length, hlen]; exact hnb),
        prefLens_getElem? _ _ _ (by rw [hlen]; exact hnb), Nat.zero_add, Nat.div_eq_of_lt hnb,
        Nat.mod_eq_of_lt hnb, blockDocs_zero, ← List.map_take]
    · have hge := Nat.le_of_not_lt hnb
      rw [List.getElem?_append_right (by rw [prefLens_length, hlen]; exact hge), prefLens_length,
        hlen, Nat.div_eq_sub_div hbs hge, Nat.mod_eq_sub_mod hge, blockDocs_succ]
      exact ih (n - bs) (by rw [List.length_drop]; omega)

/-- `W`: the coder's output, that is the compressed blocks and the offsets trailer. -/
theorem writeStoredFields_located (cd : Codec) (bs : Nat) (hbs : 0 < bs) (docs : List Doc) :
    ∃ (W : Bytes) (dso : List Nat),
      (writeStoredFields cd bs docs).bytes = W ++ dso.flatMap (be 8) ∧
      (writeStoredFields cd bs docs).storedIndexOffset = W.length ∧
      dso.length = docs.length ∧
      ∀ n d, docs[n]? = some d →
        Located cd bs W (writeStoredFields cd bs docs).chunkOffsets dso n (record d)
          (docs.map record).flatten.length := by
  rw [writeStoredFields_eq cd bs hbs]
  refine ⟨_, dsoOf bs docs, rfl, rfl, dsoOf_length bs hbs docs, fun n d hd => ?_⟩
  have hn := (List.getElem?_eq_some_iff.mp hd).1
  have hj : n / bs < (zsOf cd bs docs).length := by
    simp only [zsOf, blocks, List.length_map, List.length_range]
    exact Nat.lt_succ_of_le (Nat.div_le_div_right (Nat.le_of_lt hn))
  -- the document's block is not empty, so it was compressed; its record lies behind the
  -- records of the documents before it in the block
  have hB : (blockDocs bs docs (n / bs))[n % bs]? = some d := by
    rw [blockDocs_getElem? bs hbs]; exact hd
  obtain ⟨hm, hBd⟩ := List.getElem?_eq_some_iff.mp hB
  have hne : blockDocs bs docs (n / bs) ≠ [] := fun h => by rw [h] at hm; exact Nat.not_lt_zero _ hm
  have hp := piece_at (zsOf cd bs docs) (n / bs) hj (trailerOf (offsOf cd bs docs))
  rw [zsOf_getElem, Zs, if_neg hne] at hp
  have hs := flatten_split ((blockDocs bs docs (n / bs)).map record) (n % bs)
    (by rw [List.length_map]; exact hm)
  rw [List.getElem_map, hBd, ← List.map_take, ← List.append_assoc] at hs
  exact ⟨_, _, _, hp, hs, dsoOf_getElem? bs hbs docs n hn, recs_blockDocs_le bs docs (n / bs)⟩

/-! The same section by blocks, as the merger's copy path uses it: piece `i` (between chunk offsets
  `i` and `i+1`) is the compressed concatenation of the records of documents `i·bs … (i+1)·bs - 1`;
  there are `|docs| / bs + 1` blocks, the last one possibly empty (then the two offsets coincide and
  nothing was written for it). -/

theorem blocks_flatten (bs : Nat) (hbs : 0 < bs) (docs : List Doc) :
    (List.range (docs.length / bs + 1)).flatMap (blockDocs bs docs) = docs := by
  rw [List.flatMap_def]; exact flatten_blocks bs hbs docs

theorem writeStoredFields_blocks (cd : Codec) (bs : Nat) (hbs : 0 < bs) (docs : List Doc) :
    ∃ (W : Bytes) (dso : List Nat),
      (writeStoredFields cd bs docs).bytes = W ++ dso.flatMap (be 8) ∧
      (writeStoredFields cd bs docs).chunkOffsets.length = docs.length / bs + 2 ∧
      ∀ i, i ≤ docs.length / bs →
        PieceAt W (writeStoredFields cd bs docs).chunkOffsets i (Zs cd (blockDocs bs docs i)) := by
  rw [writeStoredFields_eq cd bs hbs]
  refine ⟨_, dsoOf bs docs, rfl, offsOf_length cd bs docs, fun i hi => ?_⟩
  have hj : i < (zsOf cd bs docs).length := by
    simp only [zsOf, blocks, List.length_map, List.length_range]; omega
  have h := piece_at (zsOf cd bs docs) i hj (trailerOf (offsOf cd bs docs))
  rwa [zsOf_getElem] at h

theorem chunkOffsets_length (cd : Codec) (bs : Nat) (hbs : 0 < bs) (docs : List Doc) :
    (writeStoredFields cd bs docs).chunkOffsets.length = docs.length / bs + 2 := by
  rw [writeStoredFields_eq cd bs hbs]; exact offsOf_length cd bs docs

/-- `P`: the compressed blocks. -/
theorem writeStoredFields_layout (cd : Codec) (bs : Nat) (hbs : 0 < bs) (docs : List Doc) :
    ∃ (P : Bytes) (dso : List Nat),
      let offs := (writeStoredFields cd bs docs).chunkOffsets
      (writeStoredFields cd bs docs).bytes =
        P ++ (offs.flatMap putUvarint ++ (be 4 (offs.flatMap putUvarint).length ++
          (be 4 offs.length ++ dso.flatMap (be 8)))) ∧
      (writeStoredFields cd bs docs).storedIndexOffset =
        P.length + (offs.flatMap putUvarint).length + 8 ∧
      dso.length = docs.length ∧ (∀ o ∈ offs, o ≤ P.length) := by
  rw [writeStoredFields_eq cd bs hbs]
  refine ⟨(zsOf cd bs docs).flatten, dsoOf bs docs, ?_, ?_, dsoOf_length bs hbs docs, fun o ho => ?_⟩
  · simp only [trailerOf, List.append_assoc]
  · simp only [trailerOf, List.length_append, be_length]; omega
  · have := ends_le _ 0 o ho
    rwa [Nat.zero_add, ← List.length_flatten] at this

/-! ## loading the chunk offsets from the trailer -/

theorem dataReadI_append (pre v rest : Bytes) (a b : Int) (ha : a = pre.length)
    (hb : b = a + v.length) : dataReadI (pre ++ (v ++ rest)) a b = .ok v := by
  subst ha hb
  unfold dataReadI
  rw [← Int.natCast_add, if_pos ⟨Int.natCast_nonneg _, Int.ofNat_le.mpr (Nat.le_add_right _ _),
    Int.ofNat_le.mpr (by
      rw [List.length_append, List.length_append, ← Nat.add_assoc]; exact Nat.le_add_right _ _)⟩,
    Int.toNat_natCast, Int.toNat_natCast, Nat.add_sub_cancel_left, List.drop_left, List.take_left]

/-- `9 ≤ S.length`: the last varint, too, is read through a 10-byte window. -/
theorem loadOffsetsLoop_ok (mem S : Bytes) (pos : Int) : ∀ (offs : List Nat) (pre : Bytes)
    (offset : Int), pos + offset = pre.length → mem = pre ++ (offs.flatMap putUvarint ++ S) →
    9 ≤ S.length → (∀ o ∈ offs, o < 2 ^ 64) →
    loadOffsetsLoop mem pos offs.length offset = .ok offs := by
  intro offs
  induction offs with
  | nil => intro pre offset _ _ _ _; rfl
  | cons o offs ih =>
    intro pre offset hpos hm hS ho
    have ho1 : o < 2 ^ 64 := ho o List.mem_cons_self
    have hle := putUvarint_length_le_ten o ho1
    have hne := List.length_pos_iff.mpr (putUvarint_ne_nil o)
    rw [List.flatMap_cons, List.append_assoc] at hm
    -- the window: the first ten of the bytes behind `pre`
    have hw := dataReadI_append pre ((putUvarint o ++ (offs.flatMap putUvarint ++ S)).take 10)
      ((putUvarint o ++ (offs.flatMap putUvarint ++ S)).drop 10) (pos + offset)
      (pos + offset + 10) hpos
      (by rw [List.length_take, List.length_append, List.length_append]; omega)
    rw [List.take_append_drop, ← hm] at hw
    have := ih (pre ++ putUvarint o) (offset + (putUvarint o).length)
      (by rw [List.length_append]; omega) (by rw [hm, List.append_assoc])
      hS (fun x hx => ho x (List.mem_cons_of_mem _ hx))
    simp only [List.length_cons, loadOffsetsLoop, hw, Res.bind_ok,
      List.take_append, List.take_of_length_le hle, uvarintGo_put o _ ho1, this, Res.map_ok]

theorem natCast_add_sub (q k : Nat) : ((q + k : Nat) : Int) - (k : Int) = (q : Int) := by
  rw [Int.natCast_add, Int.add_sub_cancel]

theorem loadStoredFieldChunk_ok (P R : Bytes) (offs : List Nat) (mem : Bytes) (sio : Nat)
    (hm : mem = P ++ (offs.flatMap putUvarint ++ (be 4 (offs.flatMap putUvarint).length ++
      (be 4 offs.length ++ R))))
    (hsio : sio = P.length + (offs.flatMap putUvarint).length + 8)
    (h1 : (offs.flatMap putUvarint).length < 2 ^ 32) (h2 : offs.length < 2 ^ 32)
    (h3 : sio < 2 ^ 63) (hR : 1 ≤ R.length) (ho : ∀ o ∈ offs, o < 2 ^ 64) :
    loadStoredFieldChunk mem sio = .ok offs := by
  generalize htr : offs.flatMap putUvarint = tr at *
  subst hsio
  have hloop := loadOffsetsLoop_ok mem (be 4 tr.length ++ (be 4 offs.length ++ R)) P.length offs P
    0 (Int.add_zero _) (by rw [htr]; exact hm)
    (by rw [List.length_append, List.length_append, be_length, be_length]; omega) ho
  -- `int(storedIndexOffset - 4)`: the position of the number of offsets
  have p1 : toInt64 (P.length + tr.length + 8 + two64 - 4) =
      ((P.length + tr.length + 4 : Nat) : Int) := by
    have h4 : P.length + tr.length + 4 < 2 ^ 63 :=
      Nat.lt_of_le_of_lt (Nat.add_le_add_left (by decide) _) h3
    rw [toInt64, Nat.sub_add_comm (Nat.le_trans (by decide) (Nat.le_add_left 8 _)),
      show P.length + tr.length + 8 - 4 = P.length + tr.length + 4 from rfl, Nat.add_mod_right,
      Nat.mod_eq_of_lt (Nat.lt_trans h4 (by decide)), if_pos h4]
  have d1 : dataReadI mem ((P.length + tr.length + 4 : Nat) : Int)
      (((P.length + tr.length + 4 : Nat) : Int) + 4) = .ok (be 4 offs.length) := by
    rw [show mem = (P ++ (tr ++ be 4 tr.length)) ++ (be 4 offs.length ++ R) by
      rw [hm]; simp only [List.append_assoc]]
    exact dataReadI_append _ _ R _ _
      (by simp only [List.length_append, be_length, Nat.add_assoc]) (by rw [be_length]; rfl)
  -- four bytes in front of it: the byte length of the offsets, which lie in front of that
  have e2 : ((P.length + tr.length + 4 : Nat) : Int) - 4 = ((P.length + tr.length : Nat) : Int) :=
    natCast_add_sub _ 4
  have d2 : dataReadI mem ((P.length + tr.length : Nat) : Int)
      (((P.length + tr.length : Nat) : Int) + 4) = .ok (be 4 tr.length) := by
    rw [show mem = (P ++ tr) ++ (be 4 tr.length ++ (be 4 offs.length ++ R)) by
      rw [hm]; simp only [List.append_assoc]]
    exact dataReadI_append _ _ _ _ _ (by rw [List.length_append]) (by rw [be_length]; rfl)
  unfold loadStoredFieldChunk
  simp only [p1, d1, Res.bind_ok, unbe_be4 _ h2, e2, d2, unbe_be4 _ h1,
    natCast_add_sub P.length tr.length]
  exact hloop

end Ice.Model.Stored
