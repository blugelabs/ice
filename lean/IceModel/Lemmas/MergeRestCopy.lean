import IceModel.Lemmas.MergeRestStored
/-
  The byte-copy path of `mergeStoredAndRemap` (`copyStoredDocs`, merge.go:768-819) on a source
  segment written by the stored writer: the record loop recovers from every decompressed block
  exactly the records the writer put there - through its clamped look-ahead windows, whatever
  follows the block in the reused buffer - and re-adds their meta and data bytes, so that the
  destination coder is in the state `Stored.writeDocs` reaches on the same documents.
-/
namespace Ice.Model.MergeRest
open Ice Ice.Model Ice.Model.Stored

theorem addI_nat (a b : Nat) (h : a + b < 2 ^ 63) : addI (a : Int) (b : Int) = ((a + b : Nat) : Int) := by
  rw [addI, ← Int.natCast_add, DocValues.wrap64_of_lt h]

theorem clampI_nat (e : Nat) (b : Buf) : clampI (e : Int) b = ((min e b.mem.length : Nat) : Int) := by
  unfold clampI Buf.cap
  omega

theorem sliceI_nat (b : Buf) (i j : Nat) (h1 : i ≤ j) (h2 : j ≤ b.mem.length) :
    sliceI b (i : Int) (j : Int) = .ok ⟨b.mem.drop i, j - i⟩ := by
  unfold sliceI
  rw [if_pos ⟨by omega, by omega, by omega⟩]
  simp

theorem addI_toInt64 (a x : Nat) (h : a + x < 2 ^ 63) :
    addI (a : Int) (toInt64 x) = ((a + x : Nat) : Int) := by
  rw [← addI_nat a x h]
  unfold toInt64 two64
  rw [Nat.mod_eq_of_lt (by omega), if_pos (by omega)]

/-- a varint at offset `o` is read through the clamped look-ahead window `unc[o : min(o+10, cap)]`
    (merge.go:793-795, 800-802), whatever follows it -/
theorem window_read (unc : Buf) (o x : Nat) (r : Bytes) (hd : unc.mem.drop o = putUvarint x ++ r)
    (hx : x < 2 ^ 64) (hb : o + 10 < 2 ^ 63) :
    ∃ w, sliceI unc o (clampI (addI o 10) unc) = .ok w ∧
      uvarintGo w.data = (x, ((putUvarint x).length : Int)) := by
  have hl := drop_append_length' hd (putUvarint_length_pos x)
  have hk := putUvarint_length_le_ten x hx
  rw [show addI (o : Int) 10 = ((o + 10 : Nat) : Int) from addI_nat o 10 hb, clampI_nat,
    sliceI_nat unc _ _ (Nat.le_min.2 ⟨Nat.le_add_right _ _, hl ▸ Nat.le_add_right _ _⟩)
      (Nat.min_le_right _ _)]
  refine ⟨_, rfl, ?_⟩
  simp only [Buf.data]
  rw [take_drop_append hd (by omega)]
  exact uvarintGo_put x _ hx

/-- the copy state as a merge state (the copy path does not touch the visit context) -/
def CS.ms (cs : CS) : MS := ⟨cs.newDocNum, cs.dno, cs.coder, Buf.empty⟩

theorem Tracks.slots {cd : Codec} {c0 : Coder} {total : Nat} {st : MS} {D : List Doc}
    (h : Tracks cd c0 total st D) : st.dno.length - st.newDocNum = total - D.length := by
  rw [h.dno, h.num, List.length_append, writeDocs_dso_length]
  simp

theorem encodeDoc_mta (d : Doc) : (encodeDoc d {}).mta = metaOf (flat d) 0 := by
  rw [encodeDoc_eq]; simp

theorem encodeDoc_data (d : Doc) : (encodeDoc d {}).data = dataOf (flat d) := by
  rw [encodeDoc_eq]; simp

theorem recs_cons (d : Doc) (R : List Doc) : recs (d :: R) = record d ++ recs R := by
  simp [recs]

/-- One round of the record loop (merge.go:791-815) at a record with meta bytes `M` and data bytes
    `D`, whatever follows it: no `int` operation wraps, every slice is in range, and the round
    adds `M` and `D` to the destination. -/
theorem copyLoop_round (cd : Codec) (unc : Buf) (o slots : Nat) (st : CS) (M D rest : Bytes)
    (hd : unc.mem.drop o =
      putUvarint M.length ++ (putUvarint D.length ++ (M ++ (D ++ rest))))
    (hlt : o < unc.len)
    (hb : o + ((putUvarint M.length).length + (putUvarint D.length).length) +
      (M.length + D.length) + 10 < 2 ^ 63) :
    copyLoop cd unc (slots + 1) o st =
      copyLoop cd unc slots
        ((o + ((putUvarint M.length).length + (putUvarint D.length).length) +
          (M.length + D.length) : Nat) : Int)
        { newDocNum := st.newDocNum + 1, dno := st.dno.set st.newDocNum st.coder.buf.length,
          coder := st.coder.add cd M D } := by
  have hl := drop_append_length' hd (putUvarint_length_pos M.length)
  simp only [List.length_append] at hl
  have hd2 := drop_append_next hd
  have hd3 := drop_append_next hd2
  rw [Nat.add_assoc] at hd3
  have hd4 := drop_append_next hd3
  generalize hk1 : (putUvarint M.length).length = k1 at *
  generalize hk2 : (putUvarint D.length).length = k2 at *
  -- every intermediate value stays below 2^63 and inside the buffer: the four largest by `omega`
  -- (slow to check in this context), the others are parts of them
  have ⟨b4, b8, b10, b12⟩ :
      o + k1 + 10 < 2 ^ 63 ∧ M.length + D.length < 2 ^ 64 ∧
      o + (k1 + k2) + (M.length + D.length) < 2 ^ 63 ∧
      o + (k1 + k2) + (M.length + D.length) ≤ unc.mem.length := by omega
  have b1 : M.length < 2 ^ 64 := Nat.lt_of_le_of_lt (Nat.le_add_right _ _) b8
  have b3 : D.length < 2 ^ 64 := Nat.lt_of_le_of_lt (Nat.le_add_left _ _) b8
  have b2 : o + 10 < 2 ^ 63 :=
    Nat.lt_of_le_of_lt (Nat.add_le_add_right (Nat.le_add_right o k1) 10) b4
  have b9 : o + (k1 + k2) + M.length < 2 ^ 63 :=
    Nat.lt_of_le_of_lt (Nat.add_le_add_left (Nat.le_add_right _ _) _) b10
  have b7 : o + (k1 + k2) < 2 ^ 63 := Nat.lt_of_le_of_lt (Nat.le_add_right _ _) b9
  have b6 : k1 + k2 < 2 ^ 63 := Nat.lt_of_le_of_lt (Nat.le_add_left _ _) b7
  have b5 : 0 + k1 < 2 ^ 63 := by
    rw [Nat.zero_add]; exact Nat.lt_of_le_of_lt (Nat.le_add_right _ _) b6
  have b11 : o + (k1 + k2) + M.length ≤ unc.mem.length :=
    Nat.le_trans (Nat.add_le_add_left (Nat.le_add_right _ _) _) b12
  obtain ⟨w1, hw1, hu1⟩ := window_read unc o M.length _ hd b1 b2
  obtain ⟨w2, hw2, hu2⟩ := window_read unc _ D.length _ hd2 b3 b4
  rw [hk1] at hu1
  rw [hk2] at hu2
  have e0 : addI 0 (k1 : Int) = k1 := by simpa using addI_nat 0 k1 b5
  have hmd : add64 M.length D.length = M.length + D.length := add64_of_lt b8
  rw [copyLoop, if_pos (Int.ofNat_lt.mpr hlt)]
  simp only [hw1, Res.bind_ok, hu1, e0, addI_nat o k1 (Nat.lt_of_le_of_lt (Nat.le_add_right _ _) b4),
    hw2, hu2, addI_nat k1 k2 b6, addI_nat o (k1 + k2) b7, hmd,
    addI_toInt64 (o + (k1 + k2)) M.length b9,
    addI_toInt64 (o + (k1 + k2)) (M.length + D.length) b10,
    sliceI_nat unc (o + (k1 + k2)) (o + (k1 + k2) + M.length) (Nat.le_add_right _ _) b11,
    sliceI_nat unc (o + (k1 + k2) + M.length) (o + (k1 + k2) + (M.length + D.length))
      (Nat.add_le_add_left (Nat.le_add_right _ _) _) b12]
  simp only [Buf.data, hd3, hd4]
  rw [Nat.add_sub_cancel_left, Nat.add_sub_add_left, Nat.add_sub_cancel_left, List.take_left,
    List.take_left]

theorem copyLoop_record (cd : Codec) (unc : Buf) (o slots : Nat) (st : CS) (d : Doc) (rest : Bytes)
    (hd : unc.mem.drop o = record d ++ rest) (hlt : o < unc.len)
    (hb : o + (record d).length + 10 < 2 ^ 63) :
    copyLoop cd unc (slots + 1) o st =
      copyLoop cd unc slots ((o + (record d).length : Nat) : Int)
        { newDocNum := st.newDocNum + 1, dno := st.dno.set st.newDocNum st.coder.buf.length,
          coder := st.coder.add cd (encodeDoc d {}).mta (encodeDoc d {}).data } := by
  rw [encodeDoc_mta, encodeDoc_data]
  rw [record_eq] at hd hb ⊢
  simp only [List.append_assoc] at hd
  simp only [List.length_append] at hb ⊢
  rw [copyLoop_round cd unc o slots st _ _ rest hd hlt (by omega)]
  congr 2
  omega

/-- standing at the start of the records of `R` inside a decompressed block (`X` is whatever
    follows the block up to the capacity of the buffer), the loop of `copyStoredDocs` re-adds
    exactly the documents `R` -/
theorem copyLoop_records (cd : Codec) (unc : Buf) (c0 : Coder) (total : Nat) :
    ∀ (R : List Doc) (o : Nat) (X : Bytes) (slots : Nat) (st : CS) (D : List Doc),
    unc.mem.drop o = recs R ++ X → unc.len = o + (recs R).length →
    unc.len + 10 < 2 ^ 63 →
    Tracks cd c0 total st.ms D → D.length + R.length ≤ total → R.length ≤ slots →
    ∃ st', copyLoop cd unc slots (o : Int) st = .ok st' ∧
      Tracks cd c0 total st'.ms (D ++ R) := by
  intro R
  induction R with
  | nil =>
    intro o X slots st D _ hl _ ht _ _
    refine ⟨st, ?_, by simpa using ht⟩
    rw [copyLoop, if_neg (by simp [recs] at hl; omega)]
  | cons d R ih =>
    intro o X slots st D hm hl hb ht hroom hslots
    obtain ⟨s, rfl⟩ : ∃ s, slots = s + 1 := ⟨slots - 1, by simp at hslots; omega⟩
    rw [recs_cons, List.append_assoc] at hm
    rw [recs_cons, List.length_append, ← Nat.add_assoc] at hl
    rw [List.length_cons] at hroom hslots
    have hpos := record_length_pos d
    rw [copyLoop_record cd unc o s st d _ hm (by omega) (by omega)]
    obtain ⟨_, ht'⟩ := Tracks.step cd c0 total st.ms D d Buf.empty ht (by omega)
    rw [List.append_cons]
    exact ih (o + (record d).length) X s _ (D ++ [d]) (drop_append_next hm) hl hb ht'
      (by rw [List.length_append, List.length_singleton]; omega) (Nat.le_of_succ_le_succ hslots)

/-- a zstd frame is never empty (unless nothing was compressed) -/
def NonemptyFrames (cd : Codec) : Prop := ∀ b, cd.Z b = [] → b = []

theorem copyChunks_blocks (cd : Codec) (hZ : NonemptyFrames cd) (seg : Seg) (W rest : Bytes)
    (Bs : Nat → List Doc) (c0 : Coder) (total : Nat) (hmem : seg.mem = W ++ rest) :
    ∀ (l : List Nat) (unc : Buf) (st : CS) (D : List Doc),
    (∀ i ∈ l, PieceAt W seg.chunkOffsets i (Zs cd (Bs i)) ∧ (recs (Bs i)).length + 10 < 2 ^ 63) →
    Tracks cd c0 total st.ms D → D.length + (l.flatMap Bs).length ≤ total →
    ∃ st', copyChunks cd seg l unc st = .ok st' ∧ Tracks cd c0 total st'.ms (D ++ l.flatMap Bs) := by
  intro l
  induction l with
  | nil => intro unc st D _ ht _; exact ⟨st, rfl, by simpa using ht⟩
  | cons i r ih =>
    intro unc st D hl ht hroom
    obtain ⟨hblk, hsz⟩ := hl i (by simp)
    obtain ⟨a, h1, h2, h3⟩ := hblk.read rest
    have hr : ∀ j ∈ r, PieceAt W seg.chunkOffsets j (Zs cd (Bs j)) ∧
        (recs (Bs j)).length + 10 < 2 ^ 63 :=
      fun j hj => hl j (List.mem_cons_of_mem _ hj)
    rw [List.flatMap_cons, List.length_append] at hroom
    have hroom1 : D.length + (Bs i).length ≤ total :=
      Nat.le_trans (Nat.add_le_add_left (Nat.le_add_right _ _) _) hroom
    rw [copyChunks, h1, h2, hmem]
    simp only [Res.bind_ok]
    by_cases hB : Bs i = []
    · rw [if_pos (by simp [Zs, hB])]
      rw [List.flatMap_cons, hB, List.nil_append]
      rw [hB, List.length_nil, Nat.zero_add] at hroom
      exact ih unc st D hr ht hroom
    · have hz : Zs cd (Bs i) = cd.Z (recs (Bs i)) := if_neg hB
      have hpos : 0 < (cd.Z (recs (Bs i))).length :=
        List.length_pos_iff.mpr fun e => recs_ne_nil hB (hZ _ e)
      rw [hz] at h3 ⊢
      rw [if_neg (by omega), h3]
      obtain ⟨X, hdec⟩ := decompressInto_rt cd unc (recs (Bs i))
      simp only [Res.bind_ok, hdec]
      obtain ⟨st1, g1, g2⟩ := copyLoop_records cd ⟨recs (Bs i) ++ X, (recs (Bs i)).length⟩ c0 total
        (Bs i) 0 X (st.dno.length - st.newDocNum) st D rfl (by simp) (by simpa using hsz) ht
        hroom1 (by rw [show st.dno.length - st.newDocNum = total - D.length from ht.slots]; omega)
      -- `g1` starts at `((0 : Nat) : Int)`, the goal at the literal `0`
      rw [show copyLoop cd ⟨recs (Bs i) ++ X, (recs (Bs i)).length⟩ (st.dno.length - st.newDocNum)
          0 st = .ok st1 from g1]
      simp only [Res.bind_ok]
      rw [List.flatMap_cons, ← List.append_assoc]
      exact ih _ st1 (D ++ Bs i) hr g2 (by rw [List.length_append, Nat.add_assoc]; exact hroom)

theorem copyStoredDocs_stored (cd : Codec) (hZ : NonemptyFrames cd) (bs nf : Nat) (hbs : 0 < bs)
    (docs : List Doc) (tail : Bytes) (c0 : Coder) (total : Nat)
    (hsz : (recs docs).length + 10 < 2 ^ 63) (st : CS) (D : List Doc)
    (ht : Tracks cd c0 total st.ms D) (hroom : D.length + docs.length ≤ total) :
    ∃ st', copyStoredDocs cd (segOfNew cd bs nf docs tail) st = .ok st' ∧
      Tracks cd c0 total st'.ms (D ++ docs) := by
  unfold copyStoredDocs
  by_cases h0 : docs.length = 0
  · have : docs = [] := List.length_eq_zero_iff.mp h0
    subst this
    rw [if_pos (by simp [segOfNew])]
    exact ⟨st, rfl, by simpa using ht⟩
  · rw [if_neg (by simpa [segOfNew] using h0)]
    obtain ⟨W, dso, hbytes, hlen, hblocks⟩ := writeStoredFields_blocks cd bs hbs docs
    have hoffs : (segOfNew cd bs nf docs tail).chunkOffsets =
        (writeStoredFields cd bs docs).chunkOffsets := rfl
    have hmem : (segOfNew cd bs nf docs tail).mem = W ++ (dso.flatMap (Writer.be 8) ++ tail) := by
      show (writeStoredFields cd bs docs).bytes ++ tail = _
      rw [hbytes, List.append_assoc]
    rw [hoffs, hlen, show docs.length / bs + 2 - 1 = docs.length / bs + 1 from rfl]
    have hcover := blocks_flatten bs hbs docs
    have := copyChunks_blocks cd hZ (segOfNew cd bs nf docs tail) W _ (blockDocs bs docs) c0 total
      hmem (List.range (docs.length / bs + 1)) Buf.empty st D
      (by
        intro i hi
        have hi' : i ≤ docs.length / bs := by have := List.mem_range.1 hi; omega
        refine ⟨by rw [hoffs]; exact hblocks i hi', ?_⟩
        have := recs_blockDocs_le bs docs i
        omega)
      ht (by rw [hcover]; exact hroom)
    rw [hcover] at this
    exact this

end Ice.Model.MergeRest
