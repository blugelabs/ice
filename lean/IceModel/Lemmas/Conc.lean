import IceModel.Model.Conc
/-
  Invariant of the concurrency model (version `fixed`) and its preservation by every scheduler
  step, for every storage-fault oracle.
-/
namespace Ice.Model.Conc

/-- forget the nested operations of a visit (a completed visit is logged with the nested list it
    has at completion, which is always `[]`) -/
def Op.flat : Op → Op
  | .dict f => .dict f
  | .visit n _ => .visit n []

@[simp] theorem Op.flat_dict (f : Nat) : (Op.dict f).flat = .dict f := rfl
@[simp] theorem Op.flat_visit (n : Nat) (l : List Op) : (Op.visit n l).flat = .visit n [] := rfl
@[simp] theorem Op.flat_flat (o : Op) : o.flat.flat = o.flat := by cases o <;> rfl

@[simp] theorem alone_flat (w : World) (o : Op) : alone w o.flat = alone w o := by cases o <;> rfl

/-- what its program counter says about a frame's local variables -/
def FrameOK (w : World) : Frame → Prop
  | .dict f pc r => 4 ≤ pc → r = some (w.F f)
  | .visit n pc buf nested => (1 ≤ pc → buf = w.B n) ∧ (2 ≤ pc → nested = [])

/-- frames below the top of the stack are visits waiting inside their callback -/
def Waiting : Frame → Prop
  | .visit _ pc _ _ => pc = 1
  | .dict _ _ _ => False

/-- the thread is inside the locked region of `dictionary` -/
def Holds : List Frame → Prop
  | .dict _ pc _ :: _ => 1 ≤ pc
  | _ => False

/-- the top-level operation in progress (flattened), as a list of length ≤ 1 -/
def bottomOp : List Frame → List Op
  | [] => []
  | [fr] => [(opOf fr).flat]
  | _ :: fr :: up => bottomOp (fr :: up)

@[simp] theorem bottomOp_nil : bottomOp [] = [] := rfl
@[simp] theorem bottomOp_single (fr : Frame) : bottomOp [fr] = [(opOf fr).flat] := rfl
@[simp] theorem bottomOp_cons_cons (a fr : Frame) (up : List Frame) :
    bottomOp (a :: fr :: up) = bottomOp (fr :: up) := rfl

theorem bottomOp_cons_congr (a b : Frame) (up : List Frame) (h : (opOf a).flat = (opOf b).flat) :
    bottomOp (a :: up) = bottomOp (b :: up) := by
  cases up <;> simp [h]

@[simp] theorem opOf_frameOf (op : Op) : opOf (frameOf op) = op := by cases op <;> rfl

theorem frameOK_frameOf (w : World) (op : Op) : FrameOK w (frameOf op) := by
  cases op <;> simp [frameOf, FrameOK]

theorem not_holds_frameOf (op : Op) (up : List Frame) : ¬ Holds (frameOf op :: up) := by
  cases op <;> simp [frameOf, Holds]

/-- a log entry is correct: the solo result, or - only when the storage can fail at all - an
    error of a dictionary lookup; and the logged operation is flat -/
def EntryOK (w : World) (fails : Nat → Bool) (e : Op × Result) : Prop :=
  (e.2 = alone w e.1 ∨ ((∃ i, fails i = true) ∧ ∃ f, e.1 = .dict f ∧ e.2 = .dictErr)) ∧ e.1.flat = e.1

structure ThInv (w : World) (fails : Nat → Bool) (th : Thread) : Prop where
  frames : ∀ fr ∈ th.stack, FrameOK w fr
  below : ∀ fr ∈ th.stack.tail, Waiting fr
  log : ∀ e ∈ th.log, EntryOK w fails e

/-- program order: completed ++ in progress ++ still to do = the program (modulo `flat`) -/
def ProgInv (th : Thread) (p : List Op) : Prop :=
  th.log.map (fun e => e.1.flat) ++ bottomOp th.stack ++ th.todo.map Op.flat = p.map Op.flat

def CacheOK (w : World) (s : Shared) : Prop := ∀ p ∈ s.cache, p.2 = w.F p.1

theorem lookup_ok {w : World} {s : Shared} (hc : CacheOK w s) {f : Nat} {v : Val}
    (h : s.lookup f = some v) : v = w.F f := by
  unfold Shared.lookup at h
  rw [Option.map_eq_some_iff] at h
  obtain ⟨p, hp, rfl⟩ := h
  have hm := List.mem_of_find?_eq_some hp
  have hf := List.find?_some hp
  simp at hf
  rw [hc p hm, hf]

/-! ### step equations

  At the other program points `stepThread` computes: `cases` on `stepThread … = some _` does it. -/

section
variable (ver : Version) (w : World) (fails : Nat → Bool) (t : Tid) (s : Shared)

theorem step_dict0 (f r up todo log) :
    stepThread ver w fails t s ⟨.dict f 0 r :: up, todo, log⟩ =
      if s.mutex.isSome then none
      else some ({ s with mutex := some t }, ⟨.dict f 1 r :: up, todo, log⟩) := rfl

theorem step_dict1 (f r up todo log) :
    stepThread ver w fails t s ⟨.dict f 1 r :: up, todo, log⟩ =
      match s.lookup f with
      | some v => some (s, ⟨.dict f 5 (some v) :: up, todo, log⟩)
      | none => some (s, ⟨.dict f 2 none :: up, todo, log⟩) := rfl

/-- a failed storage read: count it, unlock (not in v0), return the error -/
def readFailed (ver : Version) (s : Shared) (f : Nat) (up : List Frame) (todo : List Op)
    (log : List (Op × Result)) : Shared × Thread :=
  (if ver.unlockOnError then { s with reads := s.reads + 1, mutex := none }
   else { s with reads := s.reads + 1 },
   ⟨up, todo, if up.isEmpty then log ++ [(.dict f, .dictErr)] else log⟩)

theorem step_dict2 (f r up todo log) :
    stepThread ver w fails t s ⟨.dict f 2 r :: up, todo, log⟩ =
      if fails s.reads then some (readFailed ver s f up todo log)
      else some ({ s with reads := s.reads + 1 }, ⟨.dict f 3 none :: up, todo, log⟩) := rfl

theorem step_dict3 (f r up todo log) :
    stepThread ver w fails t s ⟨.dict f 3 r :: up, todo, log⟩ =
      if fails s.reads then some (readFailed ver s f up todo log)
      else some ({ s with reads := s.reads + 1 }, ⟨.dict f 4 (some (w.F f)) :: up, todo, log⟩) := rfl

theorem step_visit0 (n buf nested up todo log) :
    stepThread ver w fails t s ⟨.visit n 0 buf nested :: up, todo, log⟩ =
      if ver.perCallBuffer then some (s, ⟨.visit n 1 (w.B n) nested :: up, todo, log⟩)
      else some ({ s with scratch := w.B n }, ⟨.visit n 1 0 nested :: up, todo, log⟩) := rfl
end

theorem step_none {ver : Version} {w : World} {fails : Nat → Bool} {t : Tid} {s : Shared} {th : Thread}
    (h : stepThread ver w fails t s th = none) :
    (th.stack = [] ∧ th.todo = []) ∨ (s.mutex.isSome = true ∧ ∃ f r up, th.stack = .dict f 0 r :: up) := by
  obtain ⟨stack, todo, log⟩ := th
  cases stack with
  | nil =>
    cases todo with
    | nil => exact Or.inl ⟨rfl, rfl⟩
    | cons op rest => cases h
  | cons fr up =>
    cases fr with
    | dict f pc r =>
      rcases pc with _ | _ | _ | _ | _ | pc
      · rw [step_dict0] at h
        split at h
        · next hm => exact Or.inr ⟨hm, f, r, up, rfl⟩
        · cases h
      · rw [step_dict1] at h; split at h <;> cases h
      · rw [step_dict2] at h; split at h <;> cases h
      · rw [step_dict3] at h; split at h <;> cases h
      · cases h
      · cases h
    | visit n pc buf nested =>
      rcases pc with _ | _ | pc
      · rw [step_visit0] at h; split at h <;> cases h
      · cases nested <;> cases h
      · cases h

theorem not_holds_of_waiting {up : List Frame} (h : ∀ g ∈ up, Waiting g) : ¬ Holds up := by
  cases up with
  | nil => exact id
  | cons g up =>
    cases g with
    | dict f pc r => exact (h _ List.mem_cons_self).elim
    | visit n pc buf nested => exact id

/-- the mutex moves only between free and held by `t`: no other thread's view of it changes -/
theorem mutex_others {a b : Option Tid} {t : Tid} (ha : a = none ∨ a = some t)
    (hb : b = none ∨ b = some t) (t' : Tid) (ht' : t' ≠ t) : b = some t' ↔ a = some t' := by
  have : ∀ c : Option Tid, c = none ∨ c = some t → ¬ c = some t' := by
    rintro c (rfl | rfl) h
    · cases h
    · exact ht' (Option.some.inj h).symm
  exact ⟨fun h => (this b hb h).elim, fun h => (this a ha h).elim⟩

/-- what a step of thread `t` from `(s, th)` to `x` preserves -/
def StepOK (w : World) (fails : Nat → Bool) (t : Tid) (s : Shared) (th : Thread)
    (x : Shared × Thread) : Prop :=
  CacheOK w x.1 ∧ ThInv w fails x.2 ∧ (Holds x.2.stack ↔ x.1.mutex = some t) ∧
  (∀ t', t' ≠ t → (x.1.mutex = some t' ↔ s.mutex = some t')) ∧
  (∀ p, ProgInv th p → ProgInv x.2 p)

section
variable {w : World} {fails : Nat → Bool} {t : Tid} {s s' : Shared} {fr : Frame} {up : List Frame}
  {todo : List Op} {log : List (Op × Result)}

/-- a step that puts another frame of the same operation on top -/
theorem stepOK_replace {fr' : Frame} (hi : ThInv w fails ⟨fr :: up, todo, log⟩) (hc : CacheOK w s')
    (h0 : FrameOK w fr') (hop : (opOf fr).flat = (opOf fr').flat)
    (hm : Holds (fr' :: up) ↔ s'.mutex = some t)
    (ho : ∀ t', t' ≠ t → (s'.mutex = some t' ↔ s.mutex = some t')) :
    StepOK w fails t s ⟨fr :: up, todo, log⟩ (s', ⟨fr' :: up, todo, log⟩) := by
  refine ⟨hc, ⟨List.forall_mem_cons.2 ⟨h0, (List.forall_mem_cons.1 hi.frames).2⟩, hi.below, hi.log⟩,
    hm, ho, fun p => ?_⟩
  · unfold ProgInv
    simp only [bottomOp_cons_congr fr fr' up hop]
    exact id

/-- a step that completes the operation of the top frame with the log entry `e` -/
theorem stepOK_pop {e : Op × Result} (hi : ThInv w fails ⟨fr :: up, todo, log⟩) (hc : CacheOK w s')
    (he : EntryOK w fails e) (hop : e.1.flat = (opOf fr).flat)
    (hm : Holds up ↔ s'.mutex = some t)
    (ho : ∀ t', t' ≠ t → (s'.mutex = some t' ↔ s.mutex = some t')) :
    StepOK w fails t s ⟨fr :: up, todo, log⟩
      (s', ⟨up, todo, if up.isEmpty then log ++ [e] else log⟩) := by
  refine ⟨hc, ⟨fun g hg => hi.frames g (List.mem_cons_of_mem _ hg),
    fun g hg => hi.below g (List.mem_of_mem_tail hg), ?_⟩, hm, ho, fun p => ?_⟩
  · dsimp only
    split
    · exact List.forall_mem_append.2 ⟨hi.log, List.forall_mem_singleton.2 he⟩
    · exact hi.log
  · unfold ProgInv
    cases up with
    | nil => simp [hop]
    | cons g up => simp

end

theorem step_inv {w : World} {fails : Nat → Bool} {t : Tid} {s : Shared} {th : Thread}
    {x : Shared × Thread} (h : stepThread fixed w fails t s th = some x)
    (hc : CacheOK w s) (hi : ThInv w fails th) (hm : Holds th.stack ↔ s.mutex = some t) :
    StepOK w fails t s th x := by
  obtain ⟨stack, todo, log⟩ := th
  have same : ∀ t', t' ≠ t → (s.mutex = some t' ↔ s.mutex = some t') := fun _ _ => Iff.rfl
  cases stack with
  | nil =>
    cases todo with
    | nil => cases h
    | cons op rest =>
      cases h
      exact ⟨hc, ⟨List.forall_mem_singleton.2 (frameOK_frameOf w op), fun _ h => (by cases h), hi.log⟩,
        ⟨fun h => (not_holds_frameOf _ _ h).elim, fun h => (hm.2 h).elim⟩, same,
        fun p => by simp [ProgInv]⟩
  | cons fr up =>
    have hfr0 : FrameOK w fr := hi.frames fr List.mem_cons_self
    have hup : ¬ Holds up := not_holds_of_waiting hi.below
    cases fr with
    | dict f pc r =>
      -- the locked region: everything but pc 0 runs with the mutex held by `t`
      have hmt : 1 ≤ pc → s.mutex = some t := hm.1
      have held : ∀ pc', 1 ≤ pc → 1 ≤ pc' → (Holds (Frame.dict f pc' r :: up) ↔ s.mutex = some t) :=
        fun _ h1 h1' => ⟨fun _ => hmt h1, fun _ => h1'⟩
      have unlock : 1 ≤ pc → (Holds up ↔ (none : Option Tid) = some t) ∧
          ∀ t', t' ≠ t → ((none : Option Tid) = some t' ↔ s.mutex = some t') :=
        fun h1 => ⟨⟨fun h => (hup h).elim, fun h => (by cases h)⟩,
          mutex_others (Or.inr (hmt h1)) (Or.inl rfl)⟩
      have failed : fails s.reads = true → 1 ≤ pc →
          StepOK w fails t s ⟨.dict f pc r :: up, todo, log⟩ (readFailed fixed s f up todo log) :=
        fun hf h1 => stepOK_pop hi hc ⟨Or.inr ⟨⟨_, hf⟩, f, rfl, rfl⟩, rfl⟩ rfl (unlock h1).1 (unlock h1).2
      clear hm
      rcases pc with _ | _ | _ | _ | _ | pc
      · rw [step_dict0] at h
        split at h
        · cases h
        · next hmx =>
          cases h
          have hfree : s.mutex = none := by simpa using hmx
          exact stepOK_replace hi hc (by simp [FrameOK]) rfl ⟨fun _ => rfl, fun _ => Nat.le_refl 1⟩
            (mutex_others (Or.inl hfree) (Or.inr rfl))
      · rw [step_dict1] at h
        split at h
        · next v hl =>
          cases h
          exact stepOK_replace hi hc (fun _ => congrArg some (lookup_ok hc hl)) rfl
            (held 5 (by decide) (by decide)) same
        · cases h
          exact stepOK_replace hi hc (by simp [FrameOK]) rfl (held 2 (by decide) (by decide)) same
      · rw [step_dict2] at h
        split at h
        · next hf => cases h; exact failed hf (by decide)
        · cases h
          exact stepOK_replace hi hc (by simp [FrameOK]) rfl (held 3 (by decide) (by decide)) same
      · rw [step_dict3] at h
        split at h
        · next hf => cases h; exact failed hf (by decide)
        · cases h
          exact stepOK_replace hi hc (fun _ => rfl) rfl (held 4 (by decide) (by decide)) same
      · cases h
        exact stepOK_replace hi (List.forall_mem_cons.2 ⟨rfl, hc⟩) (fun _ => hfr0 (Nat.le_refl 4)) rfl
          (held 5 (by decide) (by decide)) same
      · cases h
        have hu := unlock (Nat.le_add_left 1 _)
        cases hfr0 (Nat.le_add_left 4 (pc + 1))
        exact stepOK_pop hi hc ⟨Or.inl rfl, rfl⟩ rfl hu.1 hu.2
    | visit n pc buf nested =>
      have hmt : s.mutex ≠ some t := fun h => hm.2 h
      have free : ∀ {st : List Frame}, ¬ Holds st → (Holds st ↔ s.mutex = some t) :=
        fun hn => ⟨fun h => (hn h).elim, fun h => (hmt h).elim⟩
      clear hm
      rcases pc with _ | _ | pc
      · cases h
        exact stepOK_replace hi hc (by simp [FrameOK]) rfl (free id) same
      · have hb : buf = w.B n := hfr0.1 (Nat.le_refl 1)
        cases nested with
        | nil =>
          cases h
          exact stepOK_replace hi hc ⟨fun _ => hb, fun _ => rfl⟩ rfl (free id) same
        | cons op rest =>
          cases h
          refine ⟨hc, ⟨?_, ?_, hi.log⟩, free (not_holds_frameOf _ _), same, ?_⟩
          · exact List.forall_mem_cons.2 ⟨frameOK_frameOf w op, List.forall_mem_cons.2
              ⟨⟨fun _ => hb, fun h => absurd h (by decide)⟩, (List.forall_mem_cons.1 hi.frames).2⟩⟩
          · exact List.forall_mem_cons.2 ⟨rfl, hi.below⟩
          · intro p
            unfold ProgInv
            rw [bottomOp_cons_cons,
              bottomOp_cons_congr (.visit n 1 buf rest) (.visit n 1 buf (op :: rest)) up rfl]
            exact id
      · cases h
        cases hfr0.1 (Nat.le_add_left 1 _)
        cases hfr0.2 (Nat.le_add_left 2 pc)
        exact stepOK_pop hi hc ⟨Or.inl rfl, rfl⟩ rfl (free hup) same

theorem holds_of_nextAccess {th : Thread} {a : Loc × Bool} (h : nextAccess fixed th = some a) :
    Holds th.stack := by
  obtain ⟨stack, todo, log⟩ := th
  unfold nextAccess at h
  dsimp only at h ⊢
  split at h
  · exact Nat.le_refl 1
  · exact (by decide : 1 ≤ 4)
  · cases h
  · cases h
  · cases h

structure Inv (w : World) (fails : Nat → Bool) (progs : List (List Op)) (c : Config) : Prop where
  cache : CacheOK w c.sh
  thread : ∀ (t : Nat) (th : Thread), c.ths[t]? = some th → ThInv w fails th
  mutex : ∀ (t : Nat) (th : Thread), c.ths[t]? = some th → (Holds th.stack ↔ c.sh.mutex = some t)
  owner : ∀ t, c.sh.mutex = some t → t < c.ths.length
  prog : ∀ (t : Nat) (th : Thread) (p : List Op), c.ths[t]? = some th → progs[t]? = some p → ProgInv th p

theorem inv_init (w : World) (fails : Nat → Bool) (progs : List (List Op)) :
    Inv w fails progs (init progs) := by
  have key : ∀ (t : Nat) (th : Thread), (init progs).ths[t]? = some th → ∃ p, progs[t]? = some p ∧ th = { todo := p } := by
    intro t th h
    simp only [init, List.getElem?_map, Option.map_eq_some_iff] at h
    obtain ⟨p, hp, rfl⟩ := h
    exact ⟨p, hp, rfl⟩
  refine ⟨?_, ?_, ?_, ?_, ?_⟩
  · intro p hp; simp [init] at hp
  · intro t th h
    obtain ⟨p, _, rfl⟩ := key t th h
    exact ⟨by simp, by simp, by simp⟩
  · intro t th h
    obtain ⟨p, _, rfl⟩ := key t th h
    simp [init, Holds]
  · intro t h; simp [init] at h
  · intro t th p h hp
    obtain ⟨p', hp', rfl⟩ := key t th h
    rw [hp] at hp'
    cases hp'
    simp [ProgInv]

theorem inv_sched {w : World} {fails : Nat → Bool} {progs : List (List Op)} {c : Config}
    (hi : Inv w fails progs c) (t : Tid) : Inv w fails progs (sched fixed w fails c t) := by
  unfold sched
  split
  · exact hi
  · next th hth =>
    split
    · exact hi
    · next s' th' hst =>
      obtain ⟨hc', hth', hm', hother, hp'⟩ :=
        step_inv hst hi.cache (hi.thread t th hth) (hi.mutex t th hth)
      have hlt : t < c.ths.length := (List.getElem?_eq_some_iff.1 hth).1
      have hget : ∀ (u : Nat) (thu : Thread), (c.ths.set t th')[u]? = some thu →
          (u = t ∧ thu = th') ∨ (u ≠ t ∧ c.ths[u]? = some thu) := by
        intro u thu h
        rw [List.getElem?_set] at h
        by_cases hu : t = u
        · subst hu
          simp [hlt] at h
          exact Or.inl ⟨rfl, h.symm⟩
        · simp [hu] at h
          exact Or.inr ⟨fun e => hu e.symm, h⟩
      refine ⟨hc', ?_, ?_, ?_, ?_⟩
      · intro u thu h
        rcases hget u thu h with ⟨rfl, rfl⟩ | ⟨_, h⟩
        · exact hth'
        · exact hi.thread u thu h
      · intro u thu h
        rcases hget u thu h with ⟨rfl, rfl⟩ | ⟨hne, h⟩
        · exact hm'
        · exact (hi.mutex u thu h).trans (hother u hne).symm
      · intro u h
        simp only [List.length_set]
        by_cases hu : u = t
        · subst hu; exact hlt
        · exact hi.owner u ((hother u hu).1 h)
      · intro u thu p h hp
        rcases hget u thu h with ⟨rfl, rfl⟩ | ⟨_, h⟩
        · exact hp' p (hi.prog u th p hth hp)
        · exact hi.prog u thu p h hp

theorem inv_run {w : World} {fails : Nat → Bool} {progs : List (List Op)} (σ : List Tid) {c : Config}
    (hi : Inv w fails progs c) : Inv w fails progs (run fixed w fails c σ) :=
  List.foldlRecOn σ (sched fixed w fails) hi (fun _ h t _ => inv_sched h t)

theorem inv_reach (w : World) (fails : Nat → Bool) (progs : List (List Op)) (σ : List Tid) :
    Inv w fails progs (run fixed w fails (init progs) σ) :=
  inv_run σ (inv_init w fails progs)

end Ice.Model.Conc
