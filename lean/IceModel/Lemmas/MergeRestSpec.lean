import IceModel.Lemmas.MergeRestMerge
import IceModel.Lemmas.Sort
/-
  From field ids to field names: the document the merge re-encodes (values regrouped by merged
  field id) stores, name by name, what `Spec.stored` of the merged segment says; field maps of
  duplicate-free lists; when the lists coincide the regrouping is the identity.
-/
namespace Ice.Model.MergeRest
open Ice Ice.Model Ice.Model.Stored

inductive Rel₂ {α β : Type} (R : α → β → Prop) : List α → List β → Prop
  | nil : Rel₂ R [] []
  | cons {a b l₁ l₂} : R a b → Rel₂ R l₁ l₂ → Rel₂ R (a :: l₁) (b :: l₂)

namespace Rel₂
variable {α β γ δ : Type} {R : α → β → Prop}

theorem length_eq {l₁ : List α} {l₂ : List β} (h : Rel₂ R l₁ l₂) : l₁.length = l₂.length := by
  induction h with
  | nil => rfl
  | cons _ _ ih => simp [ih]

theorem append {a₁ a₂ : List α} {b₁ b₂ : List β} (h₁ : Rel₂ R a₁ b₁) (h₂ : Rel₂ R a₂ b₂) :
    Rel₂ R (a₁ ++ a₂) (b₁ ++ b₂) := by
  induction h₁ with
  | nil => exact h₂
  | cons h _ ih => exact .cons h ih

theorem get {l₁ : List α} {l₂ : List β} (h : Rel₂ R l₁ l₂) : ∀ (k : Nat) (a : α) (b : β),
    l₁[k]? = some a → l₂[k]? = some b → R a b := by
  induction h with
  | nil => intro k a b h; simp at h
  | cons hab _ ih =>
    intro k a b h1 h2
    cases k with
    | zero => simp at h1 h2; subst h1; subst h2; exact hab
    | succ k => exact ih k a b (by simpa using h1) (by simpa using h2)

theorem of_get : ∀ (l₁ : List α) (l₂ : List β), l₁.length = l₂.length →
    (∀ (k : Nat) (a : α) (b : β), l₁[k]? = some a → l₂[k]? = some b → R a b) → Rel₂ R l₁ l₂ := by
  intro l₁
  induction l₁ with
  | nil =>
    intro l₂ hl _
    cases l₂ with
    | nil => exact .nil
    | cons _ _ => simp at hl
  | cons a l₁ ih =>
    intro l₂ hl h
    cases l₂ with
    | nil => simp at hl
    | cons b l₂ =>
      refine .cons (h 0 a b (by simp) (by simp)) (ih l₂ (by simpa using hl) ?_)
      intro k x y h1 h2
      exact h (k + 1) x y (by simpa using h1) (by simpa using h2)

theorem keepP (p : Nat → Bool) {l₁ : List α} {l₂ : List β} (h : Rel₂ R l₁ l₂) : ∀ k,
    Rel₂ R (Spec.keepP p k l₁) (Spec.keepP p k l₂) := by
  induction h with
  | nil => intro k; exact .nil
  | cons hab _ ih =>
    intro k
    rw [Spec.keepP_cons, Spec.keepP_cons]
    by_cases hp : p k = true
    · simp only [hp, if_true]; exact .cons hab (ih (k + 1))
    · simp only [hp]; exact ih (k + 1)

theorem map_left {S : γ → β → Prop} (f : α → γ) {l₁ : List α} {l₂ : List β} (h : Rel₂ R l₁ l₂)
    (hf : ∀ a b, R a b → S (f a) b) : Rel₂ S (l₁.map f) l₂ := by
  induction h with
  | nil => exact .nil
  | cons hab _ ih => exact .cons (hf _ _ hab) ih

theorem flatMap {S : γ → δ → Prop} (f : α → List γ) (g : α → List δ) (l : List α)
    (h : ∀ a ∈ l, Rel₂ S (f a) (g a)) : Rel₂ S (l.flatMap f) (l.flatMap g) := by
  induction l with
  | nil => exact .nil
  | cons a l ih =>
    rw [List.flatMap_cons, List.flatMap_cons]
    exact (h a List.mem_cons_self).append (ih fun b hb => h b (List.mem_cons_of_mem _ hb))

end Rel₂

/-- the stored values of one abstract document in field `f` -/
def gOf (a : Spec.ADoc) (f : Bytes) : List (Bytes × Bytes) :=
  match Spec.ADoc.field? a f with
  | some af => af.stored.map fun v => (f, v)
  | none => []

/-- what `Spec.stored` lists for a document under the field list `fields` -/
def storedOf (fields : List Bytes) (a : Spec.ADoc) : List (Bytes × Bytes) := fields.flatMap (gOf a)

theorem stored_eq (s : Spec.AbsSeg) (n : Nat) :
    Spec.stored s n = match s.docs[n]? with
      | none => []
      | some d => storedOf s.fields d := by
  unfold Spec.stored storedOf gOf
  cases s.docs[n]? <;> rfl

theorem gOf_fst (a : Spec.ADoc) (f : Bytes) : ∀ q ∈ gOf a f, q.1 = f := by
  intro q hq
  unfold gOf at hq
  split at hq
  · simp only [List.mem_map] at hq
    obtain ⟨v, _, rfl⟩ := hq; rfl
  · simp at hq

/-- `(fieldsInv[field], value)` -/
def nameOf (fields : List Bytes) (p : Nat × Bytes) : Bytes × Bytes := (fields.getD p.1 [], p.2)

/-- the stored document `d` (field ids of `fields`) holds what the abstract document stores -/
def DocRel (fields : List Bytes) (d : Doc) (a : Spec.ADoc) : Prop :=
  (∀ p ∈ flat d, p.1 < fields.length) ∧ (flat d).map (nameOf fields) = storedOf fields a

/-- the document stores nothing under a name outside `fields` -/
def ClosedDoc (fields : List Bytes) (a : Spec.ADoc) : Prop := ∀ f, f ∉ fields → gOf a f = []

theorem flatMap_filter_single {l : List Bytes} (hn : l.Nodup) (G : Bytes → List (Bytes × Bytes))
    (hG : ∀ f, ∀ q ∈ G f, q.1 = f) (x : Bytes) :
    (l.flatMap G).filter (fun q => q.1 == x) = if x ∈ l then G x else [] := by
  induction l with
  | nil => simp
  | cons f l ih =>
    have hn' := List.nodup_cons.1 hn
    rw [List.flatMap_cons, List.filter_append, ih hn'.2]
    by_cases hfx : f = x
    · subst hfx
      have h1 : (G f).filter (fun q => q.1 == f) = G f := by
        rw [List.filter_eq_self]
        intro q hq; simp [hG f q hq]
      rw [h1, if_neg hn'.1, if_pos (by simp)]
      simp
    · have h1 : (G f).filter (fun q => q.1 == x) = [] := by
        rw [List.filter_eq_nil_iff]
        intro q hq
        rw [hG f q hq]; simp [hfx]
      rw [h1, List.nil_append]
      simp only [List.mem_cons, Ne.symm hfx, false_or]

theorem getD_mem {l : List Bytes} {i : Nat} (h : i < l.length) : l.getD i [] ∈ l := by
  rw [← List.getElem_eq_getD (h := h)]; exact List.getElem_mem h

theorem fieldsMapGet_mem (mF : List Bytes) (hn : mF.Nodup) (hlen : mF.length < 65535)
    (name : Bytes) (h : name ∈ mF) :
    fieldsMapGet (mapFields mF) name = mF.idxOf name + 1 := by
  rw [fieldsMapGet_mapFields mF hn hlen, Builder.idxOf?_eq_ite, if_pos h]

theorem fieldsMapped_of_subset (srcF mF : List Bytes) (hn : mF.Nodup) (hlen : mF.length < 65535)
    (hsub : ∀ f ∈ srcF, f ∈ mF) : FieldsMapped srcF (mapFields mF) mF.length := by
  intro i hi
  have hm : srcF.getD i [] ∈ mF := hsub _ (getD_mem hi)
  rw [fieldsMapGet_mem mF hn hlen _ hm]
  have := List.idxOf_lt_length_of_mem hm
  exact ⟨by omega, by omega⟩

theorem toMerged_eq (srcF mF : List Bytes) (hn : mF.Nodup) (hlen : mF.length < 65535)
    (hsub : ∀ f ∈ srcF, f ∈ mF) (i : Nat) (hi : i < srcF.length) :
    toMerged srcF (mapFields mF) i = mF.idxOf (srcF.getD i []) := by
  have hm : srcF.getD i [] ∈ mF := hsub _ (getD_mem hi)
  rw [toMerged, fieldsMapGet_mem mF hn hlen _ hm]
  omega

theorem idxOf_eq_iff {mF : List Bytes} (hn : mF.Nodup) {name : Bytes} (hm : name ∈ mF) {m : Nat}
    (hmn : m < mF.length) : mF.idxOf name = m ↔ name = mF.getD m [] := by
  rw [← List.getElem_eq_getD (h := hmn)]
  constructor
  · intro h
    subst h
    exact (List.getElem_idxOf (List.idxOf_lt_length_of_mem hm)).symm
  · intro h
    subst h
    exact Builder.idxOf_getElem_nodup hn m hmn

theorem reDoc_fields_lt (toM : Nat → Nat) (nM : Nat) (d : Doc) :
    ∀ fv ∈ reDoc toM nM d, fv.1 < nM := by
  intro fv hfv
  rw [reDoc_eq] at hfv
  obtain ⟨m, hm, rfl⟩ := List.mem_map.1 hfv
  exact List.mem_range.1 hm

theorem reDoc_rel (srcF mF : List Bytes) (hns : srcF.Nodup) (hn : mF.Nodup)
    (hlen : mF.length < 65535) (hsub : ∀ f ∈ srcF, f ∈ mF) (d : Doc) (a : Spec.ADoc)
    (hr : DocRel srcF d a) (hc : ClosedDoc srcF a) :
    DocRel mF (reDoc (toMerged srcF (mapFields mF)) mF.length d) a := by
  obtain ⟨hlt, hflat⟩ := hr
  refine ⟨flat_lt (reDoc_fields_lt _ _ _), ?_⟩
  rw [flat_reDoc, List.map_flatMap]
  unfold storedOf
  conv => rhs; rw [eq_map_range_getD mF [], List.flatMap_map]
  apply flatMap_congr'
  intro m hm
  have hmn : m < mF.length := List.mem_range.1 hm
  have h1 : ((flat d).filter fun p => toMerged srcF (mapFields mF) p.1 == m) =
      (flat d).filter fun p => (nameOf srcF p).1 == mF.getD m [] := by
    apply List.filter_congr
    intro p hp
    have hp1 := hlt p hp
    have hmem : srcF.getD p.1 [] ∈ mF := hsub _ (getD_mem hp1)
    rw [toMerged_eq srcF mF hn hlen hsub p.1 hp1, Bool.eq_iff_iff, beq_iff_eq, beq_iff_eq]
    exact idxOf_eq_iff hn hmem hmn
  rw [h1, List.map_map]
  have h2 : (((flat d).filter fun p => (nameOf srcF p).1 == mF.getD m []).map
        (nameOf mF ∘ fun p => (m, p.2))) =
      ((flat d).filter fun p => (nameOf srcF p).1 == mF.getD m []).map (nameOf srcF) := by
    apply List.map_congr_left
    intro p hp
    have := (List.mem_filter.1 hp).2
    simp only [nameOf, beq_iff_eq] at this
    show (mF.getD m [], p.2) = (srcF.getD p.1 [], p.2)
    rw [this]
  rw [h2]
  have h3 : ((flat d).filter fun p => (nameOf srcF p).1 == mF.getD m []).map (nameOf srcF) =
      ((flat d).map (nameOf srcF)).filter fun q => q.1 == mF.getD m [] := by
    rw [List.filter_map]; rfl
  rw [h3, hflat]
  unfold storedOf
  rw [flatMap_filter_single hns (gOf a) (gOf_fst a)]
  by_cases hx : mF.getD m [] ∈ srcF
  · rw [if_pos hx]
  · rw [if_neg hx, hc _ hx]

def DocAsc (d : Doc) : Prop := d.Pairwise fun a b => a.1 < b.1

theorem flat_sorted : ∀ (d : Doc), DocAsc d → (flat d).Pairwise (fun a b => a.1 ≤ b.1) := by
  intro d
  induction d with
  | nil => intro _; simp [flat]
  | cons fv d ih =>
    intro h
    have h' := List.pairwise_cons.1 h
    have hf : flat (fv :: d) = (fv.2.map fun v => (fv.1, v)) ++ flat d := by simp [flat]
    rw [hf, List.pairwise_append]
    refine ⟨?_, ih h'.2, ?_⟩
    · rw [List.pairwise_map]
      exact List.pairwise_of_forall (fun _ _ => Nat.le_refl _)
    · intro a ha b hb
      simp only [List.mem_map] at ha
      obtain ⟨v, _, rfl⟩ := ha
      simp only [flat, List.mem_flatMap, List.mem_map] at hb
      obtain ⟨gw, hgw, w, _, rfl⟩ := hb
      exact Nat.le_of_lt (h'.1 gw hgw)

/-- when the source field list IS the merged field list, re-encoding a document whose field ids
    ascend reproduces its values -/
theorem flat_reDoc_same (F : List Bytes) (hn : F.Nodup) (hlen : F.length < 65535) (d : Doc)
    (hasc : DocAsc d) (hlt : ∀ p ∈ flat d, p.1 < F.length) :
    flat (reDoc (toMerged F (mapFields F)) F.length d) = flat d := by
  rw [flat_reDoc]
  have h1 : ∀ m, ((flat d).filter fun p => toMerged F (mapFields F) p.1 == m).map
        (fun p => (m, p.2)) = (flat d).filter fun p => p.1 == m := by
    intro m
    have hf : ((flat d).filter fun p => toMerged F (mapFields F) p.1 == m) =
        (flat d).filter fun p => p.1 == m := by
      apply List.filter_congr
      intro p hp
      have hp1 := hlt p hp
      rw [toMerged_eq F F hn hlen (fun _ h => h) p.1 hp1, ← List.getElem_eq_getD (h := hp1),
        Builder.idxOf_getElem_nodup hn p.1 hp1]
    rw [hf]
    conv => rhs; rw [← List.map_id ((flat d).filter fun p => p.1 == m)]
    apply List.map_congr_left
    intro p hp
    have := (List.mem_filter.1 hp).2
    simp only [beq_iff_eq] at this
    simp [← this]
  simp only [h1]
  exact flatMap_range_filter_key (·.1) F.length (flat d) (flat_sorted d hasc) hlt

theorem reDoc_asc (toM : Nat → Nat) (nM : Nat) (d : Doc) : DocAsc (reDoc toM nM d) := by
  rw [reDoc_eq, DocAsc, List.pairwise_map]
  exact List.pairwise_lt_range

end Ice.Model.MergeRest
