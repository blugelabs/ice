import IceModel.Model.IterBytes
import IceModel.Lemmas.Iter
import IceModel.Lemmas.ChunkBytes
/-
  The abstraction from the byte-level iterator (`Model/IterBytes.lean`) to the entry-level one
  (`Model/Iter.lean`), the environment a well-formed byte-level iterator lives in (`Env`), and the
  invariant `WF`.
-/
namespace Ice.Model.IterBytes
open Ice Ice.Spec Ice.Model Ice.Model.ChunkBytes
open Ice.Model.Iter (RFlags It)

/-- a location as the caller sees it: `l.field = fieldsInv[fieldID]` -/
def toLoc (finv : List Bytes) (l : BLoc) : Loc :=
  { field := (finv[l.fieldID]?).getD [], pos := l.pos, start := l.start, stop := l.stop }

def toP (finv : List Bytes) (e : Entry) : Posting :=
  { doc := e.doc, freq := e.freq, norm := e.norm, locs := e.locs.map (toLoc finv) }

def hasLocsE (e : Entry) : Bool := !e.locs.isEmpty

/-- the entries of chunk `c` (as `Ice.Props.ChunkBytes.chunkOf`) -/
def chunkE (cs : Nat) (es : List Entry) (c : Nat) : List Entry :=
  es.filter (fun e => e.doc / cs == c)

theorem mem_chunkE {cs : Nat} {es : List Entry} {c : Nat} {e : Entry} (h : e ∈ chunkE cs es c) :
    e ∈ es := (List.mem_filter.mp h).1

theorem hasLocs_toP (finv : List Bytes) (e : Entry) : Iter.hasLocs (toP finv e) = hasLocsE e := by
  cases h : e.locs <;> simp [Iter.hasLocs, toP, hasLocsE, h]

theorem filter_hasLocs_map (finv : List Bytes) (l : List Entry) :
    (l.map (toP finv)).filter Iter.hasLocs = (l.filter hasLocsE).map (toP finv) := by
  rw [List.filter_map]
  exact congrArg _ (List.filter_congr fun e _ => hasLocs_toP finv e)

theorem chunkOf_map (finv : List Bytes) (cs : Nat) (es : List Entry) (c : Nat) :
    Iter.chunkOf cs (es.map (toP finv)) c = (chunkE cs es c).map (toP finv) :=
  List.filter_map

/-- the entries of `l` whose freq/norm bytes lie at or behind byte offset `n` of `fnBytes l` -/
def dropFN : Nat → List Entry → List Entry
  | _, [] => []
  | n, e :: es => if (encFN e).length ≤ n then dropFN (n - (encFN e).length) es else e :: es

/-- the same for the location stream (used on lists all of whose entries have locations) -/
def dropLoc : Nat → List Entry → List Entry
  | _, [] => []
  | n, e :: es => if (encLocs e).length ≤ n then dropLoc (n - (encLocs e).length) es else e :: es

theorem dropFN_split (pre rest : List Entry) : dropFN (fnBytes pre).length (pre ++ rest) = rest := by
  induction pre with
  | nil =>
    cases rest with
    | nil => rfl
    | cons e r => exact if_neg (Nat.not_le.mpr (encFN_length_pos e))
  | cons p ps ih =>
    have e1 : (fnBytes (p :: ps)).length = (encFN p).length + (fnBytes ps).length := by
      simp [fnBytes]
    rw [e1, List.cons_append, dropFN, if_pos (Nat.le_add_right ..), Nat.add_sub_cancel_left, ih]

theorem dropLoc_split (pre rest : List Entry) (h : ∀ e ∈ rest, e.locs ≠ []) :
    dropLoc (locBytes pre).length (pre ++ rest) = rest := by
  induction pre with
  | nil =>
    cases rest with
    | nil => rfl
    | cons e r => exact if_neg (Nat.not_le.mpr (encLocs_length_pos (h e (List.mem_cons_self ..))))
  | cons p ps ih =>
    have e1 : (locBytes (p :: ps)).length = (encLocs p).length + (locBytes ps).length := by
      simp [locBytes]
    rw [e1, List.cons_append, dropLoc, if_pos (Nat.le_add_right ..), Nat.add_sub_cancel_left, ih]

theorem fnBytes_eq_nil {l : List Entry} (h : fnBytes l = []) : l = [] := by
  cases l with
  | nil => rfl
  | cons e t =>
    have h' := congrArg List.length h
    rw [fnBytes, List.flatMap_cons, List.length_append] at h'
    exact absurd (Nat.eq_zero_of_add_eq_zero_right h') (Nat.ne_of_gt (encFN_length_pos e))

theorem mem_filter_hasLocsE {l : List Entry} {e : Entry} (h : e ∈ l.filter hasLocsE) : e.locs ≠ [] := by
  have := (List.mem_filter.mp h).2
  intro h0
  simp [hasLocsE, h0] at this

theorem locBytes_filter (l : List Entry) : locBytes (l.filter hasLocsE) = locBytes l := by
  induction l with
  | nil => rfl
  | cons e t ih =>
    unfold locBytes at ih ⊢
    cases h : hasLocsE e with
    | true => rw [List.filter_cons_of_pos (by simp [h])]; simp [ih]
    | false =>
      rw [List.filter_cons_of_neg (by simp [h])]
      have : encLocs e = [] := by
        have : e.locs.isEmpty = true := by simpa [hasLocsE] using h
        simp [encLocs, this]
      simp [ih, this]

theorem locBytes_eq_nil {l : List Entry} (h : locBytes l = []) : l.filter hasLocsE = [] := by
  rw [← locBytes_filter] at h
  cases hl : l.filter hasLocsE with
  | nil => rfl
  | cons e t =>
    exfalso
    have he : e.locs ≠ [] := mem_filter_hasLocsE (l := l) (by rw [hl]; simp)
    rw [hl] at h
    have h' := congrArg List.length h
    rw [locBytes, List.flatMap_cons, List.length_append] at h'
    exact absurd (Nat.eq_zero_of_add_eq_zero_right h') (Nat.ne_of_gt (encLocs_length_pos he))

/-- the cursor of the decoder's reader (a nil reader has consumed nothing) -/
def rdC (b : DecB) : Nat :=
  match b.r with
  | some r => r.C
  | none => 0

/-- freq/norm decoder ↦ `fnR`: `isNil` ↦ `none`; otherwise the entries of the chunk that lie at
    or behind the cursor -/
def absFn (finv : List Bytes) (chunk : List Entry) (b : DecB) : Option (List Posting) :=
  if b.isNil then none else some ((dropFN (rdC b) chunk).map (toP finv))

/-- location decoder ↦ `lcR`: no reader or a reader on the empty slice ↦ `[]`; otherwise the
    entries with locations of the chunk that lie at or behind the cursor -/
def absLc (finv : List Bytes) (chunk : List Entry) (b : DecB) : List Posting :=
  match b.r with
  | none => []
  | some r => if r.S.isEmpty then [] else (dropLoc r.C (chunk.filter hasLocsE)).map (toP finv)

theorem absFn_nil {finv : List Bytes} {chunk : List Entry} {b : DecB} (h : b.curChunkBytes = []) :
    absFn finv chunk b = none := by
  simp [absFn, DecB.isNil, h]

theorem absFn_isNone (finv : List Bytes) (chunk : List Entry) (b : DecB) :
    (absFn finv chunk b).isNone = b.isNil := by
  unfold absFn
  cases b.isNil <;> simp

theorem absFn_pos {finv : List Bytes} {b : DecB} {pre rest : List Entry}
    (h1 : b.curChunkBytes ≠ [])
    (h2 : b.r = some ⟨fnBytes (pre ++ rest), (fnBytes pre).length⟩) :
    absFn finv (pre ++ rest) b = some (rest.map (toP finv)) := by
  have : b.isNil = false := by
    cases h : b.curChunkBytes with
    | nil => exact absurd h h1
    | cons _ _ => simp [DecB.isNil, h]
  simp [absFn, this, rdC, h2, dropFN_split]

theorem absLc_none {finv : List Bytes} {chunk : List Entry} {b : DecB} (h : b.r = none) :
    absLc finv chunk b = [] := by
  simp [absLc, h]

theorem absLc_empty {finv : List Bytes} {chunk : List Entry} {b : DecB} {r : Rd} (h : b.r = some r)
    (hS : r.S = []) : absLc finv chunk b = [] := by
  simp [absLc, h, hS]

theorem absLc_fresh {finv : List Bytes} {chunk : List Entry} {b : DecB}
    (h : ∀ r, b.r = some r → r = ⟨[], 0⟩) : absLc finv chunk b = [] := by
  cases hr : b.r with
  | none => exact absLc_none hr
  | some r =>
    cases h r hr
    exact absLc_empty hr rfl

theorem absLc_pos {finv : List Bytes} {chunk : List Entry} {b : DecB} {pre rest : List Entry}
    (hsplit : chunk.filter hasLocsE = pre ++ rest)
    (h2 : b.r = some ⟨locBytes (pre ++ rest), (locBytes pre).length⟩) :
    absLc finv chunk b = rest.map (toP finv) := by
  have hrest : ∀ e ∈ rest, e.locs ≠ [] := by
    intro e he
    apply mem_filter_hasLocsE (l := chunk)
    rw [hsplit]; simp [he]
  unfold absLc
  rw [h2]
  simp only
  by_cases hS : (locBytes (pre ++ rest)).isEmpty = true
  · rw [if_pos hS]
    have h0 : locBytes (pre ++ rest) = [] := by simpa using hS
    have := locBytes_eq_nil h0
    rw [← hsplit, List.filter_filter] at this
    simp only [Bool.and_self] at this
    rw [hsplit] at this
    have : rest = [] := by
      cases rest with
      | nil => rfl
      | cons x _ => simp at this
    simp [this]
  · rw [if_neg hS, hsplit, dropLoc_split pre rest hrest]

/-- everything that does not change during the life of an iterator -/
structure Env where
  K : Codec
  es : List Entry            -- the postings the writer encoded
  cs : Nat
  maxDoc : Nat
  file : Bool
  data : Bytes
  freqOffset : Nat
  locOffset : Nat
  finv : List Bytes
  dt : Decoder               -- what `newChunkedIntDecoder(data, freqOffset, _)` parses
  dl : Decoder               -- what `newChunkedIntDecoder(data, locOffset, _)` parses

def absFnR (E : Env) (i : ItB) : Option (List Posting) :=
  if i.fl.incFN then
    (match i.fnR with
     | some b => absFn E.finv (chunkE E.cs E.es i.currChunk) b
     | none => none)
  else none

def absLcR (E : Env) (i : ItB) : List Posting :=
  if i.fl.incL then
    (match i.lcR with
     | some b => absLc E.finv (chunkE E.cs E.es i.currChunk) b
     | none => [])
  else []

theorem absFnR_some {E : Env} {i : ItB} {b : DecB} (hfn : i.fl.incFN = true) (hb : i.fnR = some b) :
    absFnR E i = absFn E.finv (chunkE E.cs E.es i.currChunk) b := by
  simp only [absFnR, hfn, if_true, hb]

theorem absLcR_some {E : Env} {i : ItB} {b : DecB} (hl : i.fl.incL = true) (hb : i.lcR = some b) :
    absLcR E i = absLc E.finv (chunkE E.cs E.es i.currChunk) b := by
  simp only [absLcR, hl, if_true, hb]

def absIt (E : Env) (i : ItB) : It :=
  { cs := i.cs, P := E.es.map (toP E.finv), all := i.all, act := i.act, clean := i.clean,
    currChunk := i.currChunk, fnR := absFnR E i, lcR := absLcR E i, fl := i.fl }

theorem It.ext' {a b : It} (h1 : a.cs = b.cs) (h2 : a.P = b.P) (h3 : a.all = b.all)
    (h4 : a.act = b.act) (h5 : a.clean = b.clean) (h6 : a.currChunk = b.currChunk)
    (h7 : a.fnR = b.fnR) (h8 : a.lcR = b.lcR) (h9 : a.fl = b.fl) : a = b := by
  cases a; cases b; simp_all

/-- The streams in `data` at `freqOffset` / `locOffset` are what the writer produced for `es`
    (conclusions of T6/T7), and `es` respects the input contract. -/
structure Env.OK (E : Env) : Prop where
  cspos : 0 < E.cs
  valid : ∀ e ∈ E.es, e.Valid
  freq : ∀ e ∈ E.es, e.locs.length ≤ e.freq
  norm : ∀ e ∈ E.es, e.norm < 2 ^ 32
  fld : ∀ e ∈ E.es, ∀ l ∈ e.locs, l.fieldID < E.finv.length
  doc : ∀ e ∈ E.es, e.doc ≤ E.maxDoc
  newT : Decoder.newWith E.file E.data E.freqOffset = .ok E.dt
  newL : Decoder.newWith E.file E.data E.locOffset = .ok E.dl
  loadT : ∀ c, c ≤ E.maxDoc / E.cs → E.dt.loadChunk E.K c = .ok (fnBytes (chunkE E.cs E.es c))
  loadL : ∀ c, c ≤ E.maxDoc / E.cs → E.dl.loadChunk E.K c = .ok (locBytes (chunkE E.cs E.es c))

/-- the freq/norm decoder sits over the right stream; if a chunk is loaded, it is chunk `c` of
    the writer and the cursor stands at an entry boundary -/
structure FnOK (E : Env) (c : Nat) (b : DecB) : Prop where
  dEq : b.d = E.dt
  dataOk : b.dataNil = false
  zero : b.d.startOffset = 0 → b.curChunkBytes = []
  pos : b.curChunkBytes ≠ [] → ∃ pre rest, chunkE E.cs E.es c = pre ++ rest ∧
    b.curChunkBytes = fnBytes (pre ++ rest) ∧
    b.r = some ⟨fnBytes (pre ++ rest), (fnBytes pre).length⟩

/-- the same for the location decoder (over the entries of the chunk that have locations) -/
structure LcOK (E : Env) (c : Nat) (b : DecB) : Prop where
  dEq : b.d = E.dl
  dataOk : b.dataNil = false
  zero : b.d.startOffset = 0 → ∀ r, b.r = some r → r = ⟨[], 0⟩   -- `termNotEncoded`: never read
  pos : ∀ r, b.r = some r → r.S ≠ [] → ∃ pre rest,
    (chunkE E.cs E.es c).filter hasLocsE = pre ++ rest ∧
    r = ⟨locBytes (pre ++ rest), (locBytes pre).length⟩

/-- the location reader is as far as the freq/norm reader (entry level) -/
def Aligned (j : It) : Prop :=
  j.fl.incL = true → ∀ l, j.fnR = some l → j.lcR = l.filter Iter.hasLocs

/-- the invariant of the byte-level iterator: each decoder that is switched on sits over its
    stream with the cursor at an entry boundary, and the two readers are aligned -/
structure WF (E : Env) (i : ItB) : Prop where
  cs : i.cs = E.cs
  finv : i.fieldsInv = E.finv
  act : ∀ n ∈ i.act, n ≤ E.maxDoc
  fn : i.fl.incFN = true → ∃ b, i.fnR = some b ∧ FnOK E i.currChunk b
  lc : i.fl.incL = true → ∃ b, i.lcR = some b ∧ LcOK E i.currChunk b
  aligned : Aligned (absIt E i)

end Ice.Model.IterBytes
