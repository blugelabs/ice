import IceModel.Model.CacheFault
/-
  (a) `chunkedIntDecoder.loadChunk` is atomic with respect to storage faults.
  (b) the chunk cache of `PostingsIterator` under `failFrom`: until the first failing read the run
  IS the healthy run; the first failure leaves a state on which the guard stays true; from then on
  every access reports an error and changes nothing.
-/
namespace Ice.Model.CacheFault

/-! ### (a) the decoder

  `chunkedIntDecoder.loadChunk` is atomic with respect to storage faults: a failing load leaves the
  decoder exactly as it was; a read that does not fail behaves as on a healthy storage. -/

theorem failFrom_lt {f k : Nat} (h : k < f) : failFrom f k = false :=
  decide_eq_false (Nat.not_le_of_lt h)

theorem failFrom_ge {f k : Nat} (h : f ≤ k) : failFrom f k = true :=
  decide_eq_true h

namespace Dec
variable {α : Type} (st : Store α) (o : Oracle) (clk : Nat) (d : Dec α) (n : Nat)

/-- the four ways a load can end: nothing to load for a stream that is not encoded, or no such
    chunk (the storage is not read); the read fails; the chunk is read and installed -/
theorem loadChunk_cases :
    (d.encoded = false ∧ ∀ o', d.loadChunk st o' clk n = ({ d with rdr := some ([], 0) }, clk, true)) ∨
    (d.encoded = true ∧ st n = none ∧ ∀ o', d.loadChunk st o' clk n = (d, clk, false)) ∨
    (d.encoded = true ∧ o clk = true ∧ d.loadChunk st o clk n = (d, clk + 1, false)) ∨
    (d.encoded = true ∧ o clk = false ∧ ∃ c, st n = some c ∧ d.loadChunk st o clk n =
      ({ d with uncompressed := c, bytes := some c, rdr := some (c, 0) }, clk + 1, true)) := by
  unfold loadChunk
  cases he : d.encoded
  · exact Or.inl ⟨rfl, fun _ => rfl⟩
  · cases hc : st n with
    | none => exact Or.inr (Or.inl ⟨rfl, rfl, fun _ => rfl⟩)
    | some c =>
      cases ho : o clk
      · exact Or.inr (Or.inr (Or.inr ⟨rfl, rfl, c, rfl, rfl⟩))
      · exact Or.inr (Or.inr (Or.inl ⟨rfl, rfl, rfl⟩))

theorem loadChunk_of_read_ok (h : o clk = false) : d.loadChunk st o clk n = d.loadChunk st healthy clk n := by
  unfold loadChunk; simp [h, healthy]

/-- ATOMICITY: a failed load leaves the decoder untouched (any oracle) -/
theorem loadChunk_fail_unchanged (h : (d.loadChunk st o clk n).2.2 = false) : (d.loadChunk st o clk n).1 = d := by
  rcases loadChunk_cases st o clk d n with ⟨_, e⟩ | ⟨_, _, e⟩ | ⟨_, _, e⟩ | ⟨_, _, _, _, e⟩
  · rw [e] at h; cases h
  · rw [e]
  · rw [e]
  · rw [e] at h; cases h

theorem loadChunk_of_read_fails (he : d.encoded = true) (h : o clk = true) :
    ∃ clk', clk ≤ clk' ∧ d.loadChunk st o clk n = (d, clk', false) := by
  rcases loadChunk_cases st o clk d n with ⟨he', _⟩ | ⟨_, _, e⟩ | ⟨_, _, e⟩ | ⟨_, ho, _⟩
  · exact absurd (he'.symm.trans he) (by decide)
  · exact ⟨clk, Nat.le_refl _, e o⟩
  · exact ⟨clk + 1, Nat.le_succ _, e⟩
  · exact absurd (ho.symm.trans h) (by decide)

/-- any oracle: the healthy load, or the read failed and nothing has changed -/
theorem loadChunk_oracle :
    d.loadChunk st o clk n = d.loadChunk st healthy clk n ∨
    (d.loadChunk st o clk n = (d, clk + 1, false) ∧ o clk = true) := by
  rcases loadChunk_cases st o clk d n with ⟨_, e⟩ | ⟨_, _, e⟩ | ⟨_, ho, e⟩ | ⟨_, ho, _⟩
  · exact Or.inl ((e _).trans (e _).symm)
  · exact Or.inl ((e _).trans (e _).symm)
  · exact Or.inr ⟨e, ho⟩
  · exact Or.inl (loadChunk_of_read_ok st _ clk d n ho)

theorem loadChunk_clk_le (st : Store α) (o : Oracle) (clk : Nat) (d : Dec α) (n : Nat) :
    clk ≤ (d.loadChunk st o clk n).2.1 := by
  rcases loadChunk_cases st o clk d n with ⟨_, e⟩ | ⟨_, _, e⟩ | ⟨_, _, e⟩ | ⟨_, _, _, _, e⟩ <;> rw [e]
  · exact Nat.le_refl _
  · exact Nat.le_refl _
  · exact Nat.le_succ _
  · exact Nat.le_succ _

theorem loadChunk_encoded :
    (d.loadChunk st o clk n).1.encoded = d.encoded := by
  rcases loadChunk_cases st o clk d n with ⟨_, e⟩ | ⟨_, _, e⟩ | ⟨_, _, e⟩ | ⟨_, _, _, _, e⟩ <;> rw [e]

theorem read_cases :
    d.read = (d, .panic) ∨
    ∃ s c a, d.rdr = some (s, c) ∧ d.read = ({ d with rdr := some (s, c + 1) }, .ok a) := by
  unfold read
  split
  · exact Or.inl rfl
  · rename_i s c hr
    split
    · exact Or.inr ⟨s, c, _, hr, rfl⟩
    · exact Or.inl rfl

theorem read_bytes : d.read.1.bytes = d.bytes ∧ d.read.1.encoded = d.encoded := by
  rcases read_cases d with e | ⟨_, _, _, _, e⟩ <;> rw [e] <;> exact ⟨rfl, rfl⟩

theorem read_no_error (d : Dec α) : d.read.2 ≠ .error := by
  rcases read_cases d with e | ⟨_, _, _, _, e⟩ <;> rw [e] <;> exact fun h => nomatch h

end Dec

/-! ### (b) the iterator -/

namespace PIter

/-- never-changing facts plus "the key is not ahead of the chunk being asked for" -/
structure Good (n : Nat) (it : PIter) : Prop where
  incFreq : it.incFreq = true
  enc : it.freq.encoded = true
  le : it.currChunk ≤ n

/-- the storage fails (`f ≤ clk`) and the guard is true for every chunk from `m` on -/
def Dead (f m clk : Nat) (it : PIter) : Prop :=
  f ≤ clk ∧ it.incFreq = true ∧ it.freq.encoded = true ∧ (it.freq.isNil = true ∨ it.currChunk < m)

theorem Dead.mono {f m m' clk it} (h : Dead f m clk it) (hm : m ≤ m') : Dead f m' clk it := by
  obtain ⟨h1, h2, h3, h4⟩ := h
  exact ⟨h1, h2, h3, h4.imp id (fun h => Nat.lt_of_lt_of_le h hm)⟩

variable {st : IStore} {o : Oracle} {f clk n : Nat} {it : PIter}

/-- `hF`: without freq/norm wanted `access` does not reach `ensure` -/
theorem loadChunk_eq (st : IStore) (o : Oracle) (clk n : Nat) (hF : it.incFreq = true) :
    it.loadChunk ifixed st o clk n =
      let F := it.freq.loadChunk st.f o clk n
      let L := it.loc.loadChunk st.l o F.2.1 n
      if F.2.2 = false then ({ it with freq := F.1 }, F.2.1, false)
      else if it.incLocs = false then ({ it with freq := F.1, currChunk := n }, F.2.1, true)
      else if L.2.2 = false then ({ it with freq := { F.1 with bytes := none }, loc := L.1 }, L.2.1, false)
      else ({ it with freq := F.1, loc := L.1, currChunk := n }, L.2.1, true) := by
  unfold loadChunk
  simp only [ifixed, hF, Bool.false_eq_true, if_false, if_true, Bool.true_and]
  generalize it.freq.loadChunk st.f o clk n = F
  obtain ⟨f', clk1, ok1⟩ := F
  cases ok1
  · rfl
  · cases hL : it.incLocs
    · rfl
    · simp only [Bool.not_true, Bool.false_eq_true, if_false, if_true]
      generalize it.loc.loadChunk st.l o clk1 n = L
      obtain ⟨l', clk2, ok2⟩ := L
      cases ok2 <;> rfl

/-- `isNil = true` in the failure branch is repair 0ab4d30: the freq/norm bytes are dropped when
    the location load fails -/
theorem loadChunk_result (hF : it.incFreq = true) {it' : PIter} {clk' : Nat} {ok : Bool}
    (hv : it.loadChunk ifixed st o clk n = (it', clk', ok)) :
    let F := it.freq.loadChunk st.f o clk n
    let L := it.loc.loadChunk st.l o F.2.1 n
    it'.incFreq = it.incFreq ∧ it'.incLocs = it.incLocs ∧ it'.freq.encoded = it.freq.encoded ∧
    if ok then it'.currChunk = n ∧ it'.freq = F.1 ∧ F.2.2 = true ∧ (it.incLocs = true → it'.loc = L.1 ∧ L.2.2 = true)
    else it'.currChunk = it.currChunk ∧ (it' = it ∨ it'.freq.isNil = true) := by
  have he := Dec.loadChunk_encoded st.f o clk it.freq n
  rw [loadChunk_eq st o clk n hF] at hv
  dsimp only at hv ⊢
  by_cases h1 : (it.freq.loadChunk st.f o clk n).2.2 = false
  · rw [if_pos h1] at hv
    cases hv
    refine ⟨rfl, rfl, he, rfl, Or.inl ?_⟩
    rw [Dec.loadChunk_fail_unchanged st.f o clk it.freq n h1]
  · rw [if_neg h1] at hv
    have h1 := Bool.of_not_eq_false h1
    by_cases h2 : it.incLocs = false
    · rw [if_pos h2] at hv
      cases hv
      exact ⟨rfl, rfl, he, rfl, rfl, h1, fun h => nomatch h2.symm.trans h⟩
    · rw [if_neg h2] at hv
      by_cases h3 : (it.loc.loadChunk st.l o (it.freq.loadChunk st.f o clk n).2.1 n).2.2 = false
      · rw [if_pos h3] at hv
        cases hv
        exact ⟨rfl, rfl, he, rfl, Or.inr rfl⟩
      · rw [if_neg h3] at hv
        cases hv
        exact ⟨rfl, rfl, he, rfl, rfl, h1, fun _ => ⟨rfl, Bool.of_not_eq_false h3⟩⟩

theorem loadChunk_failFrom (hF : it.incFreq = true) {it' : PIter} {clk' : Nat} {ok : Bool}
    (hv : it.loadChunk ifixed st (failFrom f) clk n = (it', clk', ok)) :
    it.loadChunk ifixed st healthy clk n = (it', clk', ok) ∨ (ok = false ∧ f < clk') := by
  rw [loadChunk_eq st _ clk n hF] at hv
  rw [loadChunk_eq st healthy clk n hF]
  dsimp only at hv ⊢
  rcases Dec.loadChunk_oracle st.f (failFrom f) clk it.freq n with h1 | ⟨h1, hf⟩ <;> rw [h1] at hv
  · rcases Dec.loadChunk_oracle st.l (failFrom f) (it.freq.loadChunk st.f healthy clk n).2.1 it.loc n with
      h2 | ⟨h2, hf2⟩ <;> rw [h2] at hv
    · exact Or.inl hv
    · by_cases c1 : (it.freq.loadChunk st.f healthy clk n).2.2 = false
      · rw [if_pos c1] at hv ⊢; exact Or.inl hv
      · by_cases c2 : it.incLocs = false
        · rw [if_neg c1, if_pos c2] at hv ⊢; exact Or.inl hv
        · rw [if_neg c1, if_neg c2] at hv
          cases hv
          exact Or.inr ⟨rfl, Nat.lt_succ_of_le (of_decide_eq_true hf2)⟩
  · cases hv
    exact Or.inr ⟨rfl, Nat.lt_succ_of_le (of_decide_eq_true hf)⟩

theorem guard_eq_true : it.guard n = true ↔ it.currChunk ≠ n ∨ it.freq.isNil = true := by
  simp only [guard, Bool.or_eq_true, bne_iff_ne, ne_eq]

theorem ensure_frame (hF : it.incFreq = true) {it' : PIter} {clk' : Nat} {ok : Bool}
    (hv : it.ensure ifixed st o clk n = (it', clk', ok)) :
    it'.incFreq = it.incFreq ∧ it'.freq.encoded = it.freq.encoded ∧
    it'.currChunk = (if ok then n else it.currChunk) := by
  unfold ensure at hv
  by_cases hg : it.guard n = true
  · rw [if_pos hg] at hv
    obtain ⟨h1, _, h2, h3⟩ := loadChunk_result hF hv
    cases ok
    · exact ⟨h1, h2, h3.1⟩
    · exact ⟨h1, h2, h3.1⟩
  · rw [if_neg hg] at hv
    cases hv
    exact ⟨rfl, rfl, Decidable.of_not_not fun h => hg (guard_eq_true.mpr (Or.inl h))⟩

theorem ensure_good (st : IStore) (o : Oracle) (clk : Nat) (g : Good n it) :
    Good n (it.ensure ifixed st o clk n).1 := by
  rcases hv : it.ensure ifixed st o clk n with ⟨it', clk', ok⟩
  obtain ⟨h1, h2, h3⟩ := ensure_frame g.incFreq hv
  refine ⟨h1.trans g.incFreq, h2.trans g.enc, ?_⟩
  show it'.currChunk ≤ n
  rw [h3]; split
  · exact Nat.le_refl _
  · exact g.le

theorem readEntry_state (it : PIter) : ∃ f' l', it.readEntry.1 = { it with freq := f', loc := l' } ∧
    (f' = it.freq ∨ f' = it.freq.read.1) ∧ (l' = it.loc ∨ l' = it.loc.read.1) := by
  unfold readEntry
  rcases hr : it.freq.read with ⟨f', r⟩
  cases r with
  | panic => exact ⟨_, _, rfl, Or.inl rfl, Or.inl rfl⟩
  | error => exact ⟨_, _, rfl, Or.inl rfl, Or.inl rfl⟩
  | ok e =>
    dsimp only
    split
    · rcases hr2 : it.loc.read with ⟨l', r2⟩
      cases r2 with
      | panic => exact ⟨f', _, rfl, Or.inr rfl, Or.inl rfl⟩
      | error => exact ⟨f', _, rfl, Or.inr rfl, Or.inl rfl⟩
      | ok x => exact ⟨f', l', rfl, Or.inr rfl, Or.inr rfl⟩
    · exact ⟨f', _, rfl, Or.inr rfl, Or.inl rfl⟩

theorem readEntry_frame (it : PIter) :
    it.readEntry.1.currChunk = it.currChunk ∧ it.readEntry.1.incFreq = it.incFreq ∧
    it.readEntry.1.incLocs = it.incLocs ∧ it.readEntry.1.freq.encoded = it.freq.encoded ∧
    it.readEntry.1.freq.bytes = it.freq.bytes := by
  obtain ⟨f', l', h, hf, _⟩ := readEntry_state it
  rw [h]
  refine ⟨rfl, rfl, rfl, ?_⟩
  rcases hf with rfl | rfl
  · exact ⟨rfl, rfl⟩
  · exact (Dec.read_bytes it.freq).symm

theorem readEntry_good {n : Nat} {it : PIter} (g : Good n it) : Good n it.readEntry.1 := by
  obtain ⟨h1, h2, _, h4, _⟩ := readEntry_frame it
  exact ⟨h2.trans g.incFreq, h4.trans g.enc, h1 ▸ g.le⟩

theorem skips_keeps {ver : IVersion} {st : IStore} {o : Oracle} {n : Nat} {I : PIter → Prop}
    (hens : ∀ clk it, I it → I (it.ensure ver st o clk n).1) (hread : ∀ it, I it → I it.readEntry.1) :
    ∀ (k clk : Nat) (it : PIter), I it → I (PIter.skips ver st o n k clk it).1 := by
  intro k
  induction k with
  | zero => exact fun _ _ h => h
  | succ k ih =>
    intro clk it h
    unfold skips
    have h1 := hens clk it h
    generalize it.ensure ver st o clk n = e at h1 ⊢
    obtain ⟨it1, clk1, ok⟩ := e
    cases ok
    · exact h1
    · have h2 := hread it1 h1
      dsimp only [Bool.not_true, Bool.false_eq_true, if_false]
      generalize it1.readEntry = e at h2 ⊢
      obtain ⟨it2, r⟩ := e
      cases r with
      | ok _ => exact ih clk1 it2 h2
      | error => exact h2
      | panic => exact h2

theorem access_keeps {ver : IVersion} {st : IStore} {o : Oracle} {a : IAcc} {I : PIter → Prop}
    (hens : ∀ clk it, I it → I (it.ensure ver st o clk a.chunk).1) (hread : ∀ it, I it → I it.readEntry.1)
    (clk : Nat) (it : PIter) (h : I it) : I (it.access ver st o clk a).1 := by
  unfold access
  split
  · exact h
  · have h1 := skips_keeps hens hread a.skip clk it h
    generalize PIter.skips ver st o a.chunk a.skip clk it = e at h1 ⊢
    obtain ⟨it1, clk1, r⟩ := e
    cases r with
    | error => exact h1
    | panic => exact h1
    | ok u =>
      have h2 := hens clk1 it1 h1
      dsimp only
      generalize it1.ensure ver st o clk1 a.chunk = e at h2 ⊢
      obtain ⟨it2, clk2, ok⟩ := e
      cases ok
      · exact h2
      · have h3 := hread it2 h2
        dsimp only [Bool.not_true, Bool.false_eq_true, if_false]
        generalize it2.readEntry = e at h3 ⊢
        obtain ⟨it3, r⟩ := e
        cases r <;> exact h3

theorem ensure_failFrom (g : Good n it) {it' : PIter} {clk' : Nat} {ok : Bool}
    (hv : it.ensure ifixed st (failFrom f) clk n = (it', clk', ok)) :
    it.ensure ifixed st healthy clk n = (it', clk', ok) ∨ (ok = false ∧ Dead f n clk' it') := by
  unfold ensure at hv ⊢
  by_cases hg : it.guard n = true
  · rw [if_pos hg] at hv ⊢
    rcases loadChunk_failFrom g.incFreq hv with h | ⟨rfl, h2⟩
    · exact Or.inl h
    · obtain ⟨f1, _, f2, f3, f4⟩ := loadChunk_result g.incFreq hv
      refine Or.inr ⟨rfl, Nat.le_of_lt h2, f1.trans g.incFreq, f2.trans g.enc, ?_⟩
      rcases f4 with rfl | he
      · exact (guard_eq_true.mp hg).symm.imp id (fun h => Nat.lt_of_le_of_ne g.le h)
      · exact Or.inl he
  · rw [if_neg hg] at hv ⊢
    exact Or.inl hv

theorem ensure_dead (st : IStore) {m : Nat} (ho : ∀ k, f ≤ k → o k = true) (hd : Dead f m clk it) (hn : m ≤ n) :
    ∃ clk', clk ≤ clk' ∧ it.ensure ifixed st o clk n = (it, clk', false) := by
  obtain ⟨h1, h2, h3, h4⟩ := hd
  have hg : it.guard n = true :=
    guard_eq_true.mpr (h4.symm.imp (fun h => Nat.ne_of_lt (Nat.lt_of_lt_of_le h hn)) id)
  obtain ⟨clk', hc, he⟩ := Dec.loadChunk_of_read_fails st.f o clk it.freq n h3 (ho clk h1)
  refine ⟨clk', hc, ?_⟩
  unfold ensure
  rw [if_pos hg, loadChunk_eq st o clk n h2, he]
  rfl

theorem skips_failFrom (st : IStore) (f n k : Nat) : ∀ (clk : Nat) (it : PIter), Good n it →
    ∀ {it' : PIter} {clk' : Nat} {out : Outcome Unit},
    PIter.skips ifixed st (failFrom f) n k clk it = (it', clk', out) →
    PIter.skips ifixed st healthy n k clk it = (it', clk', out) ∨ (out = .error ∧ Dead f n clk' it') := by
  induction k with
  | zero => exact fun _ _ _ _ _ _ hv => Or.inl hv
  | succ k ih =>
    intro clk it g it' clk' out hv
    unfold skips at hv ⊢
    rcases he : it.ensure ifixed st (failFrom f) clk n with ⟨it1, clk1, ok⟩
    rw [he] at hv
    have g1 : Good n it1 := by have := ensure_good st (failFrom f) clk g; rwa [he] at this
    rcases ensure_failFrom g he with h | ⟨rfl, h2⟩
    · rw [h]
      cases ok
      · -- decide the conditional first: comparing its untaken branches would unfold `skips`
        simp only [Bool.not_false, if_true] at hv ⊢
        exact Or.inl hv
      · have g2 := readEntry_good g1
        dsimp only [Bool.not_true, Bool.false_eq_true, if_false] at hv ⊢
        generalize it1.readEntry = e at g2 hv ⊢
        obtain ⟨it2, r⟩ := e
        cases r with
        | ok _ => exact ih clk1 it2 g2 hv
        | error => exact Or.inl hv
        | panic => exact Or.inl hv
    · cases hv
      exact Or.inr ⟨rfl, h2⟩

theorem access_failFrom {a : IAcc} (g : Good a.chunk it) {it' : PIter} {clk' : Nat} {out : Outcome IAns}
    (hv : it.access ifixed st (failFrom f) clk a = (it', clk', out)) :
    it.access ifixed st healthy clk a = (it', clk', out) ∨ (out = .error ∧ Dead f a.chunk clk' it') := by
  unfold access at hv ⊢
  rw [if_neg (by rw [g.incFreq]; decide)] at hv ⊢
  rcases hs : PIter.skips ifixed st (failFrom f) a.chunk a.skip clk it with ⟨it1, clk1, r⟩
  rw [hs] at hv
  have g1 : Good a.chunk it1 := by
    have := skips_keeps (fun clk it => ensure_good st (failFrom f) clk) (fun _ => readEntry_good) a.skip clk it g
    rwa [hs] at this
  rcases skips_failFrom st f a.chunk a.skip clk it g hs with h | ⟨rfl, h2⟩
  · rw [h]
    cases r with
    | error => exact Or.inl hv
    | panic => exact Or.inl hv
    | ok u =>
      dsimp only at hv ⊢
      rcases he : it1.ensure ifixed st (failFrom f) clk1 a.chunk with ⟨it2, clk2, ok⟩
      rw [he] at hv
      rcases ensure_failFrom g1 he with h' | ⟨rfl, h2'⟩
      · rw [h']; exact Or.inl hv
      · cases hv
        exact Or.inr ⟨rfl, h2'⟩
  · cases hv
    exact Or.inr ⟨rfl, h2⟩

theorem access_dead (st : IStore) {m : Nat} {a : IAcc} (ho : ∀ k, f ≤ k → o k = true) (hd : Dead f m clk it)
    (hn : m ≤ a.chunk) : ∃ clk', clk ≤ clk' ∧ it.access ifixed st o clk a = (it, clk', .error) := by
  obtain ⟨clk', hc, he⟩ := ensure_dead st ho hd hn
  refine ⟨clk', hc, ?_⟩
  unfold access
  rw [if_neg (by rw [hd.2.1]; decide)]
  -- no posting skipped, or the first skip fails: the same guarded load reports the error
  cases a.skip <;> (rw [skips]; dsimp only; rw [he]; rfl)

end PIter
end Ice.Model.CacheFault
