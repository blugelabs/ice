import IceModel.Lemmas.CacheFaultDvRun
/-
  (c) docValueReader: one visit from a reader whose key tells the truth (`Holds`).  With the
  pre-repair loader `dV0` the visit is exact, or reports an error after a failing read and may
  leave a load cut short; what that means for a clean reader and on a storage that has failed.
  The loader as it is now (`dfixed`, repair F-C19-dvheader: the key is invalidated before the first
  read and before the header is touched, and set last) is `dV0` started from a reader without a
  key, so `Holds` survives every visit, in any order, under ANY oracle.  Then the runs made of
  these visits; ascending scripts only have upward faults.
-/
namespace Ice.Model.CacheFault

variable {chunkOf : Nat → Nat} {st : DvStore} {o : Oracle} {clk d : Nat} {r : DvReader}

theorem visit_v0 (wf : EntriesSorted st) (h : Holds st r) (hd : chunkOf d ≠ noChunk)
    {r' : DvReader} {clk' : Nat} {out : Outcome (List Nat)}
    (hv : r.visit dV0 chunkOf st o clk d = (r', clk', out)) :
    (out = specValues chunkOf st d ∧ clk ≤ clk' ∧ Holds st r' ∧
      (PosInv st r.hdrBuf → PosInv st r'.hdrBuf)) ∨
    (out = .error ∧ (∃ k, clk ≤ k ∧ k < clk' ∧ o k = true) ∧
      (r' = r ∨ (partialFail dV0 chunkOf st o clk r d ∧
        ∃ c, st (chunkOf d) = some c ∧ PartialLoad r c r'))) := by
  -- a hit, an empty chunk and a complete load all leave a key that names `chunkOf d` truthfully
  have seen : ∀ (r1 : DvReader) (clk1 : Nat), clk ≤ clk1 → Holds st r1 → r1.curChunkNum = chunkOf d →
      (PosInv st r.hdrBuf → PosInv st r1.hdrBuf) →
      ((r1.visitDocValues d).1, clk1, (r1.visitDocValues d).2) = (r', clk', out) →
      out = specValues chunkOf st d ∧ clk ≤ clk' ∧ Holds st r' ∧
        (PosInv st r.hdrBuf → PosInv st r'.hdrBuf) := by
    rintro r1 clk1 hclk h1 hcur hpos ⟨⟩
    obtain ⟨hh, hdat⟩ := h1.resolve_left (hcur ▸ hd)
    rw [hcur] at hh hdat
    refine ⟨visitDocValues_clean wf hh hdat, hclk, h1.visitDocValues d, ?_⟩
    rw [(visitDocValues_frame r1 d).1]; exact hpos
  unfold DvReader.visit at hv
  by_cases hmiss : chunkOf d ≠ r.curChunkNum
  · rw [if_pos hmiss] at hv
    cases hc : st (chunkOf d) with
    | none =>
      rw [loadDvChunk_none dV0 o clk r hc] at hv
      exact Or.inl (seen _ clk (Nat.le_refl _) (emptied_holds r hc) rfl id hv)
    | some c =>
      rcases loadDvChunk_result o clk r hc with
        ⟨ho, hL⟩ | ⟨r1, clk1, hL, ho, hp, hk⟩ | ⟨r1, clk1, hL, hclk, hfull⟩ <;> rw [hL] at hv
      · cases hv
        exact Or.inr ⟨rfl, ⟨clk, Nat.le_refl _, Nat.lt_succ_self _, ho⟩, Or.inl rfl⟩
      · cases hv
        exact Or.inr ⟨rfl, hk, Or.inr ⟨⟨hmiss, by rw [hc]; exact Option.some_ne_none c, ho, by rw [hL]⟩, c, rfl, hp⟩⟩
      · exact Or.inl (seen r1 clk1 (Nat.le_of_lt hclk) (hfull.holds hc) hfull.cur (hfull.posInv hc) hv)
  · rw [if_neg hmiss] at hv
    exact Or.inl (seen r clk (Nat.le_refl _) h (Decidable.of_not_not hmiss).symm id hv)

theorem visit_clean (wf : DvWF chunkOf st) (hcl : Clean st r) (hd : chunkOf d ≠ noChunk)
    (hup : partialFail dV0 chunkOf st o clk r d → r.curChunkNum = noChunk ∨ r.curChunkNum < chunkOf d)
    {r' : DvReader} {clk' : Nat} {out : Outcome (List Nat)}
    (hv : r.visit dV0 chunkOf st o clk d = (r', clk', out)) :
    DvAllowed chunkOf st out d ∧ clk ≤ clk' ∧
    (Clean st r' ∨ (Safe chunkOf st r' ∧ ∃ k, k < clk' ∧ o k = true)) := by
  rcases visit_v0 wf.sorted hcl.holds hd hv with ⟨h1, h2, h3, h4⟩ | ⟨h1, ⟨k, hk1, hk2, hk3⟩, h3⟩
  · exact ⟨Or.inl h1, h2, Or.inl ⟨h4 hcl.1, h3⟩⟩
  · refine ⟨Or.inr (Or.inl h1), Nat.le_of_lt (Nat.lt_of_le_of_lt hk1 hk2), ?_⟩
    rcases h3 with h3 | ⟨hp, c, hc, hpl⟩
    · exact Or.inl (h3.symm ▸ hcl)
    · exact Or.inr ⟨partial_safe wf hcl hc hpl (hup hp), k, hk2, hk3⟩

theorem visit_dead (wf : DvWF chunkOf st) (ho : o clk = true) (hs : Safe chunkOf st r)
    (hd : chunkOf d ≠ noChunk) {r' : DvReader} {clk' : Nat} {out : Outcome (List Nat)}
    (hv : r.visit dV0 chunkOf st o clk d = (r', clk', out)) :
    DvAllowed chunkOf st out d ∧ clk ≤ clk' ∧ Safe chunkOf st r' := by
  -- a hit and an empty chunk read nothing
  have seen : ∀ r1 : DvReader, Safe chunkOf st r1 → r1.curChunkNum = chunkOf d →
      ((r1.visitDocValues d).1, clk, (r1.visitDocValues d).2) = (r', clk', out) →
      DvAllowed chunkOf st out d ∧ clk ≤ clk' ∧ Safe chunkOf st r' := by
    rintro r1 h1 hcur ⟨⟩
    obtain ⟨hv, hdat⟩ := h1.resolve_left (hcur ▸ hd)
    rw [hcur] at hv hdat
    exact ⟨(visitDocValues_safe wf hv hdat).imp id Or.inr, Nat.le_refl _, h1.visitDocValues d⟩
  unfold DvReader.visit at hv
  by_cases hmiss : chunkOf d ≠ r.curChunkNum
  · rw [if_pos hmiss] at hv
    cases hc : st (chunkOf d) with
    | none =>
      rw [loadDvChunk_none dV0 o clk r hc] at hv
      exact seen _ (emptied_holds r hc).safe rfl hv
    | some c =>
      rw [loadDvChunk_some o clk r hc, if_pos ho] at hv
      cases hv
      exact ⟨Or.inr (Or.inl rfl), Nat.le_succ _, hs⟩
  · rw [if_neg hmiss] at hv
    exact seen r hs (Decidable.of_not_not hmiss).symm hv

theorem visit_fixed_eq (o : Oracle) (clk : Nat) (r : DvReader) (hd : chunkOf d ≠ noChunk) :
    r.visit dfixed chunkOf st o clk d =
      (if chunkOf d = r.curChunkNum then r else { r with curChunkNum := noChunk }).visit dV0 chunkOf st o clk d := by
  by_cases hhit : chunkOf d = r.curChunkNum
  · rw [if_pos hhit]
    unfold DvReader.visit
    rw [if_neg (not_not_intro hhit), if_neg (not_not_intro hhit)]
  · rw [if_neg hhit]
    unfold DvReader.visit
    rw [if_pos hhit, if_pos (show chunkOf d ≠ ({ r with curChunkNum := noChunk } : DvReader).curChunkNum from hd)]
    cases hc : st (chunkOf d) with
    | none => rw [loadDvChunk_none _ _ _ _ hc, loadDvChunk_none _ _ _ _ hc]
    | some c => rw [loadDvChunk_fixed o clk r hc]

theorem visit_fixed (wf : EntriesSorted st) (h : Holds st r) (hd : chunkOf d ≠ noChunk)
    {r' : DvReader} {clk' : Nat} {out : Outcome (List Nat)}
    (hv : r.visit dfixed chunkOf st o clk d = (r', clk', out)) :
    (out = specValues chunkOf st d ∨ (out = .error ∧ ∃ k, clk ≤ k ∧ k < clk' ∧ o k = true)) ∧
    Holds st r' := by
  rw [visit_fixed_eq o clk r hd] at hv
  split at hv
  · rename_i hhit
    rcases visit_v0 wf h hd hv with ⟨h1, _, h3, _⟩ | ⟨h1, hk, h3 | ⟨hp, _⟩⟩
    · exact ⟨Or.inl h1, h3⟩
    · exact ⟨Or.inr ⟨h1, hk⟩, h3.symm ▸ h⟩
    · exact absurd hhit hp.1
  · rcases visit_v0 wf (Or.inl rfl) hd hv with ⟨h1, _, h3, _⟩ | ⟨h1, hk, h3 | ⟨_, c, _, hp⟩⟩
    · exact ⟨Or.inl h1, h3⟩
    · exact ⟨Or.inr ⟨h1, hk⟩, Or.inl (h3.symm ▸ rfl)⟩
    · exact ⟨Or.inr ⟨h1, hk⟩, Or.inl hp.cur⟩

def DvExact (chunkOf : Nat → Nat) (st : DvStore) (out : Outcome (List Nat)) (d : Nat) : Prop :=
  out = specValues chunkOf st d ∨ out = .error

/-- `I` may speak of the visits still to come (`UpwardFaults` does) -/
theorem run_pointwise {ver : DvVersion} {R : Outcome (List Nat) → Nat → Prop}
    {I : Nat → DvReader → List Nat → Prop}
    (step : ∀ {clk r d ds r' clk' out}, I clk r (d :: ds) → chunkOf d ≠ noChunk →
      r.visit ver chunkOf st o clk d = (r', clk', out) → R out d ∧ I clk' r' ds)
    (ds : List Nat) : ∀ (clk : Nat) (r : DvReader), I clk r ds → (∀ d ∈ ds, chunkOf d ≠ noChunk) →
    Pointwise R (DvReader.run ver chunkOf st o clk r ds) ds := by
  induction ds with
  | nil => intro _ _ _ _; exact .nil
  | cons d ds ih =>
    intro clk r h hd
    rcases hv : r.visit ver chunkOf st o clk d with ⟨r', clk', out⟩
    obtain ⟨h1, h2⟩ := step h (hd d List.mem_cons_self) hv
    simp only [DvReader.run, hv]
    exact .cons h1 (ih _ _ h2 fun x hx => hd x (List.mem_cons_of_mem _ hx))

theorem Pointwise.eq_map {α β : Type} {f : β → α} {as : List α} {bs : List β}
    (h : Pointwise (fun a b => a = f b) as bs) : as = bs.map f := by
  induction h with
  | nil => rfl
  | cons hab _ ih => rw [hab, ih]; rfl

theorem run_fixed (wf : EntriesSorted st) (o : Oracle) (ds : List Nat) :
    ∀ (clk : Nat) (r : DvReader), Holds st r → (∀ d ∈ ds, chunkOf d ≠ noChunk) →
    Pointwise (DvExact chunkOf st) (DvReader.run dfixed chunkOf st o clk r ds) ds :=
  run_pointwise (I := fun _ r _ => Holds st r)
    (fun h hd hv => (visit_fixed wf h hd hv).imp (Or.imp_right And.left) id) ds

theorem run_fixed_healthy (wf : EntriesSorted st) (ds : List Nat) (clk : Nat) (r : DvReader)
    (h : Holds st r) (hd : ∀ d ∈ ds, chunkOf d ≠ noChunk) :
    DvReader.run dfixed chunkOf st healthy clk r ds = ds.map (specValues chunkOf st) :=
  (run_pointwise (I := fun _ r _ => Holds st r)
    (fun h hd hv => (visit_fixed wf h hd hv).imp
      (fun h => h.elim id fun ⟨_, _, _, _, hk⟩ => nomatch hk) id) ds clk r h hd).eq_map

theorem run_healthy (wf : EntriesSorted st) (ds : List Nat) (clk : Nat) (r : DvReader)
    (h : Holds st r) (hd : ∀ d ∈ ds, chunkOf d ≠ noChunk) :
    DvReader.run dV0 chunkOf st healthy clk r ds = ds.map (specValues chunkOf st) :=
  (run_pointwise (o := healthy) (I := fun _ r _ => Holds st r)
    (fun h hd hv => (visit_v0 wf h hd hv).elim (fun h => ⟨h.1, h.2.2.1⟩)
      fun ⟨_, ⟨_, _, _, hk⟩, _⟩ => nomatch hk) ds clk r h hd).eq_map

theorem visit_cur (chunkOf : Nat → Nat) (st : DvStore) (o : Oracle) (clk : Nat) (r : DvReader) (d : Nat) :
    (r.visit dV0 chunkOf st o clk d).1.curChunkNum = r.curChunkNum ∨
    (r.visit dV0 chunkOf st o clk d).1.curChunkNum = chunkOf d := by
  unfold DvReader.visit
  split
  · have h := loadDvChunk_cur st o clk r (chunkOf d)
    generalize r.loadDvChunk dV0 st o clk (chunkOf d) = x at h ⊢
    obtain ⟨r1, clk1, ok⟩ := x
    cases ok
    · exact h
    · exact (visitDocValues_frame r1 d).2.2.1 ▸ h
  · exact Or.inl (visitDocValues_frame r d).2.2.1

/-- visits in ascending chunk order (ascending doc order in particular) -/
def Ascending (chunkOf : Nat → Nat) (ds : List Nat) : Prop :=
  ds.Pairwise (fun a b => chunkOf a ≤ chunkOf b)

theorem upward_of_ascending (st : DvStore) (o : Oracle) (ds : List Nat) :
    ∀ (clk : Nat) (r : DvReader), (r.curChunkNum = noChunk ∨ ∀ d ∈ ds, r.curChunkNum ≤ chunkOf d) →
    Ascending chunkOf ds → UpwardFaults dV0 chunkOf st o clk r ds := by
  induction ds with
  | nil => intro _ _ _ _; trivial
  | cons d ds ih =>
    intro clk r hr hasc
    obtain ⟨hd, hasc'⟩ := List.pairwise_cons.mp hasc
    refine ⟨fun hp => ?_, ih _ _ ?_ hasc'⟩
    · exact hr.imp id fun hr => Nat.lt_of_le_of_ne (hr d List.mem_cons_self) (Ne.symm hp.1)
    · rcases visit_cur chunkOf st o clk r d with h | h <;> rw [h]
      · exact hr.imp id (fun hr x hx => hr x (List.mem_cons_of_mem _ hx))
      · exact Or.inr hd

theorem fresh_clean (st : DvStore) : Clean st {} :=
  ⟨fun j m h => by simp at h, Or.inl rfl⟩

end Ice.Model.CacheFault
