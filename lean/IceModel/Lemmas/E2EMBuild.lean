import IceModel.Lemmas.E2EMDefs
/-
  END-TO-END, the builder's description: what `New` lays out (`Built.toLSeg`) lays out `Spec.build`
  in the sense of `Lays`; `Spec.build` of a valid batch inside the bounds has what writing and
  reading need (`AbsRd`), and with 31-bit norms and fewer than 65535 fields it is a well-formed
  abstract segment (`AbsOK`: the leaves of trees of merges).  The description is the builder's:
  its doc-value columns are `Format.dvOfTerms` of the terms (`toLSeg_dv`), its terms the raw
  per-field output (`toLSeg_raw`).
-/
namespace Ice.Props.E2EM
open Ice Ice.Spec Ice.Model Ice.Model.Builder Ice.Model.Format
open Ice.Model.MergeRest (Rel₂ DocAsc stored_eq storedOf gOf)
open Ice.Props.E2E

theorem storedOf_keyed (F : List Bytes) (a : ADoc) :
    storedOf F a = F.flatMap (fun f => ((match a.field? f with
      | some af => af.stored
      | none => []) : List Bytes).map (fun v => (f, v))) := by
  unfold storedOf
  congr 1
  funext f
  unfold gOf
  cases a.field? f <;> rfl

/-- **an abstract segment laid out by field number lays it out**: nothing of the builder is used -/
theorem lays_ofSpec {dvf : Bytes → Bool} {S : AbsSeg} (hC : Closed dvf S) (hnodup : S.fields.Nodup)
    (hfd : S.fieldDocs.length = S.fields.length) (hff : S.fieldFreqs.length = S.fields.length)
    (hE : S.docs = [] → (∀ f, dvf f = false) ∧ ∀ x ∈ S.fieldFreqs, x = 0) :
    Lays S ((Built.ofSpec dvf S).toLSeg S.chunkMode) := by
  have hfield : ∀ {i : Nat} {f : Bytes} {fd : FieldDesc}, S.fields[i]? = some f →
      ((Built.ofSpec dvf S).toLSeg S.chunkMode).fields[i]? = some fd →
      fd.terms = (terms S f).map (fun t => (t, TermDesc.general
        ((postings S f t).map (postingToE S.fields)))) ∧
      fd.dv = if dvf f then some (colOf S.docs.length fun n => dvOf S n f) else none := by
    intro i f fd hf hfd
    cases Option.some.inj ((ofSpec_field dvf S _ hf).symm.trans hfd)
    exact ⟨rfl, rfl⟩
  have hstored : ∀ {n : Nat} {d : Stored.Doc},
      ((Built.ofSpec dvf S).toLSeg S.chunkMode).stored[n]? = some d →
      d = storedDocOf S.fields (stored S n) := by
    intro n d hn
    have hlt : n < S.docs.length := by
      have := (List.getElem?_eq_some_iff.1 hn).1
      simpa [Built.toLSeg, Built.ofSpec] using this
    simp only [Built.toLSeg, Built.ofSpec, List.getElem?_map, List.getElem?_range hlt, Option.map_some,
      Option.some.injEq] at hn
    exact hn.symm
  refine
    { numDocs := ofSpec_numDocs dvf S _, mode := rfl, names := ofSpec_names dvf S _,
      fieldDocs := ofSpec_fieldDocs dvf S _ hfd, fieldFreqs := ofSpec_fieldFreqs dvf S _ hff,
      terms := ?_, oneHit := ?_, stored := ?_, storedAsc := ?_, storedIds := ?_, dv := ?_,
      dvNonempty := ?_, empty := ?_ }
  · intro i f fd hf hfd
    rw [(hfield hf hfd).1, List.map_map]
    refine ⟨List.map_id'' (fun _ => rfl) _, fun j t td hj => ?_⟩
    rw [List.getElem?_map, Option.map_eq_some_iff] at hj
    obtain ⟨_, _, h⟩ := hj
    cases h
    exact rfl
  · intro fd hfd t ht d n htd
    obtain ⟨i, f, hf, hfi⟩ := ofSpec_field_mem dvf S _ hfd
    rw [(hfield hf hfi).1] at ht
    obtain ⟨_, _, rfl⟩ := List.mem_map.1 ht
    cases htd
  · apply Rel₂.of_get _ _ (by simp [Built.toLSeg, Built.ofSpec])
    intro n d a hd ha
    cases hstored hd
    rw [show stored S n = storedOf S.fields a by rw [stored_eq, ha], storedOf_keyed]
    refine ⟨fun p hp => ?_, ?_⟩
    · obtain ⟨fv, hfv, hp⟩ := List.mem_flatMap.1 hp
      obtain ⟨_, _, rfl⟩ := List.mem_map.1 hp
      exact (mem_colOf.1 (storedDocOf_eq _ _ ▸ hfv)).1
    · rw [storedOf_keyed]
      exact flat_storedDocOf _ hnodup _
  · intro d hd
    obtain ⟨n, hn⟩ := List.getElem?_of_mem hd
    cases hstored hn
    exact colOf_asc _ _
  · intro d hd
    obtain ⟨n, hn⟩ := List.getElem?_of_mem hd
    cases hstored hn
    exact fun fv hfv => (mem_colOf.1 (storedDocOf_eq _ _ ▸ hfv)).1
  · intro i f fd hf hfd
    rw [(hfield hf hfd).2]
    cases hdv : dvf f with
    | false => exact fun n => hC.dv n f hdv
    | true =>
      exact ⟨colOf_asc _ _, fun q hq => (mem_colOf.1 hq).1,
        termsOf_colOf fun n hn => dvOf_of_length_le hn f⟩
  · intro _ fd hfd vals hvals q hq
    obtain ⟨i, f, hf, hfi⟩ := ofSpec_field_mem dvf S _ hfd
    rw [(hfield hf hfi).2] at hvals
    split at hvals
    · cases hvals
      exact (mem_colOf.1 hq).2.2
    · cases hvals
  · intro h0 fd hfd
    have h0' : S.docs = [] := List.eq_nil_of_length_eq_zero ((ofSpec_numDocs dvf S _).symm.trans h0)
    obtain ⟨hdv0, hff0⟩ := hE h0'
    obtain ⟨i, f, hf, hfi⟩ := ofSpec_field_mem dvf S _ hfd
    refine ⟨(hfield hf hfi).2.trans (by rw [hdv0 f]; rfl), hff0 _ ?_⟩
    exact ofSpec_fieldFreqs dvf S S.chunkMode hff ▸ List.mem_map.2 ⟨fd, hfd, rfl⟩

section
variable {nc : Bytes → Nat → Nat} {b : Batch} (hv : ValidBatch b) (mode : Nat)

theorem idPerm : PermOK idOrder := fun _ _ m => List.Perm.refl m

include hv in
theorem run_builtOf : run nc idOrder b = .ok (builtOf nc b) := run_eq _ _ _ hv idPerm

include hv in
theorem build_lays : Lays (build nc mode b) ((builtOf nc b).toLSeg mode) := by
  rw [builtOf_eq nc mode b (FL_length_le hv.2)]
  refine lays_ofSpec (build_closed nc mode b) (spec_fields_nodup mode) (spec_fieldDocs_length mode)
    (spec_fieldFreqs_length mode) fun h0 => ?_
  have hb : b = [] := List.map_eq_nil_iff.1 h0
  subst hb
  exact ⟨fun _ => rfl, fun x hx => by obtain ⟨_, _, h⟩ := List.mem_map.1 hx; exact h.symm⟩

include hv in
/-- what writing and reading the builder's description need of `Spec.build`: a valid batch inside
    the bounds suffices -/
theorem absRd_build (hB : Bounds nc b) : AbsRd false (build nc mode b) :=
  ⟨rfl, spec_fields_length mode hv, fun _ hd' _ haf _ hx => loc_field_mem hv hd' haf hx,
    fun h => Bool.noConfusion h,
    fun x hx => by rw [build_docs_length]; exact spec_fieldDocs_le mode x hx,
    specBounds_of_bounds hB mode⟩

include hv in
/-- **`Spec.build` of a valid batch inside the bounds is well formed.**  `hn31`: the norm
    function returns the bits of a non-negative float32; `hnf`: fewer than 65535 fields (the
    merger's `fieldsMap[name] = uint16(id) + 1`). -/
theorem absOK_build (hB : Bounds nc b) (hn31 : ∀ n l, nc n l < 2 ^ 31)
    (hnf : (build nc mode b).fields.length < 65535) : AbsOK (build nc mode b) := by
  have hR := absRd_build hv mode hB
  refine ⟨C02Stored.fieldList_idFirstAsc _, hnf, ?_, ?_, hR.locs, ?_, hR.fieldDocs, hR.bounds⟩
  · intro d' hd' af haf
    obtain ⟨d, hd, rfl⟩ := mem_build_docs hd'
    obtain ⟨n, hn, rfl⟩ := mem_rollDoc haf
    show n ∈ fieldList _
    rw [mem_fieldList]
    exact .inr (List.mem_flatMap.2 ⟨d, hd, hn⟩)
  · intro f d' hd' af haf
    obtain ⟨d, hd, rfl⟩ := mem_build_docs hd'
    rw [field?_rollDoc] at haf
    split at haf
    · injection haf with haf
      subst haf
      simp only [rollField, rollTerms, List.map_map]
      exact (List.map_id'' (fun _ => rfl) _).symm ▸ asc_nodup (asc_sortDedup _)
    · cases haf
  · intro d' hd' af haf
    obtain ⟨d, hd, rfl⟩ := mem_build_docs hd'
    obtain ⟨n, hn, rfl⟩ := mem_rollDoc haf
    exact hn31 _ _

end

end Ice.Props.E2EM

/-! ## the doc-value column of a field of the description is the column `Format.dvOfTerms` derives from the field's
  postings - the builder's `docTermMap` (new.go:839-841): for every document the terms whose postings
  contain it, in term order -/
namespace Ice.Props.E2E
open Ice Ice.Spec Ice.Model Ice.Model.Builder Ice.Model.Format

theorem view_dv_eq (nc : Bytes → Nat → Nat) (F : List Bytes) (b : Batch) (i : Nat) (F' : List Bytes)
    (vals : List (Nat × List Bytes)) (h : (viewOf nc F b i).dv = some vals) :
    vals = dvOfTerms b.length (termsOfView F' (viewOf nc F b i)) := by
  simp only [viewOf] at h
  cases hflag : dvFlag F b i with
  | false => rw [hflag] at h; cases h
  | true =>
    rw [hflag, dvOut_rows, length_dtmOf] at h
    cases h
    apply colOf_congr
    intro d _
    have hrow := dtmOf_get b.length (keysOf F b i) (fun t => (entriesOf nc F b i t).map (·.doc))
      (fun t _ => pairwise_lt_nodup (docs_entriesOf_asc nc F b i t).1)
      (fun t _ => (docs_entriesOf_asc nc F b i t).2) d
    have hts : ((termsOfView F' (viewOf nc F b i)).filter
        (fun t => t.2.entries.any (fun e => e.doc == d))).map (·.1) =
        (keysOf F b i).filter (fun t => decide (d ∈ (entriesOf nc F b i t).map (·.doc))) := by
      simp only [termsOfView, viewOf, List.map_map, List.filter_map, Function.comp_def, List.map_id']
      apply List.filter_congr
      intro t _
      simp only [TermDesc.entries]
      rw [Bool.eq_iff_iff]
      simp only [List.any_eq_true, List.mem_map, beq_iff_eq, decide_eq_true_eq]
      constructor
      · rintro ⟨e, ⟨p, hp, rfl⟩, he⟩
        exact ⟨p, hp, he⟩
      · rintro ⟨p, hp, he⟩
        exact ⟨postingToE F' p, ⟨p, hp, rfl⟩, he⟩
    simp only [hrow, hts]

theorem toLSeg_dv {nc : Bytes → Nat → Nat} {b : Batch} (mode : Nat) {fd : FieldDesc}
    (hfd : fd ∈ ((builtOf nc b).toLSeg mode).fields)
    (vals : List (Nat × List Bytes)) (h : fd.dv = some vals) :
    vals = dvOfTerms ((builtOf nc b).toLSeg mode).numDocs fd.terms := by
  obtain ⟨i, f, hf, hfi⟩ := toLSeg_field_mem mode hfd
  have hd := dict_at mode hf
  have hfd' : ((builtOf nc b).toLSeg mode).fields[i]? = some (fieldDescOf (builtOf nc b) f i) := by
    rw [toLSeg_fields_getElem?, show (builtOf nc b).fields = (build nc mode b).fields from rfl, hf]; rfl
  cases hfd'.symm.trans hfi
  simp only [fieldDescOf, hd] at h ⊢
  rw [toLSeg_numDocs mode]
  exact view_dv_eq nc (FL b) b i _ vals h

end Ice.Props.E2E

/-! ## `Built` (names inside locations, what `C01` talks about) is the resolution of the builder's raw per-field
  output `FieldOut` (field ids inside locations, what `writeDictsTermField` hands to the encoders); the
  terms `toLSeg` lays out are the raw ones -/
namespace Ice.Props.E2E
open Ice Ice.Spec Ice.Model Ice.Model.Builder Ice.Model.Format
open Ice.Model.ChunkBytes (Entry BLoc)

/-- a raw entry of the builder as the byte-level entry the two int coders receive -/
def rawToE (re : RawEntry) : Entry :=
  Entry.mk re.doc re.freq re.norm (re.locs.map (fun il => BLoc.mk il.fieldID il.pos il.start il.stop))

/-- the terms of a raw field output -/
def termsOfRaw (fo : Builder.FieldOut) : List (Bytes × TermDesc) :=
  fo.entries.map fun e => (e.1, TermDesc.general (e.2.map rawToE))

/-- `convert` returns the resolution of what `writeDicts` produced (or of the empty per-field
    outputs for an empty batch) against the final field table -/
theorem run_inv {nc : Bytes → Nat → Nat} {π : Order} {b : Batch} {r : Built}
    (h : run nc π b = .ok r) :
    ∃ outs : List Builder.FieldOut, mapE (resolveField r.fields) outs = .ok r.dicts := by
  unfold run runV at h
  split at h
  · cases h
  · split at h
    · cases h
    · split at h
      · cases h
      · split at h
        · cases h
        · split at h
          · cases h
          · rename_i outs _
            split at h
            · cases h
            · rename_i views hviews
              cases h
              exact ⟨outs, hviews⟩

/-- resolving a raw field output keeps the doc-value column and turns every raw entry into the
    posting whose byte-level entry (`postingToE`) is the raw entry again -/
theorem resolveField_terms {F : List Bytes} (hn : F.Nodup) {fo : Builder.FieldOut} {v : FieldView}
    (h : resolveField F fo = .ok v) : v.dv = fo.dv ∧ termsOfView F v = termsOfRaw fo := by
  unfold resolveField at h
  split at h
  · cases h
  · rename_i es hes
    cases h
    refine ⟨rfl, ?_⟩
    unfold termsOfView termsOfRaw
    refine mapE_ok_map _ (fun e : Bytes × List Posting => (e.1, TermDesc.general (e.2.map (postingToE F))))
      (fun e : Bytes × List RawEntry => (e.1, TermDesc.general (e.2.map rawToE))) ?_ fo.entries es hes
    intro p q hpq
    split at hpq
    · cases hpq
    · rename_i ps hps
      cases hpq
      rw [mapE_ok_map (resolveEntry F) (postingToE F) rawToE
        (fun x y hxy => postingToE_resolve hn hxy) p.2 ps hps]

section
variable {nc : Bytes → Nat → Nat} {π : Order} {b : Batch} {r : Built}
  (hv : ValidBatch b) (hπ : PermOK π) (hrun : run nc π b = .ok r) (mode : Nat)
include hv hπ hrun

/-- **the terms and doc values `toLSeg` lays out are the builder's raw per-field output**: there
    are raw outputs `outs` (what `writeDicts` produced, one per field) whose resolution is `r.dicts`,
    and field `i` of the description has exactly the raw terms and the doc-value column of
    `outs[i]`. -/
theorem toLSeg_raw :
    ∃ outs : List Builder.FieldOut, mapE (resolveField r.fields) outs = .ok r.dicts ∧
      outs.length = (r.toLSeg mode).fields.length ∧
      ∀ (i : Nat) (fo : Builder.FieldOut), outs[i]? = some fo →
        ∃ fd, (r.toLSeg mode).fields[i]? = some fd ∧ fd.terms = termsOfRaw fo ∧ fd.dv = fo.dv := by
  obtain ⟨outs, houts⟩ := run_inv hrun
  obtain ⟨hlen, hget⟩ := mapE_get _ outs r.dicts houts
  cases C01.built_eq hv hπ hrun
  have hdl : (builtOf nc b).dicts.length = (FL b).length := by simp [builtOf]
  refine ⟨outs, houts, ?_, ?_⟩
  · rw [← hlen, hdl, toLSeg_fields_length mode, build_fields_eq]
  · intro i fo hfo
    obtain ⟨v, hv', hres⟩ := hget i fo hfo
    have hi : i < (FL b).length := hdl ▸ (List.getElem?_eq_some_iff.1 hv').1
    refine ⟨fieldDescOf (builtOf nc b) (FL b)[i] i, ?_, ?_, ?_⟩
    · rw [toLSeg_fields_getElem?, show (builtOf nc b).fields = FL b from rfl,
        List.getElem?_eq_getElem hi]; rfl
    · simp only [fieldDescOf, hv']
      exact (resolveField_terms (FL_nodup b) hres).2
    · simp only [fieldDescOf, hv']
      exact (resolveField_terms (FL_nodup b) hres).1

end

end Ice.Props.E2E
