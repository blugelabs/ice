import IceModel.Lemmas.E2EReadsAs
import IceModel.Props.C02Model
import IceModel.Props.C02Stored
import IceModel.Props.C16
import IceModel.Props.C05OneHit
import IceModel.Props.C04Total
/-
  END-TO-END, merger path: definitions.

    `MIn`                one input of a merge on the level the merge models take their inputs:
                         the abstract segment (from which the per-field dictionaries are derived by
                         the abstraction function `absDict` of `Lemmas/MergeLoopSpec.lean`), the
                         deletions, the stored documents (in the input's own field ids) and the
                         doc-value column of every field (terms per document)
    `mergedLSeg`         the laid-out description (`Format.LSeg`, `merger := true`) assembled from
                         the outputs of the merge models: `MergeRest.mergeFields`,
                         `MergeRest.computeNewDocCount`, `MergeLoop.mergeField` per field,
                         the documents `MergeRest.mergeStored` writes (`C02Stored.mergedDocs`),
                         the column `MergeRest.dvField` writes (`dvColFrom`)
    `TermRep`, `Lays`    "the description `L` lays out the abstract segment `S`"
    `AbsOK`              invariants of an abstract segment that `Spec.build` establishes and
                         `Spec.merge` preserves; `AbsRd`: the part of them that writing and
                         reading a description need
    `ReadsAsM`           `ReadsAs` of `Lemmas/E2EReadsAs.lean` with the 1-hit case
-/
namespace Ice.Props.E2EM
open Ice Ice.Spec Ice.Model Ice.Model.Format
open Ice.Model.MergeLoop (Cfg SegIn DictEntry MPosting MLoc mergeField absCfg absSegs absDict
  TermsNodupDocs)
open Ice.Model.MergeRest (mergeFields computeNewDocCount DocRel ClosedDoc IdFirstAsc Rel₂ DocAsc)
open Ice.Model.ChunkBytes (Entry BLoc)
open Ice.Model.DocValues (termsOf NoSep)
open Ice.Model.IterBytes (mkB runB)
open Ice.Model.Iter (RFlags)
open Ice.Props.E2E

/-- one input segment of a merge, as the merge models see it -/
structure MIn where
  /-- what the segment means; its dictionary of field `f` is `absDict abs f` -/
  abs : AbsSeg
  /-- `drops[i]` as a list (nil and empty bitmap alike) -/
  drops : List Nat
  /-- the stored documents its stored section was written from (its own field ids) -/
  docs : List Stored.Doc
  /-- per field name: the doc-value column its reader for that field reads (`none`: no reader) -/
  dvCol : Bytes → Option (List (Nat × List Bytes))

/-- the inputs of `Spec.merge` -/
def absIns (ins : List MIn) : List (AbsSeg × List Nat) := ins.map fun i => (i.abs, i.drops)

/-- the input as the stored part (`Props/C02Stored.lean`) takes it; `tail` = the bytes behind the
    stored section in the input's file -/
def MIn.sIn (i : MIn) (tail : Bytes := []) : C02Stored.Input :=
  { abs := i.abs, drops := i.drops, docs := i.docs, tail := tail }

/-- `setupActiveForField`: the segment has a dictionary for the field with at least one key -/
def MIn.inFocus (i : MIn) (f : Bytes) : Bool := !(terms i.abs f).isEmpty

/-- `fieldsInv` of the merge: `mergeFields` (merge.go:825-856) -/
def mFields (ins : List MIn) : List Bytes := (mergeFields (ins.map (·.abs.fields))).2

/-- `computeNewDocCount` (merge.go:174-183) -/
def mNumDocs (ins : List MIn) : Nat :=
  computeNewDocCount (ins.map fun i => (i.abs.docs.length, i.drops))

/-- the parameters of `persistMergedRestField` -/
def mCfg (mode : Nat) (ins : List MIn) : Cfg :=
  { fieldsInv := mFields ins, chunkMode := mode, newSegDocCount := mNumDocs ins }

def mlocToB (l : MLoc) : BLoc := { fieldID := l.fieldID, pos := l.pos, start := l.start, stop := l.stop }

/-- what `mergeTermFreqNormLocs` hands to the two int coders -/
def mpToE (p : MPosting) : Entry :=
  { doc := p.doc, freq := p.freq, norm := p.norm, locs := p.locs.map mlocToB }

/-- one `newVellum.Insert` of the merge loop as a term description: 1-hit when `finishTerm`
    decided so (`DictEntry.oneHit`, the decision of the closure `use1HitEncoding`), otherwise
    the entries fed to the coders -/
def termOf (e : DictEntry) : Bytes × TermDesc :=
  (e.term, match e.oneHit, e.entries with
    | some _, [p] => .oneHit p.doc p.norm
    | _, _ => .general (e.entries.map mpToE))

/-- a survivor's doc values under its new number -/
def gMapT (drops : List Nat) (start : Nat) (p : Nat × List Bytes) : Option (Nat × List Bytes) :=
  if drops.contains p.1 then none else some (start + liveCount drops p.1, p.2)

/-- what input `i` contributes to the merged column of field `f` (`buildMergedDocVals`,
    merge.go:386-412: only segments in focus that have a reader) -/
def MIn.dvPart (i : MIn) (f : Bytes) (start : Nat) : List (Nat × List Bytes) :=
  if i.inFocus f then
    match i.dvCol f with
    | none => []
    | some vals => vals.filterMap (gMapT i.drops start)
  else []

/-- the merged column of field `f`, numbering survivors from `start` -/
def dvColFrom (f : Bytes) : List MIn → Nat → List (Nat × List Bytes)
  | [], _ => []
  | i :: r, start => i.dvPart f start ++ dvColFrom f r (start + liveCount i.drops i.abs.docs.length)

/-- `fdvReadersAvailable` (merge.go:395) -/
def dvHas (ins : List MIn) (f : Bytes) : Bool := ins.any fun i => i.inFocus f && (i.dvCol f).isSome

def dvColM (ins : List MIn) (f : Bytes) : Option (List (Nat × List Bytes)) :=
  if dvHas ins f then some (dvColFrom f ins 0) else none

/-- the description of one field: the result of `MergeLoop.mergeField` for it (dictionary,
    `fieldDocs`, `fieldFreqs`) and the merged column.  The inputs of the loop are the abstraction
    `absSegs` of the input segments with the document-number maps `mergeStoredAndRemap` returned
    (`C02Stored.S_merged`: they are `(Spec.merge …).2`). -/
def fieldOf (mode : Nat) (ins : List MIn) (f : Bytes) : FieldDesc :=
  match mergeField (mCfg mode ins) (absSegs mode f (absIns ins)) with
  | .ok r => { name := f, fieldDocs := r.fieldDocs, fieldFreqs := r.fieldFreq,
               terms := r.dict.map termOf, dv := dvColM ins f }
  | .error _ => { name := f, fieldDocs := 0, fieldFreqs := 0, terms := [], dv := none }

/-- a field of a merge without surviving documents: `persistMergedRest` is not called
    (merge.go:137), `dictLocs` are zero, the statistics maps nil -/
def emptyField (f : Bytes) : FieldDesc :=
  { name := f, fieldDocs := 0, fieldFreqs := 0, terms := [], dv := none }

/-- the survivors' stored documents in merged field ids: what `mergeStoredAndRemap` writes
    (`C02Stored.S_merged`) -/
def mDocs (ins : List MIn) : List Stored.Doc := C02Stored.mergedDocs (ins.map (·.sIn))

/-- **what `mergeToWriter` lays out** (merge.go:111-160) -/
def mergedLSeg (mode : Nat) (ins : List MIn) : LSeg :=
  { merger := true, numDocs := mNumDocs ins, chunkMode := mode,
    fields := if mNumDocs ins = 0 then (mFields ins).map emptyField
              else (mFields ins).map (fieldOf mode ins),
    stored := mDocs ins }

/-- the term description `td` stands for the postings `ps` (field names of locations through `F`) -/
def TermRep (F : List Bytes) (td : TermDesc) (ps : List Posting) : Prop :=
  match td with
  | .general es => es = ps.map (postingToE F)
  | .oneHit d n => d < 2 ^ 31 ∧ ∃ p, ps = [p] ∧ p.doc = d ∧ p.norm = n ∧ p.freq = 1 ∧ p.locs = []

/-- `L` lays out `S`: same field list and statistics, per field the terms of the specification
    in order, each standing for its postings; document by document the stored values; the
    doc-value columns hold the specification's doc values -/
structure Lays (S : AbsSeg) (L : LSeg) : Prop where
  numDocs : L.numDocs = S.docs.length
  mode : L.chunkMode = S.chunkMode
  names : L.fields.map (·.name) = S.fields
  fieldDocs : L.fields.map (·.fieldDocs) = S.fieldDocs
  fieldFreqs : L.fields.map (·.fieldFreqs) = S.fieldFreqs
  terms : ∀ (i : Nat) (f : Bytes) (fd : FieldDesc), S.fields[i]? = some f → L.fields[i]? = some fd →
    fd.terms.map (·.1) = Spec.terms S f ∧
    ∀ (j : Nat) (t : Bytes) (td : TermDesc), fd.terms[j]? = some (t, td) →
      TermRep S.fields td (postings S f t)
  /-- only the merger 1-hit encodes -/
  oneHit : ∀ fd ∈ L.fields, ∀ t ∈ fd.terms, ∀ d n, t.2 = .oneHit d n → L.merger = true
  stored : Rel₂ (DocRel S.fields) L.stored S.docs
  storedAsc : ∀ d ∈ L.stored, DocAsc d
  storedIds : ∀ d ∈ L.stored, ∀ fv ∈ d, fv.1 < S.fields.length
  dv : ∀ (i : Nat) (f : Bytes) (fd : FieldDesc), S.fields[i]? = some f → L.fields[i]? = some fd →
    match fd.dv with
    | some vals => vals.Pairwise (fun a b => a.1 < b.1) ∧ (∀ q ∈ vals, q.1 < S.docs.length) ∧
        ∀ n, termsOf vals n = dvOf S n f
    | none => ∀ n, dvOf S n f = []
  /-- the builder's column lists only documents that have a term (`docTermMap`, new.go:839-841;
      the non-progressive writer would drop an empty entry) -/
  dvNonempty : L.merger = false → ∀ fd ∈ L.fields, ∀ vals, fd.dv = some vals → ∀ q ∈ vals, q.2 ≠ []
  /-- without documents neither writer writes doc values or statistics -/
  empty : L.numDocs = 0 → ∀ fd ∈ L.fields, fd.dv = none ∧ fd.fieldFreqs = 0

section
variable {S : AbsSeg} {L : LSeg} (hL : Lays S L)
include hL

theorem lays_fields_length : L.fields.length = S.fields.length := by
  rw [← hL.names, List.length_map]

theorem lays_stored_length : L.stored.length = S.docs.length := hL.stored.length_eq

theorem lays_field {i : Nat} {f : Bytes} (hf : S.fields[i]? = some f) :
    ∃ fd, L.fields[i]? = some fd ∧ fd.name = f := by
  rw [← hL.names, List.getElem?_map] at hf
  cases hfd : L.fields[i]? with
  | none => rw [hfd] at hf; cases hf
  | some fd => rw [hfd] at hf; exact ⟨fd, rfl, Option.some.inj hf⟩

theorem lays_field_mem {fd : FieldDesc} (h : fd ∈ L.fields) :
    ∃ i : Nat, S.fields[i]? = some fd.name ∧ L.fields[i]? = some fd := by
  obtain ⟨i, hi⟩ := List.getElem?_of_mem h
  refine ⟨i, ?_, hi⟩
  rw [← hL.names, List.getElem?_map, hi]; rfl

theorem lays_fieldDocs_mem {fd : FieldDesc} (h : fd ∈ L.fields) : fd.fieldDocs ∈ S.fieldDocs :=
  hL.fieldDocs ▸ List.mem_map.2 ⟨fd, h, rfl⟩

theorem lays_fieldFreqs_mem {fd : FieldDesc} (h : fd ∈ L.fields) : fd.fieldFreqs ∈ S.fieldFreqs :=
  hL.fieldFreqs ▸ List.mem_map.2 ⟨fd, h, rfl⟩

theorem lays_no_docs (h0 : L.numDocs = 0) : S.docs = [] :=
  List.eq_nil_of_length_eq_zero (hL.numDocs ▸ h0)

theorem lays_numDocs_pos (hb : S.docs ≠ []) : 0 < L.numDocs :=
  hL.numDocs ▸ List.length_pos_iff.mpr hb

end

/-- invariants of abstract segments: established by `Spec.build` (for a valid batch inside the
    bounds), preserved by `Spec.merge` (numeric bounds of the result permitting).
    * `fields`    `_id`, then the other names ascending (`fieldList`)
    * `names`     every field of every document is listed by its segment (hence a document stores
                  values only under listed names: `AbsOK.closed`)
    * `nodup`     a document has no term twice in a field (documents are rolled up)
    * `locs`      the field of every location is a field of the segment (`fieldsMap[…]-1` at
                  merge.go:591, 605 would wrap to 65535 otherwise)
    * `norm31`    norm bits are those of a non-negative float32: bit 31 is clear
                  (`fSTValEncode1Hit` keeps 31 bits of the norm)
    * `fieldDocs` a field occurs in at most as many documents as there are
    * `bounds`    `SpecBounds` of `Lemmas/E2EDefs.lean` -/
structure AbsOK (S : AbsSeg) : Prop where
  fields : IdFirstAsc S.fields
  nfields : S.fields.length < 65535
  names : ∀ d ∈ S.docs, ∀ af ∈ d, af.name ∈ S.fields
  nodup : ∀ f, TermsNodupDocs S.docs f
  locs : ∀ d ∈ S.docs, ∀ af ∈ d, ∀ x ∈ af.terms, ∀ l ∈ x.locs, l.field ∈ S.fields
  norm31 : ∀ d ∈ S.docs, ∀ af ∈ d, af.norm < 2 ^ 31
  fieldDocs : ∀ x ∈ S.fieldDocs, x ≤ S.docs.length
  bounds : SpecBounds S

/-- the part of `AbsOK` that writing and reading a description of `S` need (`norm31` only where
    the description may 1-hit encode); `Spec.build` has it for every valid batch inside `Bounds`,
    without the two extra hypotheses of `absOK_build` -/
structure AbsRd (merger : Bool) (S : AbsSeg) : Prop where
  idFirst : S.fields.head? = some idField
  nfields : S.fields.length ≤ 65535
  locs : ∀ d ∈ S.docs, ∀ af ∈ d, ∀ x ∈ af.terms, ∀ l ∈ x.locs, l.field ∈ S.fields
  norm31 : merger = true → ∀ d ∈ S.docs, ∀ af ∈ d, af.norm < 2 ^ 31
  fieldDocs : ∀ x ∈ S.fieldDocs, x ≤ S.docs.length
  bounds : SpecBounds S

theorem AbsOK.rd {S : AbsSeg} (h : AbsOK S) (merger : Bool) : AbsRd merger S := by
  obtain ⟨r, hr, _, _⟩ := h.fields
  exact ⟨by rw [hr]; rfl, Nat.le_of_lt h.nfields, h.locs, fun _ => h.norm31, h.fieldDocs, h.bounds⟩

theorem AbsOK.closed {S : AbsSeg} (h : AbsOK S) : ∀ a ∈ S.docs, ClosedDoc S.fields a :=
  fun a ha => C02Stored.closed_of_names S.fields a (h.names a ha)

theorem AbsRd.posting_locs {m : Bool} {S : AbsSeg} (h : AbsRd m S) {f t : Bytes} {p : Posting}
    (hp : p ∈ postings S f t) : ∀ l ∈ p.locs, l.field ∈ S.fields := by
  obtain ⟨n, d, af, x, hd, hf, hx, rfl⟩ := mem_postings_field hp
  exact h.locs d (List.mem_of_getElem? hd) af (field?_mem hf).1 x (List.mem_of_find?_eq_some hx)

theorem AbsRd.posting_norm31 {S : AbsSeg} (h : AbsRd true S) {f t : Bytes} {p : Posting}
    (hp : p ∈ postings S f t) : p.norm < 2 ^ 31 := by
  obtain ⟨n, d, af, x, hd, hf, hx, rfl⟩ := mem_postings_field hp
  exact h.norm31 rfl d (List.mem_of_getElem? hd) af (field?_mem hf).1

/-- the answers of an iterator seen through the flags the caller asked for -/
def viewRun (fl : Flags) (l : List (Option (Option Posting))) : List (Option (Option Posting)) :=
  l.map fun r => r.map fun o => o.map (view fl)

/-- `ReadsAs` of `Lemmas/E2EReadsAs.lean`, where a term may also be 1-hit encoded: then
    `PostingsList.read` decodes document and norm from the FST value and the iterator is the
    1-hit path of `PostingsIterator` (`Model/Iter1Hit.lean`) -/
structure ReadsAsM (K : Codecs) (S : AbsSeg) (ld : Loaded) : Prop where
  fields : ld.fieldsInv = S.fields ∧ ld.fieldDocs = S.fieldDocs ∧ ld.fieldFreqs = S.fieldFreqs ∧
    ld.footer.numDocs = numDocs S ∧ ld.footer.chunkMode = S.chunkMode
  stats : ∀ f, loadedStats ld f = stats S f
  dict : ∀ (i : Nat) (f : Bytes), S.fields[i]? = some f →
    ∃ o, dictionaryOf K ld i = .ok o ∧ dictKeys o = terms S f ∧ (S.docs ≠ [] → o.isSome)
  dictNone : ∀ i : Nat, S.fields[i]? = none → dictionaryOf K ld i = .ok none
  iter : ∀ (i : Nat) (f : Bytes), S.fields[i]? = some f →
    ∀ (j : Nat) (t : Bytes), (terms S f)[j]? = some t →
    ∃ fst v, dictionaryOf K ld i = .ok (some fst) ∧ fst[j]? = some (t, v) ∧
      ((∃ fo lo cs, readPostings K ld v = .ok (.general fo lo ((postings S f t).map (·.doc)) cs) ∧
        ∀ (ex : Option (List Nat)) (fl : Flags) (ops : List IterOp),
          ∃ i0, mkB (plbOf ld fo lo cs ((postings S f t).map (·.doc)) ex) (RFlags.of fl) = .ok i0 ∧
            (runB K.chunk i0 ops).map (C05Bytes.viewRes fl) =
              (iterRun fl (live (postings S f t) ex) ops).map .ok) ∨
       (∃ d n, readPostings K ld v = .ok (.oneHit d n) ∧ postings S f t = [Iter1Hit.posting d n] ∧
        ∀ (ex : Option (List Nat)) (fl : Flags) (ops : List IterOp),
          viewRun fl (Iter1Hit.run (Iter1Hit.mk d n ex (RFlags.of fl)) ops) =
            (iterRun fl (live (postings S f t) ex) ops).map some))
  stored : ∀ (n : Nat) (buf : Stored.Buf) (stop : Option Nat),
    ∃ vs buf', Stored.visit K.stored ld.storedSeg buf n stop = .ok (vs, buf') ∧
      vs.map (fun p => (ld.fieldsInv.getD p.1 [], p.2)) = Stored.takeStop stop (stored S n)
  dv : ∀ (i : Nat) (f : Bytes), S.fields[i]? = some f →
    ∃ ro, ld.dvReaders[i]? = some ro ∧
      match ro with
      | none => ∀ n, dvOf S n f = []
      | some r0 => ∀ ds : List Nat, (∀ d ∈ ds, d < S.docs.length) →
          ∃ r', DocValues.Reader.visitAll K.dv ld.data dvChunk r0 ds =
            .ok (ds.map (fun n => dvOf S n f), r')

/-- a segment without 1-hit terms that `ReadsAs` also `ReadsAsM` -/
theorem ReadsAs.toM {K : Codecs} {S : AbsSeg} {ld : Loaded} (h : ReadsAs K S ld) :
    ReadsAsM K S ld :=
  { fields := h.fields, stats := h.stats, dict := h.dict, dictNone := h.dictNone,
    iter := fun i f hf j t ht => by
      obtain ⟨fst, v, fo, lo, cs, h1, h2, h3, h4⟩ := h.iter i f hf j t ht
      exact ⟨fst, v, h1, h2, .inl ⟨fo, lo, cs, h3, h4⟩⟩
    stored := h.stored, dv := h.dv }

/-- the doc-value column of field `f` of input `i`: document numbers ascending and inside the
    segment, no term contains the separator, and it holds the doc values of the abstract segment;
    an input without reader for the field has no doc values in it -/
structure DvColOK (f : Bytes) (i : MIn) : Prop where
  valid : ∀ vals, i.dvCol f = some vals →
    vals.Pairwise (fun a b => a.1 < b.1) ∧ (∀ q ∈ vals, q.1 < i.abs.docs.length) ∧
    ∀ q ∈ vals, NoSep q.2
  rel : match i.dvCol f with
    | some vals => ∀ d, termsOf vals d = dvOf i.abs d f
    | none => ∀ d, dvOf i.abs d f = []

/-- the contract of one input: the abstract segment is well formed, the stored part is inside
    the contract of `C02Stored.S_merged` (both paths), the doc-value columns are those of the
    abstract segment -/
structure MInOK (K : Codecs) (i : MIn) : Prop where
  abs : AbsOK i.abs
  stored : C02Stored.InputOK K.stored docBlock i.sIn
  copy : C02Stored.InputCopyOK i.sIn
  dv : ∀ f, DvColOK f i

/-- numeric bounds of the RESULT of a merge (Go-level reasons as for `Bounds`/`SpecBounds`):
    fewer than 2^32 merged documents (`uint32` document numbers in roaring), the merged field
    list has fewer than 65535 entries (`uint16` ids, `fieldsMap[name] = id + 1`), the total of
    the inputs' document counts is a `uint64`, the per-field frequency totals are `uint64`
    counters that the model does not wrap -/
structure MBounds (mode : Nat) (ins : List MIn) : Prop where
  hmode : 1 ≤ mode ∧ mode ≤ 1025
  numDocs : numDocs (merge mode (absIns ins)).1 < 2 ^ 32
  total : (ins.map fun i => i.abs.docs.length).sum < 2 ^ 64
  nfields : (mFields ins).length < 65535
  freqs : ∀ x ∈ (merge mode (absIns ins)).1.fieldFreqs, x < 2 ^ 64

end Ice.Props.E2EM
