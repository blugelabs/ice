import IceModel.Lemmas.MergeLoopGroups
import IceModel.Lemmas.Merge
import IceModel.Lemmas.Build
/-
  Link between the merge loop of one field and `Spec.merge`: the abstraction of `AbsSeg`s to the
  loop's inputs, and the postings of a term in the merged segment, segment by segment.
-/
namespace Ice.Model.MergeLoop
open Ice Ice.Spec

theorem postings_survivors (s : AbsSeg) (d : List Nat) (start : Nat) (f t : Bytes) :
    ((survivors s d).zipIdx start).filterMap (fun q => postingOf q.1 q.2 f t) =
      ((postings s f t).filter (fun p => !d.contains p.doc)).map
        (fun p => { p with doc := start + liveCount d p.doc }) := by
  have h := zipIdx_keepP d start s.docs 0
  rw [show start + liveCount d 0 = start from rfl] at h
  rw [survivors_eq, h, List.filterMap_map, List.filterMap_filter, postings, List.filter_filterMap,
    List.map_filterMap]
  refine congrArg (fun g => s.docs.zipIdx.filterMap g) (funext fun q => ?_)
  have hq := postingOf_renumber q.1 q.2 (start + liveCount d q.2) f t
  simp only [Function.comp_def, hq]
  cases hpo : postingOf q.1 q.2 f t with
  | none => cases !d.contains q.2 <;> rfl
  | some x =>
    have hx := postingOf_doc hpo
    rw [Option.filter, hx]
    cases !d.contains q.2
    · rfl
    · simp only [if_true, Option.map_some, hx]

/-- the dictionary of field `f` of an abstract segment: its terms in ascending order, each with
    its postings -/
def absDict (s : AbsSeg) (f : Bytes) : List (Bytes × List Posting) :=
  (terms s f).map (fun t => (t, postings s f t))

/-- one input of the merge loop: the segment, its deletions, its old→new number map.
    (`dict := none`, a segment not knowing the field, behaves like the empty dictionary: both
    are left out by `setupActive`.) -/
def absSegIn (f : Bytes) (s : AbsSeg) (drops : List Nat) (nd : List (Option Nat)) : SegIn :=
  { dict := some (absDict s f), drops := some drops, newDocNums := nd }

/-- the inputs of the merge loop for `Spec.merge mode ins` -/
def absSegs (mode : Nat) (f : Bytes) (ins : List (AbsSeg × List Nat)) : List SegIn :=
  (ins.zip (merge mode ins).2).map (fun q => absSegIn f q.1.1 q.1.2 q.2)

def absCfg (mode : Nat) (ins : List (AbsSeg × List Nat)) : Cfg :=
  { fieldsInv := (merge mode ins).1.fields, chunkMode := mode,
    newSegDocCount := numDocs (merge mode ins).1 }

def normDrops (d : List Nat) : Option (List Nat) :=
  match d with
  | x :: r => some (x :: r)
  | [] => none

theorem dropped_normDrops (d : List Nat) (x : Nat) : dropped (normDrops d) x = d.contains x := by
  cases d <;> rfl

/-- the active segments, with the number maps in closed form -/
def activeFrom (f : Bytes) : List (AbsSeg × List Nat) → Nat → List Active
  | [], _ => []
  | (s, d) :: r, start =>
    (if (terms s f).isEmpty then []
     else [{ dict := absDict s f, drops := normDrops d,
             newDocNums := remapList s.docs.length d start }]) ++
    activeFrom f r (start + liveCount d s.docs.length)

theorem setupActive_cons (x : SegIn) (r : List SegIn) :
    setupActive (x :: r) = setupActive [x] ++ setupActive r :=
  List.filterMap_append (l := [x])

theorem setupActive_one (f : Bytes) (s : AbsSeg) (d : List Nat) (nd : List (Option Nat)) :
    setupActive [absSegIn f s d nd] =
      if (terms s f).isEmpty then []
      else [{ dict := absDict s f, drops := normDrops d, newDocNums := nd }] := by
  simp only [setupActive, List.filterMap_cons, List.filterMap_nil, absSegIn, absDict,
    List.isEmpty_map]
  by_cases he : (terms s f).isEmpty = true
  · simp [he]
  · simp only [he, Bool.false_eq_true, if_false]
    cases d <;> rfl

theorem setupActive_abs (f : Bytes) : ∀ (ins : List (AbsSeg × List Nat)) (start : Nat),
    setupActive ((ins.zip (remapAll (ins.map (fun p => (p.1.docs.length, p.2))) start)).map
      (fun q => absSegIn f q.1.1 q.1.2 q.2)) = activeFrom f ins start := by
  intro ins
  induction ins with
  | nil => intro start; rfl
  | cons p r ih =>
    intro start
    obtain ⟨s, d⟩ := p
    simp only [List.map_cons, remapAll_cons, List.zip_cons_cons, activeFrom]
    rw [setupActive_cons, ih (start + liveCount d s.docs.length), setupActive_one]

theorem setupActive_absSegs (mode : Nat) (f : Bytes) (ins : List (AbsSeg × List Nat)) :
    setupActive (absSegs mode f ins) = activeFrom f ins 0 := by
  unfold absSegs
  rw [merge_maps]
  exact setupActive_abs f ins 0

/-- the postings of `k` the loop writes, with the field of a location still as a name -/
def termPostings (active : List Active) (k : Bytes) : List Posting :=
  active.flatMap (fun s =>
    match lookupK k s.dict with
    | some ps => (iterSurvivors s.drops ps).map (fun p => { p with doc := newDocOf s.newDocNums p.doc })
    | none => [])

theorem termPostings_eq (active : List Active) (k : Bytes) :
    termPostings active k =
      (allItems (segsOf active k)).map (fun np => { np.2 with doc := np.1 }) := by
  rw [map_allItems_segsOf]; rfl

theorem allItems_docs (active : List Active) (k : Bytes) :
    (allItems (segsOf active k)).map (fun np => np.1) = (termPostings active k).map (·.doc) := by
  rw [termPostings_eq, List.map_map]; rfl

theorem allItems_freqs (active : List Active) (k : Bytes) :
    (allItems (segsOf active k)).map (fun np => np.2.freq) =
      (termPostings active k).map (·.freq) := by
  rw [termPostings_eq, List.map_map]; rfl

theorem lookupK_absDict (s : AbsSeg) (f t : Bytes) :
    lookupK t (absDict s f) = if t ∈ terms s f then some (postings s f t) else none := by
  unfold absDict
  generalize terms s f = ts
  induction ts with
  | nil => rfl
  | cons a r ih =>
    simp only [List.map_cons, lookupK, ih, List.mem_cons]
    by_cases h : a = t
    · subst h; simp
    · have : ¬ t = a := fun e => h e.symm
      simp [h, this]

theorem newDocOf_remapList (n : Nat) (d : List Nat) (start x : Nat) (hx : x < n)
    (hd : d.contains x = false) : newDocOf (remapList n d start) x = start + liveCount d x := by
  have : x ∉ d := by simpa using hd
  simp [newDocOf, getElem?_remapList, hx, this]

/-- what the loop writes for term `t` is what the specification says the merged segment
    holds for `t` -/
theorem termPostings_spec (f t : Bytes) : ∀ (ins : List (AbsSeg × List Nat)) (start : Nat),
    termPostings (activeFrom f ins start) t =
      ((ins.flatMap (fun p => survivors p.1 p.2)).zipIdx start).filterMap
        (fun q => postingOf q.1 q.2 f t) := by
  intro ins
  induction ins with
  | nil => intro start; rfl
  | cons p r ih =>
    intro start
    obtain ⟨s, d⟩ := p
    simp only [List.flatMap_cons, List.zipIdx_append, List.filterMap_append, length_survivors,
      postings_survivors, activeFrom]
    rw [← ih (start + liveCount d s.docs.length)]
    simp only [termPostings, List.flatMap_append]
    congr 1
    have hnil : t ∉ terms s f → postings s f t = [] := by
      intro h
      by_cases hp : postings s f t = []
      · exact hp
      · exact absurd ((mem_terms_iff s f t).2 hp) h
    by_cases he : (terms s f).isEmpty = true
    · have : t ∉ terms s f := by
        rw [List.isEmpty_iff.1 he]; simp
      simp [he, hnil this]
    · simp only [he, Bool.false_eq_true, if_false, List.flatMap_cons, List.flatMap_nil,
        List.append_nil, lookupK_absDict]
      by_cases ht : t ∈ terms s f
      · simp only [ht, if_true, iterSurvivors, dropped_normDrops]
        apply List.map_congr_left
        intro p hp
        have hp' := List.mem_filter.1 hp
        rw [newDocOf_remapList _ _ _ _ (postings_doc_lt s f t p hp'.1) (by simpa using hp'.2)]
      · simp [ht, hnil ht]

theorem termPostings_merge (mode : Nat) (f t : Bytes) (ins : List (AbsSeg × List Nat)) :
    termPostings (activeFrom f ins 0) t = postings (merge mode ins).1 f t := by
  rw [termPostings_spec]; rfl

theorem mem_mergedTerms_of_postings (active : List Active) (t : Bytes)
    (h : termPostings active t ≠ []) : t ∈ mergedTerms active := by
  obtain ⟨p, hp⟩ := List.exists_mem_of_ne_nil _ h
  simp only [termPostings, List.mem_flatMap] at hp
  obtain ⟨s, hs, hps⟩ := hp
  simp only [mergedTerms, mem_sortDedup, List.mem_flatMap, List.mem_map]
  cases hl : lookupK t s.dict with
  | none => simp [hl] at hps
  | some ps => exact ⟨s, hs, (t, ps), lookupK_mem hl, rfl⟩

/-- the terms the loop inserts are the terms of the merged segment -/
theorem mergedTerms_spec (mode : Nat) (f : Bytes) (ins : List (AbsSeg × List Nat)) :
    (mergedTerms (activeFrom f ins 0)).filter
        (fun t => !(termPostings (activeFrom f ins 0) t).isEmpty) =
      terms (merge mode ins).1 f := by
  apply asc_ext
  · exact List.Pairwise.filter _ (asc_sortDedup _)
  · exact asc_sortDedup _
  · intro t
    rw [List.mem_filter, mem_terms_iff, ← termPostings_merge mode f t ins]
    constructor
    · rintro ⟨_, h⟩
      intro e; rw [e] at h; simp at h
    · intro h
      refine ⟨mem_mergedTerms_of_postings _ t h, ?_⟩
      cases hh : termPostings (activeFrom f ins 0) t with
      | nil => exact absurd hh h
      | cons a r => rfl

theorem mem_activeFrom (f : Bytes) : ∀ (ins : List (AbsSeg × List Nat)) (start : Nat) (a : Active),
    a ∈ activeFrom f ins start → ∃ s d st, a.dict = absDict s f ∧
      a.drops = normDrops d ∧ a.newDocNums = remapList s.docs.length d st := by
  intro ins
  induction ins with
  | nil => intro start a h; cases h
  | cons p r ih =>
    intro start a h
    obtain ⟨s, d⟩ := p
    simp only [activeFrom, List.mem_append] at h
    rcases h with h | h
    · split at h
      · cases h
      · simp only [List.mem_singleton] at h
        subst h
        exact ⟨s, d, start, rfl, rfl, rfl⟩
    · exact ih _ a h

theorem termCard_eq (active : List Active) (k : Bytes) :
    termCard active k = (termPostings active k).length := by
  rw [termPostings_eq, List.length_map, allItems, List.length_flatMap, termCard]
  congr 1
  exact List.map_congr_left (fun q _ => (List.length_map _).symm)

theorem wfActive_abs (mode : Nat) (f : Bytes) (ins : List (AbsSeg × List Nat))
    (hmode : 1 ≤ mode ∧ mode ≤ 1025) (hdocs : 1 ≤ numDocs (merge mode ins).1) :
    WFActive (absCfg mode ins) (activeFrom f ins 0) := by
  constructor
  · intro a ha
    obtain ⟨s, d, st, h1, _, _⟩ := mem_activeFrom f ins 0 a ha
    rw [h1]
    simp only [absDict, List.map_map, Function.comp_def, List.map_id']
    exact asc_sortDedup _
  · intro a ha e he p hp hdrop
    obtain ⟨s, d, st, h1, h2, h3⟩ := mem_activeFrom f ins 0 a ha
    rw [h1] at he
    simp only [absDict, List.mem_map] at he
    obtain ⟨t, _, rfl⟩ := he
    rw [h2, dropped_normDrops] at hdrop
    have hlt := postings_doc_lt s f t p hp
    have : p.doc ∉ d := by simpa using hdrop
    rw [h3, getElem?_remapList]
    simp [hlt, this]
  · exact hmode
  · exact hdocs
  · intro k
    rw [termCard_eq, termPostings_merge mode]
    show (postings (merge mode ins).1 f k).length ≤ (merge mode ins).1.docs.length
    unfold postings
    have := List.length_filterMap_le (fun q : ADoc × Nat => postingOf q.1 q.2 f k)
      (merge mode ins).1.docs.zipIdx
    simpa using this

theorem wfActive_absSegs (mode : Nat) (f : Bytes) (ins : List (AbsSeg × List Nat))
    (hmode : 1 ≤ mode ∧ mode ≤ 1025) (hdocs : 1 ≤ numDocs (merge mode ins).1) :
    WFActive (absCfg mode ins) (setupActive (absSegs mode f ins)) := by
  rw [setupActive_absSegs]; exact wfActive_abs mode f ins hmode hdocs

theorem mergeField_abs (mode : Nat) (f : Bytes) (ins : List (AbsSeg × List Nat))
    (hmode : 1 ≤ mode ∧ mode ≤ 1025) (hdocs : 1 ≤ numDocs (merge mode ins).1) :
    mergeField (absCfg mode ins) (absSegs mode f ins) =
      .ok (mergedResult (absCfg mode ins) (activeFrom f ins 0)) := by
  rw [mergeField_closed _ rfl _ (wfActive_absSegs mode f ins hmode hdocs), setupActive_absSegs]

theorem idxOf?_spec (l : List Bytes) (a : Bytes) (h : a ∈ l) :
    ∃ i, l.idxOf? a = some i ∧ l[i]? = some a ∧ i < l.length := by
  obtain ⟨i, hi⟩ := Option.isSome_iff_exists.1 (List.isSome_idxOf?.2 h)
  obtain ⟨hlt, hget, _⟩ := List.idxOf?_eq_some_iff.1 hi
  exact ⟨i, hi, by rw [List.getElem?_eq_getElem hlt, hget], hlt⟩

theorem read_encLoc (fi : List Bytes) (hlen : fi.length ≤ 65536) (l : Loc) (h : l.field ∈ fi) :
    MLoc.read fi (encLoc fi l) = some l := by
  obtain ⟨i, h1, h2, h3⟩ := idxOf?_spec fi l.field h
  have : i % 65536 = i := Nat.mod_eq_of_lt (Nat.lt_of_lt_of_le h3 hlen)
  simp [MLoc.read, encLoc, fieldIdOf, h1, this, h2]

theorem readLocs_enc (fi : List Bytes) (hlen : fi.length ≤ 65536) (ls : List Loc)
    (h : ∀ l ∈ ls, l.field ∈ fi) : readLocs fi (ls.map (encLoc fi)) = some ls := by
  induction ls with
  | nil => rfl
  | cons l r ih =>
    simp only [List.map_cons, readLocs, read_encLoc fi hlen l (h l (by simp)),
      ih (fun x hx => h x (by simp [hx]))]

theorem read_encPosting (fi : List Bytes) (hlen : fi.length ≤ 65536) (p : Posting)
    (h : ∀ l ∈ p.locs, l.field ∈ fi) : (encPosting fi p.doc p).read fi = some p := by
  simp [MPosting.read, encPosting, readLocs_enc fi hlen p.locs h]

end Ice.Model.MergeLoop
