import IceModel.Model.MergeRest
import IceModel.Lemmas.MergeRestRemap
import IceModel.Lemmas.MergeRestFields
import IceModel.Props.C06
/-
  The re-encode path of `mergeStoredAndRemap` (`mergeStoredAndRemapSegment`, merge.go:708-763) on
  a source segment written by the stored writer: every surviving document is visited
  (`C06_visit`), its values are regrouped by merged field id, and the destination coder receives
  exactly what `Stored.writeDocs` feeds it for the regrouped documents.
-/
namespace Ice.Model.MergeRest
open Ice Ice.Model Ice.Model.Stored

theorem getElem?_map_range {α : Type} (f : Nat → α) (n i : Nat) :
    ((List.range n).map f)[i]? = if i < n then some (f i) else none := by
  rw [List.getElem?_map]
  by_cases h : i < n
  · rw [List.getElem?_range h, if_pos h]; rfl
  · rw [List.getElem?_eq_none (by simpa using h), if_neg h]; rfl

theorem set_map_range {α : Type} (f : Nat → α) (n i : Nat) (x : α) :
    ((List.range n).map f).set i x = (List.range n).map (fun m => if m = i then x else f m) := by
  apply List.ext_getElem?
  intro j
  rw [List.getElem?_set, getElem?_map_range, getElem?_map_range]
  simp only [List.length_map, List.length_range]
  by_cases hij : i = j
  · subst hij
    by_cases hi : i < n <;> simp [hi]
  · have : ¬ j = i := fun e => hij e.symm
    simp [hij, this]

theorem eq_map_range_getD {α : Type} (l : List α) (a : α) :
    l = (List.range l.length).map (fun m => l.getD m a) := by
  apply List.ext_getElem?
  intro i
  rw [getElem?_map_range]
  by_cases h : i < l.length
  · rw [if_pos h, ← List.getElem_eq_getD (h := h), List.getElem?_eq_getElem h]
  · rw [if_neg h, List.getElem?_eq_none (by omega)]

theorem zipIdx_map_range {α : Type} (f : Nat → α) (n : Nat) :
    ((List.range n).map f).zipIdx = (List.range n).map (fun m => (f m, m)) := by
  apply List.ext_getElem?
  intro i
  rw [List.getElem?_zipIdx, getElem?_map_range, getElem?_map_range]
  by_cases h : i < n <;> simp [h]

/-- merged field id of a source field id: `int(fieldsMap[s.fieldsInv[field]]) - 1` -/
def toMerged (srcFields : List Bytes) (fm : Builder.AMap Bytes Nat) (fid : Nat) : Nat :=
  fieldsMapGet fm (srcFields.getD fid []) - 1

/-- `vals` after the visit: per merged field id the delivered values of that field, in order -/
def regroup (toM : Nat → Nat) (nM : Nat) (dl : List (Nat × Bytes)) : List (List Bytes) :=
  (List.range nM).map fun m => (dl.filter fun p => toM p.1 == m).map (·.2)

/-- the document as the merge re-encodes it -/
def reDoc (toM : Nat → Nat) (nM : Nat) (d : Doc) : Doc := groupsOf (regroup toM nM (flat d))

/-- every field of the source is known to the merged map and lies inside the merged list -/
def FieldsMapped (srcFields : List Bytes) (fm : Builder.AMap Bytes Nat) (nM : Nat) : Prop :=
  ∀ i, i < srcFields.length → fieldsMapGet fm (srcFields.getD i []) ≠ 0 ∧
    fieldsMapGet fm (srcFields.getD i []) - 1 < nM

theorem collectVals_fn (srcFields : List Bytes) (fm : Builder.AMap Bytes Nat) (nM : Nat)
    (hmap : FieldsMapped srcFields fm nM) :
    ∀ (dl : List (Nat × Bytes)) (g : Nat → List Bytes), (∀ p ∈ dl, p.1 < srcFields.length) →
    collectVals srcFields fm dl ((List.range nM).map g) =
      .ok ((List.range nM).map fun m =>
        g m ++ (dl.filter fun p => toMerged srcFields fm p.1 == m).map (·.2)) := by
  intro dl
  induction dl with
  | nil => intro g _; simp [collectVals]
  | cons p r ih =>
    intro g hlt
    obtain ⟨fid, v⟩ := p
    have h1 : fid < srcFields.length := hlt (fid, v) (by simp)
    obtain ⟨h2, h3⟩ := hmap fid h1
    have hr : ∀ q ∈ r, q.1 < srcFields.length := fun q hq => hlt q (by simp [hq])
    have hname : srcFields[fid]? = some (srcFields.getD fid []) :=
      Builder.getElem?_eq_some_getD h1 []
    rw [collectVals, hname]
    simp only [h2, if_false, List.length_map, List.length_range, h3, if_true]
    rw [set_map_range, ih _ hr]
    congr 1
    apply List.map_congr_left
    intro m hm'
    have hmn : m < nM := List.mem_range.1 hm'
    have hgd : ((List.range nM).map g).getD (fieldsMapGet fm (srcFields.getD fid []) - 1) [] =
        g (fieldsMapGet fm (srcFields.getD fid []) - 1) := by
      rw [List.getD_eq_getElem?_getD, getElem?_map_range, if_pos h3]; rfl
    rw [hgd, List.filter_cons]
    by_cases he : m = fieldsMapGet fm (srcFields.getD fid []) - 1
    · have hb : (toMerged srcFields fm (fid, v).1 == m) = true := by
        rw [beq_iff_eq]; exact he.symm
      rw [if_pos hb, if_pos he]
      subst he
      simp
    · have hb : ¬ (toMerged srcFields fm (fid, v).1 == m) = true := by
        rw [beq_iff_eq]; exact fun e => he e.symm
      rw [if_neg hb, if_neg he]

theorem collectVals_ok (srcFields : List Bytes) (fm : Builder.AMap Bytes Nat) (nM : Nat)
    (dl : List (Nat × Bytes)) (hmap : FieldsMapped srcFields fm nM)
    (hlt : ∀ p ∈ dl, p.1 < srcFields.length) :
    collectVals srcFields fm dl (List.replicate nM []) =
      .ok (regroup (toMerged srcFields fm) nM dl) := by
  have h0 : List.replicate nM ([] : List Bytes) = (List.range nM).map (fun _ => []) := by
    rw [List.map_const', List.length_range]
  rw [h0, collectVals_fn srcFields fm nM hmap dl _ hlt]
  simp [regroup]

theorem reDoc_eq (toM : Nat → Nat) (nM : Nat) (d : Doc) :
    reDoc toM nM d =
      (List.range nM).map fun m => (m, ((flat d).filter fun p => toM p.1 == m).map (·.2)) := by
  simp only [reDoc, groupsOf, regroup, zipIdx_map_range, List.map_map, Function.comp_def]

theorem flat_reDoc (toM : Nat → Nat) (nM : Nat) (d : Doc) :
    flat (reDoc toM nM d) =
      (List.range nM).flatMap fun m =>
        ((flat d).filter fun p => toM p.1 == m).map fun p => (m, p.2) := by
  simp only [reDoc_eq, flat, List.map_map, List.flatMap_map, Function.comp_def]

theorem encodeDoc_congr {a b : Doc} (h : flat a = flat b) (e : Enc) :
    encodeDoc a e = encodeDoc b e := by
  rw [encodeDoc_eq, encodeDoc_eq, h]

theorem writeDocs_congr (cd : Codec) : ∀ (a b : List Doc), a.map flat = b.map flat →
    ∀ (c : Coder) (dso : List Nat), writeDocs cd a c dso = writeDocs cd b c dso := by
  intro a
  induction a with
  | nil =>
    intro b h c dso
    cases b with
    | nil => rfl
    | cons _ _ => simp at h
  | cons x a ih =>
    intro b h c dso
    cases b with
    | nil => simp at h
    | cons y b =>
      simp only [List.map_cons, List.cons.injEq] at h
      simp only [writeDocs, encodeDoc_congr h.1]
      exact ih b h.2 _ _

theorem writeDocs_snoc (cd : Codec) (docs : List Doc) (d : Doc) (c : Coder) (dso : List Nat) :
    writeDocs cd (docs ++ [d]) c dso =
      ((writeDocs cd docs c dso).1.add cd (encodeDoc d {}).mta (encodeDoc d {}).data,
       (writeDocs cd docs c dso).2 ++ [(writeDocs cd docs c dso).1.buf.length]) := by
  rw [writeDocs_append]; rfl

theorem writeDocs_snd_getElem? (cd : Codec) (c0 : Coder) (L : List Doc) (j : Nat)
    (hj : j < L.length) :
    (writeDocs cd L c0 []).2[j]? = some (writeDocs cd (L.take j) c0 []).1.buf.length := by
  have hl : (writeDocs cd (L.take j) c0 []).2.length = j := by
    rw [writeDocs_dso_length, List.length_take, List.length_nil, Nat.zero_add]
    exact Nat.min_eq_left (Nat.le_of_lt hj)
  conv => lhs; rw [← List.take_append_drop j L, List.drop_eq_getElem_cons hj, writeDocs_append, writeDocs]
  obtain ⟨z, hz⟩ := writeDocs_dso_ext cd (L.drop (j + 1))
    ((writeDocs cd (L.take j) c0 []).1.add cd (encodeDoc L[j] {}).mta (encodeDoc L[j] {}).data)
    ((writeDocs cd (L.take j) c0 []).2 ++ [(writeDocs cd (L.take j) c0 []).1.buf.length])
  rw [hz, List.append_assoc, List.getElem?_append_right (Nat.le_of_eq hl), hl, Nat.sub_self]
  rfl

/-- the merge state holds what `writeDocs` holds after writing the documents `D` from `(c0, [])`;
    the still unset tail of `docNumOffsets` is zero -/
structure Tracks (cd : Codec) (c0 : Coder) (total : Nat) (st : MS) (D : List Doc) : Prop where
  coder : st.coder = (writeDocs cd D c0 []).1
  num : st.newDocNum = D.length
  dno : st.dno = (writeDocs cd D c0 []).2 ++ List.replicate (total - D.length) 0

theorem set_dso_replicate (dso : List Nat) (n k x : Nat) (hn : dso.length = n) (hk : 0 < k) :
    (dso ++ List.replicate k 0).set n x = (dso ++ [x]) ++ List.replicate (k - 1) 0 := by
  subst hn
  rw [List.set_append, if_neg (by omega), Nat.sub_self]
  obtain ⟨j, rfl⟩ : ∃ j, k = j + 1 := ⟨k - 1, by omega⟩
  simp [List.replicate_succ]

namespace Tracks

theorem init (cd : Codec) (c0 : Coder) (total : Nat) (vdc : Buf) :
    Tracks cd c0 total { newDocNum := 0, dno := List.replicate total 0, coder := c0, vdc := vdc } [] :=
  ⟨rfl, rfl, by simp [writeDocs]⟩

theorem step (cd : Codec) (c0 : Coder) (total : Nat) (st : MS) (D : List Doc) (d : Doc)
    (vdc : Buf) (h : Tracks cd c0 total st D) (hroom : D.length < total) :
    st.newDocNum < st.dno.length ∧
    Tracks cd c0 total
      { newDocNum := st.newDocNum + 1, dno := st.dno.set st.newDocNum st.coder.buf.length,
        coder := st.coder.add cd (encodeDoc d {}).mta (encodeDoc d {}).data, vdc := vdc }
      (D ++ [d]) := by
  have hl : (writeDocs cd D c0 []).2.length = D.length := by
    rw [writeDocs_dso_length]; simp
  constructor
  · rw [h.dno, h.num, List.length_append, hl, List.length_replicate]; omega
  · constructor
    · simp only [writeDocs_snoc, h.coder]
    · simp [h.num]
    · simp only [writeDocs_snoc]
      rw [h.dno, h.num, h.coder, set_dso_replicate _ _ _ _ hl (by omega), List.length_append,
        List.length_singleton, Nat.sub_add_eq]

end Tracks

theorem flat_lt {nf : Nat} {d : Doc} (h : ∀ fv ∈ d, fv.1 < nf) : ∀ p ∈ flat d, p.1 < nf := by
  intro p hp
  simp only [flat, List.mem_flatMap, List.mem_map] at hp
  obtain ⟨fv, hfv, v, _, rfl⟩ := hp
  exact h fv hfv

theorem remapSegLoop_stored (cd : Codec) (bs : Nat) (src : Src) (docs : List Doc) (tail : Bytes)
    (drops : List Nat) (fm : Builder.AMap Bytes Nat) (nM : Nat) (c0 : Coder) (total : Nat)
    (hseg : src.seg = segOfNew cd bs src.fields.length docs tail)
    (hv : Ice.Props.C06.Valid cd bs src.fields.length docs)
    (hmap : FieldsMapped src.fields fm nM) (hsmall : docs.length ≤ 2 ^ 32) :
    ∀ (rest : List Doc) (k : Nat) (st : MS) (seen : List Nat) (D : List Doc),
    docs.drop k = rest → Tracks cd c0 total st D →
    D.length + (Spec.keepP (fun d => !drops.contains d) k rest).length ≤ total →
    ∃ st' seen', remapSegLoop cd src drops fm nM (List.range' k rest.length) st seen =
        .ok (st', seen') ∧
      Tracks cd c0 total st'
        (D ++ (Spec.keepP (fun d => !drops.contains d) k rest).map
          (reDoc (toMerged src.fields fm) nM)) := by
  intro rest
  induction rest with
  | nil => intro k st seen D _ ht _; exact ⟨st, seen, rfl, by simpa [Spec.keepP_nil] using ht⟩
  | cons x rest ih =>
    intro k st seen D hdrop ht hroom
    have hk : k < docs.length := by
      have := congrArg List.length hdrop
      simp only [List.length_drop, List.length_cons] at this
      omega
    rw [List.drop_eq_getElem_cons hk, List.cons.injEq] at hdrop
    obtain ⟨rfl, hdrop⟩ := hdrop
    rw [Spec.keepP_cons] at hroom ⊢
    rw [List.length_cons, List.range'_succ, remapSegLoop, isDropped_small drops k (by omega)]
    by_cases hc : drops.contains k = true
    · simp only [hc, Bool.not_true, Bool.false_eq_true, if_false, if_true, List.nil_append]
        at hroom ⊢
      exact ih _ _ _ _ hdrop ht hroom
    · simp only [hc, Bool.not_false, if_true, List.length_append, List.length_cons,
        List.length_nil, Nat.zero_add, List.map_append, List.map_cons, List.map_nil] at hroom ⊢
      obtain ⟨buf', hvis⟩ := Ice.Props.C06.C06_visit cd bs src.fields.length docs tail hv k hk
        st.vdc none
      rw [hseg, hvis]
      simp only [Res.bind_ok, takeStop,
        collectVals_ok _ _ _ _ hmap (flat_lt (hv.2.2.1 docs[k] (List.getElem_mem hk)))]
      obtain ⟨hlt, ht'⟩ := Tracks.step cd c0 total st D
        (reDoc (toMerged src.fields fm) nM docs[k]) buf' ht (by omega)
      rw [if_pos hlt, ← List.append_assoc]
      exact ih _ _ (seen ++ [st.newDocNum]) _ hdrop ht'
        (by rw [List.length_append, List.length_singleton, Nat.add_assoc]; exact hroom)

end Ice.Model.MergeRest
