import IceModel.Lemmas.E2EMDefs
/-
  END-TO-END, generic half: a description that lays out a well-formed abstract segment, inside the
  size bounds, is a valid input of the container (`C04.Valid`); the invariant `SegOK` of trees of
  `New` and `Merge` and its closure property (second part of the file).
-/
namespace Ice.Props.E2EM
open Ice Ice.Spec Ice.Model Ice.Model.Format
open Ice.Model.MergeRest (DocRel Rel₂ IdFirstAsc)
open Ice.Model.DocValues (termsOf NoSep)
open Ice.Props.E2E

theorem mem_terms_of_getElem? {l : List Bytes} {j : Nat} {t : Bytes} (h : l[j]? = some t) : t ∈ l :=
  List.mem_of_getElem? h

/-- a column that holds the doc values of a segment inside the bounds has no separator -/
theorem noSep_of_dvOf {S : AbsSeg} (hB : SpecBounds S) {f : Bytes} {vals : List (Nat × List Bytes)}
    (hasc : vals.Pairwise (fun a b => a.1 < b.1)) (hterms : ∀ n, termsOf vals n = dvOf S n f) :
    ∀ q ∈ vals, NoSep q.2 := by
  intro q hq t ht
  have h1 : termsOf vals q.1 = q.2 := by
    unfold termsOf
    rw [lookup_of_mem hasc hq]; rfl
  rw [← h1, hterms q.1] at ht
  exact dvOf_noSep hB q.1 f t ht

section
variable {K : Codecs} {S : AbsSeg} {L : LSeg} (hL : Lays S L) (hA : AbsRd L.merger S)

include hL hA in
theorem lays_field_valid (hsz : Sizes K L) {fd : FieldDesc} (hmem : fd ∈ L.fields) :
    fd.Valid L.merger L.numDocs := by
  obtain ⟨i, hf, hfd⟩ := lays_field_mem hL hmem
  have hSB := hA.bounds
  have hF := hA.nfields
  obtain ⟨hkeys, hrep⟩ := hL.terms i fd.name fd hf hfd
  refine ⟨?_, ?_, ?_, ?_, ?_, ?_⟩
  · exact hSB.nameLen _ (List.mem_of_getElem? hf)
  · exact Nat.lt_of_le_of_lt (hA.fieldDocs _ (lays_fieldDocs_mem hL hmem))
      (Nat.lt_trans hSB.numDocs (by decide))
  · exact hSB.freqs _ (lays_fieldFreqs_mem hL hmem)
  · rw [hkeys]
    exact ascKeys_of_asc _ (Ice.Spec.asc_terms _ _)
  · intro td htd
    obtain ⟨j, hj⟩ := List.getElem?_of_mem htd
    obtain ⟨t, td⟩ := td
    have hr := hrep j t td hj
    have ht : t ∈ terms S fd.name := by
      rw [← hkeys]; exact List.mem_map.2 ⟨_, htd, rfl⟩
    cases td with
    | general es =>
      have hes : es = (postings S fd.name t).map (postingToE S.fields) := hr
      subst hes
      refine ⟨?_, ?_⟩
      · intro h0
        exact (mem_terms_iff S fd.name t).1 ht (List.map_eq_nil_iff.1 h0)
      · rw [hL.numDocs]
        exact entriesOK_postings hSB hF fd.name t
    | oneHit d n =>
      obtain ⟨hd31, p, hps, hpd, hpn, _, _⟩ := hr
      have hp : p ∈ postings S fd.name t := by rw [hps]; simp
      have hm := hL.oneHit fd hmem _ htd d n rfl
      refine ⟨hm, hd31, ?_, ?_⟩
      · rw [← hpn]; exact (hm ▸ hA).posting_norm31 hp
      · rw [← hpd, hL.numDocs]
        exact postings_doc_lt S fd.name t p hp
  · intro vals hvals
    have hdv := hL.dv i fd.name fd hf hfd
    rw [hvals] at hdv
    obtain ⟨hasc, hmax, hterms⟩ := hdv
    refine ⟨by decide, hasc, fun q hq => ?_, ?_, ?_, ?_⟩
    · exact hL.numDocs ▸ Nat.le_sub_one_of_lt (hmax q hq)
    · exact hL.numDocs ▸ Nat.lt_of_le_of_lt (Nat.sub_le _ 1) (Nat.lt_trans hSB.numDocs (by decide))
    · exact hsz.dvRaw fd hmem vals hvals
    · exact noSep_of_dvOf hSB hasc hterms

include hL hA in
theorem lays_valid (hmode : 1 ≤ L.chunkMode ∧ L.chunkMode ≤ 1025) (hsz : Sizes K L) :
    C04.Valid K L := by
  have hSB := hA.bounds
  have hlen := lays_fields_length hL
  have hslen := lays_stored_length hL
  refine ⟨?_, ?_, ?_, ?_, hmode, ?_, ?_, ?_,
    trailer_ok K _ (by rw [hslen]; exact hSB.numDocs) hsz.storedLen, hsz.file⟩
  · have h1 : (L.fields.map (·.name)).head? = some idField := hL.names ▸ hA.idFirst
    rw [List.head?_map] at h1
    exact h1
  · exact hlen ▸ Nat.lt_succ_of_le hA.nfields
  · rw [hL.numDocs, hslen]
  · rw [hL.numDocs]; exact hSB.numDocs
  · intro fd hfd
    exact lays_field_valid hL hA hsz hfd
  · intro h0 fd hfd
    obtain ⟨i, hf, hfi⟩ := lays_field_mem hL hfd
    obtain ⟨hdv, hff⟩ := hL.empty h0 fd hfd
    have hdocs := lays_no_docs hL h0
    refine ⟨?_, hdv, ?_, hff⟩
    · have h1 := (hL.terms i fd.name fd hf hfi).1
      rw [terms_of_no_docs hdocs] at h1
      exact List.map_eq_nil_iff.1 h1
    · have := hA.fieldDocs _ (lays_fieldDocs_mem hL hfd)
      rw [hdocs] at this
      exact Nat.le_zero.1 this
  · refine ⟨by decide, hlen ▸ Nat.le_succ_of_le hA.nfields, ?_, hsz.records, hsz.storedLen⟩
    intro d hd fv hfv
    rw [hlen]
    exact hL.storedIds d hd fv hfv

end

end Ice.Props.E2EM

/-! ## second generation

  `SegOK K S L` is the invariant of trees of `New` and `Merge`: `L` is a valid input of the
  container and lays out the well-formed abstract segment `S`.  It is established at the leaves by
  `build_lays` / `absOK_build`, at the nodes by `mergedLSeg_segOK` (`Lemmas/E2EMLays.lean`); what
  it gives: the written file reads as `S` (`SegOK.readsAs`, `Lemmas/E2EMFile.lean`), and the
  written segment is an input inside the contract of the merge (`minOK_of_lays`, here), which
  closes the induction. -/

namespace Ice.Props.E2EM
open Ice Ice.Spec Ice.Model Ice.Model.Format
open Ice.Props.C03 (ValidDrops)
open Ice.Props.E2E

/-- the merge input a written segment is: its meaning, the deletions, the stored documents and
    the doc-value columns of its description -/
def MIn.ofLSeg (S : AbsSeg) (drops : List Nat) (L : LSeg) : MIn :=
  { abs := S, drops := drops, docs := L.stored,
    dvCol := fun f => match S.fields.idxOf? f with
      | some i => (L.fields[i]?).bind (·.dv)
      | none => none }

theorem idxOf?_some_mem {l : List Bytes} {a : Bytes} {i : Nat} (h : l.idxOf? a = some i) :
    l[i]? = some a := by
  obtain ⟨hlt, hget, _⟩ := List.idxOf?_eq_some_iff.1 h
  rw [List.getElem?_eq_getElem hlt, hget]

/-- the column of a field of a written segment: that of its description; none for a name the
    segment does not list -/
theorem ofLSeg_dvCol {S : AbsSeg} {L : LSeg} (hL : Lays S L) (drops : List Nat) (f : Bytes) :
    (f ∉ S.fields ∧ S.fields.idxOf? f = none ∧ (MIn.ofLSeg S drops L).dvCol f = none) ∨
    ∃ i fd, S.fields.idxOf? f = some i ∧ S.fields[i]? = some f ∧ L.fields[i]? = some fd ∧
      (MIn.ofLSeg S drops L).dvCol f = fd.dv := by
  unfold MIn.ofLSeg
  cases hi : S.fields.idxOf? f with
  | none =>
    exact .inl ⟨List.idxOf?_eq_none_iff.1 hi, rfl, by simp only [hi]⟩
  | some i =>
    obtain ⟨fd, hfd, _⟩ := lays_field hL (idxOf?_some_mem hi)
    exact .inr ⟨i, fd, rfl, idxOf?_some_mem hi, hfd, by simp only [hi, hfd, Option.bind_some]⟩

/-- the invariant of trees of `New` and `Merge` -/
structure SegOK (K : Codecs) (S : AbsSeg) (L : LSeg) : Prop where
  valid : C04.Valid K L
  lays : Lays S L
  abs : AbsOK S

section
variable {K : Codecs} {S : AbsSeg} {L : LSeg}

theorem SegOK.of_lays (hL : Lays S L) (hA : AbsOK S)
    (hmode : 1 ≤ L.chunkMode ∧ L.chunkMode ≤ 1025) (hsz : Sizes K L) : SegOK K S L :=
  ⟨lays_valid hL (hA.rd _) hmode hsz, hL, hA⟩

theorem dvColOK_ofLSeg (hL : Lays S L) (hA : AbsOK S) (drops : List Nat) (f : Bytes) :
    DvColOK f (MIn.ofLSeg S drops L) := by
  rcases ofLSeg_dvCol hL drops f with ⟨hnf, _, hcol⟩ | ⟨i, fd, _, hf, hfd, hcol⟩
  · refine ⟨fun vals hv => ?_, ?_⟩
    · rw [hcol] at hv; cases hv
    · rw [hcol]
      exact dvOf_nil_of_not_field hA.names hnf
  · have hdv := hL.dv i f fd hf hfd
    rw [← hcol] at hdv
    refine ⟨fun vals hv => ?_, ?_⟩
    · rw [hv] at hdv
      exact ⟨hdv.1, hdv.2.1, noSep_of_dvOf hA.bounds hdv.1 hdv.2.2⟩
    · cases hc : (MIn.ofLSeg S drops L).dvCol f with
      | none => rw [hc] at hdv; exact hdv
      | some vals => rw [hc] at hdv; exact hdv.2.2

/-- **closure.**  A written segment with valid deletions is an input inside the contract of the
    merge; `hcopy` is the extra size condition of the byte-copy path (`storedOffset +
    MaxVarintLen64` must not overflow `int`). -/
theorem minOK_of_lays (h : SegOK K S L) (drops : List Nat) (hd : ValidDrops S.docs.length drops)
    (hcopy : (Stored.recs L.stored).length + 10 < 2 ^ 63) :
    MInOK K (MIn.ofLSeg S drops L) := by
  refine ⟨h.abs, ⟨h.abs.fields, ?_, ?_, h.lays.stored, h.abs.closed, hd⟩, ⟨hcopy, h.lays.storedAsc⟩,
    dvColOK_ofLSeg h.lays h.abs drops⟩
  · have := h.valid.stored
    rw [lays_fields_length h.lays] at this
    exact this
  · exact h.valid.numDocs_eq ▸ Nat.le_of_lt h.valid.numDocs_lt

end

end Ice.Props.E2EM
