import IceModel.Spec.Seg
import IceModel.Lemmas.Sort
import IceModel.Lemmas.Merge
/-
  Facts about `Spec.build` and congruence of the observations in the document list.
-/
namespace Ice.Spec

theorem build_docs (nc : Bytes → Nat → Nat) (mode : Nat) (b : Batch) :
    (build nc mode b).docs = b.map (rollDoc nc (dvFlagOf b)) := rfl

theorem build_fields (nc : Bytes → Nat → Nat) (mode : Nat) (b : Batch) :
    (build nc mode b).fields = fieldList (b.flatMap (fun d => d.map (·.name))) := rfl

/-- `rollDoc` consults the doc-values flag only at the names of the document's own fields -/
theorem rollDoc_congr (nc : Bytes → Nat → Nat) (g₁ g₂ : Bytes → Bool) (d : Doc)
    (h : ∀ f ∈ d, g₁ f.name = g₂ f.name) : rollDoc nc g₁ d = rollDoc nc g₂ d := by
  unfold rollDoc
  apply List.map_congr_left
  intro n hn
  rw [List.mem_eraseDups, List.mem_map] at hn
  obtain ⟨f, hf, rfl⟩ := hn
  simp only [rollField, h f hf]

theorem survivors_build (nc : Bytes → Nat → Nat) (mode : Nat) (b : Batch) (drops : List Nat) :
    survivors (build nc mode b) drops =
      (keepP (fun i => !drops.contains i) 0 b).map (rollDoc nc (dvFlagOf b)) := by
  rw [survivors_eq, build_docs, keepP_map]

theorem numDocs_congr {a b : AbsSeg} (h : a.docs = b.docs) : numDocs a = numDocs b := by
  simp only [numDocs, h]

theorem terms_congr {a b : AbsSeg} (h : a.docs = b.docs) (f : Bytes) : terms a f = terms b f := by
  simp only [terms, h]

theorem postings_congr {a b : AbsSeg} (h : a.docs = b.docs) (f t : Bytes) :
    postings a f t = postings b f t := by
  simp only [postings, h]

theorem dvOf_congr {a b : AbsSeg} (h : a.docs = b.docs) (n : Nat) (f : Bytes) :
    dvOf a n f = dvOf b n f := by
  simp only [dvOf, h]

theorem docsMatching_congr {a b : AbsSeg} (h : a.docs = b.docs) (ts : List (Bytes × Bytes)) :
    docsMatching a ts = docsMatching b ts := by
  simp only [docsMatching, numDocs, postings, h]

theorem dictEntries_congr {a b : AbsSeg} (h : a.docs = b.docs) (f : Bytes) (lo hi : Option Bytes)
    (aut : Bytes → Bool) : dictEntries a f lo hi aut = dictEntries b f lo hi aut := by
  simp only [dictEntries, terms, postings, h]

theorem stored_congr {a b : AbsSeg} (h : a.docs = b.docs) (hf : a.fields = b.fields) (n : Nat) :
    stored a n = stored b n := by
  simp only [stored, h, hf]

theorem stats_congr {a b : AbsSeg} (h : a.docs = b.docs) (hf : a.fields = b.fields)
    (h3 : a.fieldDocs = b.fieldDocs) (h4 : a.fieldFreqs = b.fieldFreqs) (f : Bytes) :
    stats a f = stats b f := by
  simp only [stats, numDocs, h, hf, h3, h4]

/-! ### observations of any abstract segment -/

theorem mem_terms (S : AbsSeg) (f t : Bytes) :
    t ∈ terms S f ↔ ∃ d ∈ S.docs, ∃ af, d.field? f = some af ∧ t ∈ af.terms.map (·.term) := by
  unfold terms
  rw [mem_sortDedup, List.mem_flatMap]
  constructor
  · rintro ⟨d, hd, h⟩
    cases hq : d.field? f with
    | none => simp [hq] at h
    | some af => exact ⟨d, hd, af, hq, by simpa [hq] using h⟩
  · rintro ⟨d, hd, af, hq, h⟩
    exact ⟨d, hd, by simpa [hq] using h⟩

theorem asc_terms (S : AbsSeg) (f : Bytes) : Asc (terms S f) := asc_sortDedup _

theorem dvOf_of_length_le {S : AbsSeg} {n : Nat} (h : S.docs.length ≤ n) (f : Bytes) : dvOf S n f = [] := by
  rw [dvOf, List.getElem?_eq_none h]

theorem dvOf_of_no_docs {S : AbsSeg} (h : S.docs = []) (n : Nat) (f : Bytes) : dvOf S n f = [] :=
  dvOf_of_length_le (h ▸ Nat.zero_le n) f

theorem dvOf_eq_nil {S : AbsSeg} {f : Bytes} (h : ∀ d ∈ S.docs, dvDoc f d = []) (n : Nat) :
    dvOf S n f = [] := by
  rw [dvOf_eq]
  cases hd : S.docs[n]? with
  | none => rfl
  | some d => exact h d (List.mem_of_getElem? hd)

theorem dvOf_nil_of_no_terms {S : AbsSeg} {f : Bytes} (h : (terms S f).isEmpty = true) (d : Nat) :
    dvOf S d f = [] :=
  dvOf_eq_nil (fun doc hdoc => by
    unfold dvDoc
    cases hf : doc.field? f with
    | none => rfl
    | some af =>
      -- the terms of `af` are terms of the field: there are none
      have : af.terms.map (·.term) = [] := List.eq_nil_iff_forall_not_mem.2 fun t ht =>
        List.not_mem_nil (List.isEmpty_iff.1 h ▸ (mem_terms S f t).2 ⟨doc, hdoc, af, hf, ht⟩)
      simp only [this, ite_self]) d

theorem dvOf_nil_of_not_field {S : AbsSeg} (hnames : ∀ d ∈ S.docs, ∀ af ∈ d, af.name ∈ S.fields)
    {f : Bytes} (hf : f ∉ S.fields) (d : Nat) : dvOf S d f = [] :=
  dvOf_eq_nil (fun doc hdoc => by
    rw [dvDoc, show doc.field? f = none from List.find?_eq_none.2 fun af haf e =>
      hf (eq_of_beq e ▸ hnames doc hdoc af haf)]) d

theorem terms_of_no_docs {S : AbsSeg} (h : S.docs = []) (f : Bytes) : terms S f = [] := by
  unfold terms; rw [h]; rfl

theorem field?_mem {d : ADoc} {f : Bytes} {af : AField} (h : d.field? f = some af) :
    af ∈ d ∧ af.name = f := by
  unfold ADoc.field? at h
  exact ⟨List.mem_of_find?_eq_some h, by simpa using List.find?_some h⟩

theorem postingOf_eq_some {d : ADoc} {n : Nat} {f t : Bytes} {p : Posting} :
    postingOf d n f t = some p ↔ ∃ af x, d.field? f = some af ∧
      af.terms.find? (fun x => x.term == t) = some x ∧
      p = { doc := n, freq := x.freq, norm := af.norm, locs := x.locs } := by
  unfold postingOf
  cases d.field? f with
  | none => simp
  | some af =>
    cases hx : af.terms.find? (fun x => x.term == t) with
    | none => simp [hx]
    | some x =>
      simp only [hx, Option.some.injEq]
      constructor
      · rintro rfl; exact ⟨af, x, rfl, hx, rfl⟩
      · rintro ⟨_, _, rfl, h, rfl⟩; rw [hx] at h; cases h; rfl

theorem postingOf_doc {d : ADoc} {i : Nat} {f t : Bytes} {p : Posting}
    (h : postingOf d i f t = some p) : p.doc = i := by
  obtain ⟨_, _, _, _, rfl⟩ := postingOf_eq_some.1 h
  rfl

theorem postingOf_renumber (d : ADoc) (i j : Nat) (f t : Bytes) :
    postingOf d j f t = (postingOf d i f t).map (fun p => { p with doc := j }) := by
  unfold postingOf
  split
  · rfl
  · split <;> rfl

theorem postingOf_locs {d : ADoc} {i : Nat} {f t : Bytes} {p : Posting}
    (h : postingOf d i f t = some p) : ∃ af ∈ d, ∃ x ∈ af.terms, p.locs = x.locs := by
  obtain ⟨af, x, hf, hx, rfl⟩ := postingOf_eq_some.1 h
  exact ⟨af, (field?_mem hf).1, x, List.mem_of_find?_eq_some hx, rfl⟩

/-- the terms of field `f` in document `d` -/
def docTerms (d : ADoc) (f : Bytes) : List Bytes :=
  match d.field? f with
  | some af => af.terms.map (·.term)
  | none => []

theorem terms_def (s : AbsSeg) (f : Bytes) : terms s f = sortDedup (s.docs.flatMap (docTerms · f)) :=
  rfl

theorem postingOf_isSome (d : ADoc) (i : Nat) (f t : Bytes) :
    (postingOf d i f t).isSome = true ↔ t ∈ docTerms d f := by
  unfold postingOf docTerms
  cases d.field? f with
  | none => simp
  | some af =>
    simp only [List.mem_map]
    cases hfind : af.terms.find? (fun x => x.term == t) with
    | none =>
      simp only [Option.isSome_none, Bool.false_eq_true, false_iff]
      rintro ⟨x, hx, rfl⟩
      have := List.find?_eq_none.1 hfind x hx
      simp at this
    | some x =>
      simp only [Option.isSome_some, true_iff]
      have h1 := List.find?_some hfind
      have h2 := List.mem_of_find?_eq_some hfind
      exact ⟨x, h2, by simpa using h1⟩

theorem mem_postings {s : AbsSeg} {f t : Bytes} {p : Posting} :
    p ∈ postings s f t ↔ ∃ d, s.docs[p.doc]? = some d ∧ postingOf d p.doc f t = some p := by
  simp only [postings, List.mem_filterMap, Prod.exists, List.mk_mem_zipIdx_iff_getElem?]
  constructor
  · rintro ⟨d, i, hd, hp⟩
    rw [← postingOf_doc hp] at hd hp
    exact ⟨d, hd, hp⟩
  · rintro ⟨d, hd, hp⟩
    exact ⟨d, p.doc, hd, hp⟩

theorem mem_postings_field {S : AbsSeg} {f t : Bytes} {p : Posting} (h : p ∈ postings S f t) :
    ∃ n d af x, S.docs[n]? = some d ∧ d.field? f = some af ∧
      af.terms.find? (fun x => x.term == t) = some x ∧
      p = { doc := n, freq := x.freq, norm := af.norm, locs := x.locs } := by
  obtain ⟨⟨d, n⟩, hm, hp⟩ := List.mem_filterMap.1 h
  obtain ⟨af, x, hf, hx, rfl⟩ := postingOf_eq_some.1 hp
  exact ⟨n, d, af, x, List.mem_zipIdx_iff_getElem?.1 hm, hf, hx, rfl⟩

theorem mem_terms_iff (s : AbsSeg) (f t : Bytes) :
    t ∈ terms s f ↔ postings s f t ≠ [] := by
  rw [terms_def, mem_sortDedup, List.mem_flatMap]
  constructor
  · rintro ⟨d, hd, ht⟩
    obtain ⟨i, hi⟩ := List.mem_iff_getElem?.1 hd
    obtain ⟨p, hp⟩ := Option.isSome_iff_exists.1 ((postingOf_isSome d i f t).2 ht)
    have hpd := postingOf_doc hp
    exact List.ne_nil_of_mem (mem_postings.2 ⟨d, by rw [hpd]; exact hi, by rw [hpd]; exact hp⟩)
  · intro hne
    obtain ⟨p, hp⟩ := List.exists_mem_of_ne_nil _ hne
    obtain ⟨d, hd, hpo⟩ := mem_postings.1 hp
    exact ⟨d, List.mem_of_getElem? hd, (postingOf_isSome d p.doc f t).1 (by rw [hpo]; rfl)⟩

theorem postings_doc_lt (s : AbsSeg) (f t : Bytes) (p : Posting) (hp : p ∈ postings s f t) :
    p.doc < s.docs.length := by
  obtain ⟨d, hd, _⟩ := mem_postings.1 hp
  exact (List.getElem?_eq_some_iff.1 hd).1

theorem postings_doc_sorted (s : AbsSeg) (f t : Bytes) :
    ((postings s f t).map (·.doc)).Pairwise (· < ·) := by
  rw [postings, List.pairwise_map, List.pairwise_filterMap]
  exact (zipIdx_snd_lt s.docs 0).imp
    (fun h b hb b' hb' => by rw [postingOf_doc hb, postingOf_doc hb']; exact h)

theorem postings_eq_nil {S : AbsSeg} {f t : Bytes} (h : t ∉ terms S f) : postings S f t = [] :=
  Decidable.by_contra fun hne => h ((mem_terms_iff S f t).2 hne)


end Ice.Spec
