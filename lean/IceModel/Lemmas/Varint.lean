import IceModel.Model.Varint
import IceModel.Lemmas.Lists
/-
  Lemmas about the varint model: writer/reader round trip for each reader, byte counts.
-/
namespace Ice.Model

theorem putUvarint_of_lt {x : Nat} (h : x < 128) : putUvarint x = [x] := by
  rw [putUvarint, if_pos h]

theorem putUvarint_of_ge {x : Nat} (h : 128 ≤ x) :
    putUvarint x = (x % 128 + 128) :: putUvarint (x / 128) := by
  rw [putUvarint, if_neg (by omega)]

theorem putUvarint_ne_nil (x : Nat) : putUvarint x ≠ [] := by
  unfold putUvarint; split <;> simp

theorem putUvarint_length_pos (x : Nat) : 0 < (putUvarint x).length :=
  List.length_pos_iff.mpr (putUvarint_ne_nil x)

theorem numUvarintBytes_eq_length (x : Nat) : numUvarintBytes x = (putUvarint x).length := by
  induction x using Nat.strongRecOn with
  | _ x ih =>
    unfold numUvarintBytes putUvarint
    split
    · simp
    · have := ih (x / 128) (by omega)
      simp [this]

theorem putUvarint_bytes (x : Nat) : ∀ b ∈ putUvarint x, b < 256 := by
  induction x using Nat.strongRecOn with
  | _ x ih =>
    unfold putUvarint
    split
    · intro b hb; simp at hb; omega
    · intro b hb
      simp at hb
      rcases hb with h | h
      · omega
      · exact ih (x / 128) (by omega) b h

theorem putUvarint_length_le (k x : Nat) (h : x < 2 ^ (7 * (k + 1))) :
    (putUvarint x).length ≤ k + 1 := by
  induction k generalizing x with
  | zero => rw [putUvarint_of_lt h]; exact Nat.le_refl _
  | succ k ih =>
    by_cases hlt : x < 128
    · rw [putUvarint_of_lt hlt]; exact Nat.succ_le_succ (Nat.zero_le _)
    · rw [putUvarint_of_ge (by omega), List.length_cons]
      rw [Nat.mul_succ, Nat.pow_add] at h
      exact Nat.succ_le_succ (ih (x / 128) (Nat.div_lt_of_lt_mul (by rw [Nat.mul_comm]; exact h)))

theorem putUvarint_length_le_ten (x : Nat) (h : x < 2 ^ 64) : (putUvarint x).length ≤ 10 :=
  putUvarint_length_le 9 x (Nat.lt_of_lt_of_le h (Nat.pow_le_pow_right (by omega) (by omega)))

/-- one continuation byte: its seven bits enter the accumulator at shift `s` unwrapped, and what
    remains to be read at shift `s + 7` is still inside uint64 -/
theorem uvarint_shift_step {x s : Nat} (hge : 128 ≤ x) (hx : x * 2 ^ s < two64) :
    s + 7 ≤ 63 ∧ x / 128 * 2 ^ (s + 7) < two64 ∧
      (x % 128 * 2 ^ s) % two64 + x / 128 * 2 ^ (s + 7) = x * 2 ^ s := by
  have hsplit : x % 128 * 2 ^ s + x / 128 * 2 ^ (s + 7) = x * 2 ^ s := by
    rw [Nat.pow_add, Nat.mul_comm (2 ^ s), ← Nat.mul_assoc, ← Nat.add_mul, Nat.mod_add_div']
  have hs : 2 ^ (s + 7) < 2 ^ 64 := by
    rw [Nat.pow_add, Nat.mul_comm]
    exact Nat.lt_of_le_of_lt (Nat.mul_le_mul_right _ hge) hx
  rw [Nat.pow_lt_pow_iff_right (by decide)] at hs
  rw [Nat.mod_eq_of_lt (Nat.lt_of_le_of_lt (hsplit ▸ Nat.le_add_right _ _) hx)]
  exact ⟨Nat.le_of_lt_succ hs, Nat.lt_of_le_of_lt (hsplit ▸ Nat.le_add_left _ _) hx, hsplit⟩

/-- the last byte passes the readers' overflow test at shift 63 -/
theorem uvarint_last_byte {x s : Nat} (hs : s ≤ 63) (hx : x * 2 ^ s < two64) :
    ¬ (s = 63 ∧ x > 1) := by
  intro ⟨h1, h2⟩
  subst h1
  have := Nat.mul_le_mul_right (2 ^ 63) h2
  unfold two64 at hx; omega

/-- Reader after writer, at any accumulator state reachable inside `ReadUvarint`. -/
theorem readUvarintAux_put (x : Nat) : ∀ (acc s n : Nat) (rest : Bytes),
    s ≤ 63 → x * 2 ^ s < two64 →
    readUvarintAux (putUvarint x ++ rest) acc s n = .ok (acc + x * 2 ^ s, n + (putUvarint x).length) := by
  induction x using Nat.strongRecOn with
  | _ x ih =>
    intro acc s n rest hs hx
    by_cases hlt : x < 128
    · have hg : ¬ (s ≥ 63 ∧ (s > 63 ∨ (s = 63 ∧ x > 1))) := by
        have := uvarint_last_byte hs hx; omega
      rw [putUvarint_of_lt hlt, List.singleton_append, readUvarintAux, if_pos hlt, if_neg hg,
        Nat.mod_eq_of_lt hx, List.length_singleton]
    · have hge : 128 ≤ x := Nat.le_of_not_lt hlt
      obtain ⟨hs7, hdiv, hsum⟩ := uvarint_shift_step hge hx
      have hnot : ¬ (x % 128 + 128 < 128) := Nat.not_lt.mpr (Nat.le_add_left _ _)
      rw [putUvarint_of_ge hge, List.cons_append, readUvarintAux, if_neg hnot, Nat.add_mod_right,
        Nat.mod_mod, ih (x / 128) (Nat.div_lt_self (by omega) (by decide)) _ _ _ rest hs7 hdiv,
        List.length_cons, Nat.add_assoc acc, hsum, Nat.add_assoc n, Nat.add_comm 1]

/-- `ReadUvarint` of what `PutUvarint` wrote, followed by anything, yields the value and stops
    exactly behind it. -/
theorem readUvarint_put (x : Nat) (rest : Bytes) (h : x < two64) :
    readUvarint (putUvarint x ++ rest) = .ok (x, (putUvarint x).length) := by
  simpa [readUvarint] using readUvarintAux_put x 0 0 0 rest (by omega) (by simpa using h)

/-- `SkipUvarint` steps over exactly what `PutUvarint` wrote. -/
theorem skipUvarint_put (x : Nat) (rest : Bytes) :
    skipUvarint (putUvarint x ++ rest) = .ok (putUvarint x).length := by
  induction x using Nat.strongRecOn with
  | _ x ih =>
    unfold putUvarint
    split
    · rename_i h; simp [skipUvarint, h]
    · rename_i h
      have hnot : ¬ (x % 128 + 128 < 128) := by omega
      simp [skipUvarint, hnot, ih (x / 128) (by omega)]

/-! ### `binary.Uvarint` (the fixed-window reader, `uvarint`) after `binary.PutUvarint`

  The value comes back and the byte count is the length written, whatever follows (a window that
  holds the whole varint is such a buffer: `take_drop_append`). -/

/-- reader after writer at any state reachable inside `Uvarint` (`s = 7 i`, `i ≤ 9`) -/
theorem uvarintAux_put (x : Nat) : ∀ (acc s i : Nat) (rest : Bytes),
    s = 7 * i → i ≤ 9 → x * 2 ^ s < two64 →
    uvarintAux (putUvarint x ++ rest) acc s i = some (acc + x * 2 ^ s, i + (putUvarint x).length) := by
  induction x using Nat.strongRecOn with
  | _ x ih =>
    intro acc s i rest hsi hi hx
    have hi10 : ¬ i = 10 := Nat.ne_of_lt (Nat.lt_succ_of_le hi)
    by_cases hlt : x < 128
    · have hg : ¬ (i = 9 ∧ x > 1) := fun h =>
        uvarint_last_byte (s := s) (by omega) hx ⟨by omega, h.2⟩
      rw [putUvarint_of_lt hlt, List.singleton_append, uvarintAux, if_neg hi10, if_pos hlt, if_neg hg,
        Nat.mod_eq_of_lt hx, List.length_singleton]
    · have hge : 128 ≤ x := Nat.le_of_not_lt hlt
      obtain ⟨hs7, hdiv, hsum⟩ := uvarint_shift_step hge hx
      have hnot : ¬ (x % 128 + 128 < 128) := Nat.not_lt.mpr (Nat.le_add_left _ _)
      rw [putUvarint_of_ge hge, List.cons_append, uvarintAux, if_neg hi10, if_neg hnot,
        Nat.add_mod_right, Nat.mod_mod,
        ih (x / 128) (Nat.div_lt_self (by omega) (by decide)) _ (s + 7) (i + 1) rest (by omega)
          (by omega) hdiv,
        List.length_cons, Nat.add_assoc acc, hsum, Nat.add_assoc i, Nat.add_comm 1]

/-- `binary.Uvarint` of what `PutUvarint` wrote, followed by anything -/
theorem uvarint_put (x : Nat) (rest : Bytes) (h : x < 2 ^ 64) :
    uvarint (putUvarint x ++ rest) = some (x, (putUvarint x).length) := by
  simpa [uvarint] using uvarintAux_put x 0 0 0 rest (by omega) (by omega) (by simpa [two64] using h)

end Ice.Model
