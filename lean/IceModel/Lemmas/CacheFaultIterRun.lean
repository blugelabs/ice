import IceModel.Lemmas.CacheFaultIter
/-
  (b) run-level statements for the iterator cache, and the key invariant (any oracle):
  "guard false ⇒ both sub-readers hold chunk `currChunk`".
-/
namespace Ice.Model.CacheFault

theorem pointwise_error {α β : Type} (as : List β) :
    ∀ l : List (Outcome α), l.length = as.length →
      Pointwise SameOrError (as.map (fun _ => (Outcome.error : Outcome α))) l := by
  induction as with
  | nil => intro l h; cases List.eq_nil_of_length_eq_zero h; exact .nil
  | cons _ as ih =>
    intro l h
    cases l with
    | nil => cases h
    | cons x l => exact .cons (Or.inr rfl) (ih l (Nat.succ.inj h))

theorem pointwise_refl {α : Type} (l : List (Outcome α)) : Pointwise SameOrError l l := by
  induction l with
  | nil => exact .nil
  | cons x l ih => exact .cons (Or.inl rfl) ih

namespace PIter

theorem run_length (ver : IVersion) (st : IStore) (o : Oracle) (as : List IAcc) :
    ∀ clk it, (PIter.run ver st o clk it as).length = as.length := by
  induction as with
  | nil => intro _ _; rfl
  | cons a as ih => intro clk it; simp [run, ih]

theorem run_dead (st : IStore) {o : Oracle} {f m : Nat} (ho : ∀ k, f ≤ k → o k = true) {as : List IAcc}
    (hm : ∀ a ∈ as, m ≤ a.chunk) :
    ∀ clk it, Dead f m clk it → PIter.run ifixed st o clk it as = as.map (fun _ => .error) := by
  induction as with
  | nil => intro _ _ _; rfl
  | cons a as ih =>
    intro clk it hd
    obtain ⟨clk', hc, he⟩ := access_dead st ho hd (hm a List.mem_cons_self)
    simp only [run, he, List.map_cons]
    rw [ih (fun b hb => hm b (List.mem_cons_of_mem _ hb)) clk' it ⟨Nat.le_trans hd.1 hc, hd.2⟩]

theorem run_noFreq (ver : IVersion) (st : IStore) (o : Oracle) (as : List IAcc) :
    ∀ clk it, it.incFreq = false → PIter.run ver st o clk it as = as.map (fun _ => .ok none) := by
  induction as with
  | nil => intro _ _ _; rfl
  | cons a as ih =>
    intro clk it h
    simp only [run, access, h, Bool.not_false, if_true, List.map_cons]
    rw [ih clk it h]

theorem run_failFrom (st : IStore) (f : Nat) (as : List IAcc) (hmono : Monotone as) (clk : Nat) (it : PIter)
    (hE : it.freq.encoded = true) (hle : ∀ a ∈ as, it.currChunk ≤ a.chunk) :
    Pointwise SameOrError (PIter.run ifixed st (failFrom f) clk it as)
      (PIter.run ifixed st healthy clk it as) := by
  cases hF : it.incFreq
  · rw [run_noFreq _ _ _ _ _ _ hF, run_noFreq _ _ _ _ _ _ hF]
    exact pointwise_refl _
  induction as generalizing clk it with
  | nil => exact .nil
  | cons a as ih =>
    have g : Good a.chunk it := ⟨hF, hE, hle a List.mem_cons_self⟩
    obtain ⟨hale, hmono'⟩ := List.pairwise_cons.mp hmono
    rcases hv : it.access ifixed st (failFrom f) clk a with ⟨it', clk', out⟩
    simp only [run, hv]
    rcases access_failFrom g hv with h | ⟨rfl, h2⟩
    · rw [h]
      have g' : Good a.chunk it' := by
        have := access_keeps (fun clk it => ensure_good st healthy clk) (fun _ => readEntry_good) clk it g
        rwa [h] at this
      exact .cons (Or.inl rfl) (ih hmono' _ _ g'.enc (fun b hb => Nat.le_trans g'.le (hale b hb)) g'.incFreq)
    · refine .cons (Or.inr rfl) ?_
      rw [run_dead st (fun _ => failFrom_ge) hale _ _ h2]
      exact pointwise_error as _ (run_length _ _ _ _ _ _)

/-- decoder `d` holds chunk `n` of stream `st` (a not-encoded stream has nothing to hold: its
    reader only has to exist) -/
def DHolds {α : Type} (st : Store α) (d : Dec α) (n : Nat) : Prop :=
  if d.encoded then ∃ c pos, st n = some c ∧ d.bytes = some c ∧ d.rdr = some (c, pos)
  else d.rdr ≠ none

/-- guard false (for the chunk the key names) ⇒ both sub-readers hold that chunk -/
def CacheInv (st : IStore) (it : PIter) : Prop :=
  it.freq.isNil = false →
    DHolds st.f it.freq it.currChunk ∧ (it.incLocs = true → DHolds st.l it.loc it.currChunk)

theorem DHolds_of_load {α : Type} (st : Store α) (o : Oracle) (clk : Nat) (d : Dec α) (n : Nat)
    (h : (d.loadChunk st o clk n).2.2 = true) : DHolds st (d.loadChunk st o clk n).1 n := by
  unfold DHolds
  rcases Dec.loadChunk_cases st o clk d n with ⟨he, e⟩ | ⟨_, _, e⟩ | ⟨_, _, e⟩ | ⟨he, _, c, hc, e⟩
  · rw [e o, if_neg (by rw [he]; decide)]
    exact fun h => nomatch h
  · rw [e o] at h; cases h
  · rw [e] at h; cases h
  · rw [e, if_pos he]
    exact ⟨c, 0, hc, rfl, rfl⟩

theorem DHolds_read {α : Type} (st : Store α) (d : Dec α) (n : Nat) (h : DHolds st d n) :
    DHolds st d.read.1 n := by
  rcases Dec.read_cases d with e | ⟨s, c, a, hr, e⟩ <;> rw [e]
  · exact h
  · unfold DHolds at h ⊢
    split at h
    · obtain ⟨c0, pos, h1, h2, h3⟩ := h
      cases hr.symm.trans h3
      rw [if_pos ‹_›]
      exact ⟨_, _, h1, h2, rfl⟩
    · rw [if_neg ‹_›]
      exact fun h => nomatch h

theorem loadChunk_inv {st : IStore} {it : PIter} (o : Oracle) (clk n : Nat)
    (hF : it.incFreq = true) (hI : CacheInv st it) :
    CacheInv st (it.loadChunk ifixed st o clk n).1 := by
  rcases hv : it.loadChunk ifixed st o clk n with ⟨it', clk', ok⟩
  obtain ⟨_, hL, _, h⟩ := loadChunk_result hF hv
  cases ok
  · rcases h.2 with rfl | hn
    · exact hI
    · exact fun h => nomatch hn.symm.trans h
  · obtain ⟨hc, hf, hok, hl⟩ := h
    intro _
    show DHolds st.f it'.freq it'.currChunk ∧ (it'.incLocs = true → DHolds st.l it'.loc it'.currChunk)
    rw [hc, hf, hL]
    refine ⟨DHolds_of_load st.f o clk it.freq n hok, fun h => ?_⟩
    rw [(hl h).1]
    exact DHolds_of_load st.l o _ it.loc n (hl h).2

theorem readEntry_inv {st : IStore} {it : PIter} (hI : CacheInv st it) : CacheInv st it.readEntry.1 := by
  obtain ⟨f', l', h, hf, hl⟩ := readEntry_state it
  rw [h]
  intro hn
  have hf' : DHolds st.f it.freq it.currChunk → DHolds st.f f' it.currChunk := by
    rcases hf with rfl | rfl
    · exact id
    · exact DHolds_read _ _ _
  have hl' : DHolds st.l it.loc it.currChunk → DHolds st.l l' it.currChunk := by
    rcases hl with rfl | rfl
    · exact id
    · exact DHolds_read _ _ _
  have hn' : it.freq.isNil = false := by
    rcases hf with rfl | rfl
    · exact hn
    · simpa [Dec.isNil, (Dec.read_bytes it.freq).1] using hn
  exact ⟨hf' (hI hn').1, fun hL => hl' ((hI hn').2 hL)⟩

theorem ensure_inv {st : IStore} {it : PIter} (o : Oracle) (clk n : Nat)
    (hF : it.incFreq = true) (hI : CacheInv st it) : CacheInv st (it.ensure ifixed st o clk n).1 := by
  unfold ensure
  split
  · exact loadChunk_inv o clk n hF hI
  · exact hI

theorem access_inv (st : IStore) (o : Oracle) (clk : Nat) (it : PIter) (a : IAcc)
    (hE : it.freq.encoded = true) (hI : CacheInv st it) :
    (it.access ifixed st o clk a).1.freq.encoded = true ∧ CacheInv st (it.access ifixed st o clk a).1 := by
  by_cases hF : it.incFreq = true
  · -- the flag and the encoding ride along: the guarded load and the reading of entries keep them
    refine (access_keeps (I := fun it => it.incFreq = true ∧ it.freq.encoded = true ∧ CacheInv st it)
      ?_ ?_ clk it ⟨hF, hE, hI⟩).2
    · rintro clk it ⟨hF, hE, hI⟩
      obtain ⟨f1, f2, _⟩ := ensure_frame hF (rfl : it.ensure ifixed st o clk a.chunk = (_, _, _))
      exact ⟨f1.trans hF, f2.trans hE, ensure_inv o clk a.chunk hF hI⟩
    · rintro it ⟨hF, hE, hI⟩
      obtain ⟨_, f2, _, f4, _⟩ := readEntry_frame it
      exact ⟨f2.trans hF, f4.trans hE, readEntry_inv hI⟩
  · unfold access
    rw [if_pos (by simpa using hF)]
    exact ⟨hE, hI⟩

theorem exec_inv (st : IStore) (o : Oracle) (as : List IAcc) : ∀ clk it,
    it.freq.encoded = true → CacheInv st it → CacheInv st (PIter.exec ifixed st o clk it as).1 := by
  induction as with
  | nil => intro _ _ _ h; exact h
  | cons a as ih =>
    intro clk it hE hI
    have h := access_inv st o clk it a hE hI
    exact ih _ _ h.1 h.2

theorem Fresh.cacheInv (st : IStore) {it : PIter} (h : it.Fresh) : CacheInv st it := by
  intro hn; rw [h.2.1] at hn; cases hn

/-- with the invariant, a false guard means that neither reader is a nil pointer: the panic of
    `C19_iterator_v0_counterexample` is impossible -/
theorem CacheInv.readers (st : IStore) {it : PIter} (hI : CacheInv st it) (hE : it.freq.encoded = true)
    (n : Nat) (hg : it.guard n = false) :
    it.currChunk = n ∧ (∃ c pos, st.f n = some c ∧ it.freq.rdr = some (c, pos)) ∧
    (it.incLocs = true → it.loc.rdr ≠ none) := by
  simp only [guard, Bool.or_eq_false_iff, bne_eq_false_iff_eq] at hg
  have hc : it.currChunk = n := by simpa using hg.1
  obtain ⟨hf, hl⟩ := hI hg.2
  refine ⟨hc, ?_, fun hL => ?_⟩
  · simp only [DHolds, hE, if_true] at hf
    obtain ⟨c, pos, h1, _, h3⟩ := hf
    exact ⟨c, pos, hc ▸ h1, h3⟩
  · have := hl hL
    unfold DHolds at this
    split at this
    · obtain ⟨c, pos, _, _, h3⟩ := this
      simp [h3]
    · exact this

end PIter
end Ice.Model.CacheFault
