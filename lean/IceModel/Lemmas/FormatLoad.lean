import IceModel.Lemmas.Format
import IceModel.Lemmas.Varint
import IceModel.Lemmas.FormatTotalBackingDV
/-
  Lemmas for the container model, loader side: strict reads at positions where the writer put
  something, the fields section, the doc-value index, dictionaries and postings records; then what
  the readers find of a term and of a field whose bytes lie anywhere in a data section
  (`term_read`, `field_read`, `field_dv`: no hypothesis about the rest of the file).
-/
namespace Ice.Model.Format
open Ice Ice.Model
open Ice.Model.Writer (be unbe Footer)
open Ice.Model.ChunkBytes (Entry Coder tfAdds locAdds uvarintU64 Fresh)
open Ice.Model.DocValues (add64 sub64 maxUint64 Data At)

/-! ### strict reads where the writer put something

  A loader keeps a position `add64 base n`, `n` the running count of what it has consumed.  The
  proofs below bring every such position into the form `base + l₁ + … + lᵢ` (`add64_assoc`, then
  `add64_inside` with the bound for the position behind each piece: `drop_append_step`, or
  `At.end_le` where at least ten bytes follow, `DocValues.At`) and read there with `read_exact`, `at_window`
  or `read_to_end`. -/

theorem add64_assoc (a b c : Nat) : add64 a (add64 b c) = add64 (add64 a b) c := by
  unfold add64 two64; omega

theorem add64_inside {d : Data} (hlen : d.bytes.length < 2 ^ 62) {a b : Nat}
    (h : a + b ≤ d.bytes.length) : add64 a b = a + b :=
  DocValues.add64_small (by omega)

theorem read_exact (d : Data) (off : Nat) (X rest : Bytes) (h : d.bytes.drop off = X ++ rest)
    (hoff : off ≤ d.bytes.length) (hlen : d.bytes.length < 2 ^ 62) :
    d.read off (off + X.length) = .ok X := by
  have hl := drop_append_length h hoff
  rw [DocValues.Data.read_ok d off (off + X.length) (by omega) (by omega) (by omega), h,
    Nat.add_sub_cancel_left, List.take_left]

/-- `DocValues.At.read_window` for `uvarintU64`, with which the loaders of the container decode -/
theorem at_window {d : Data} {off x : Nat} (h : DocValues.At d.bytes off (putUvarint x))
    (hx : x < 2 ^ 64) (hlen : d.bytes.length < 2 ^ 62) :
    ∃ w, d.read off (add64 off 10) = .ok w ∧ uvarintU64 w = (x, (putUvarint x).length) := by
  have h10 : off + 10 ≤ d.bytes.length := by have := h.length_le; omega
  obtain ⟨rest, hd, -⟩ := h
  refine ⟨(d.bytes.drop off).take 10, ?_, ?_⟩
  · rw [add64_inside hlen h10, DocValues.Data.read_ok d off (off + 10) (Nat.le_add_right _ _) h10
      (Nat.lt_trans hlen (by decide)), Nat.add_sub_cancel_left]
  · rw [take_drop_append hd (putUvarint_length_le_ten x hx),
      ChunkBytes.uvarintU64_put x _ (by simpa [two64] using hx)]

/-- a window that extends to the end of the data (`loadFields`) -/
theorem read_to_end (d : Data) (off x : Nat) (rest : Bytes)
    (h : d.bytes.drop off = putUvarint x ++ rest) (hoff : off ≤ d.bytes.length)
    (hx : x < 2 ^ 64) (hlen : d.bytes.length < 2 ^ 62) :
    ∃ w, d.read off (u64 d.bytes.length) = .ok w ∧ uvarintU64 w = (x, (putUvarint x).length) := by
  refine ⟨putUvarint x ++ rest, ?_, ChunkBytes.uvarintU64_put x _ (by simpa [two64] using hx)⟩
  rw [u64_small (by omega), DocValues.Data.read_ok d off d.bytes.length hoff (Nat.le_refl _) (by omega),
    ← h, ← List.length_drop, List.take_length]

/-- **In-bounds lemma (reader side).**  `Data.read` is strict for both backings: if a read of at
    least one byte between two offsets that are non-negative `int`s succeeds, it lies inside the
    data, and its result is the plain slice.  So every "`… = .ok …`" statement about the loader
    (all its reads go through `Data.read` on the data section, i.e. the file without the footer)
    says that the windows it opened lie within the data section; the memory-backed reader with
    spare capacity (plain `take`/`drop`) and the file-backed reader (error past the end) agree. -/
theorem read_inbounds (d : Data) (s e : Nat) (w : Bytes) (hs : s < 2 ^ 63) (he : e < 2 ^ 63)
    (hse : s < e) (h : d.read s e = .ok w) :
    e ≤ d.bytes.length ∧ w = (d.bytes.drop s).take (e - s) := by
  -- what succeeds on either backing succeeds on the file backing, which checks the end
  have h := DocValues.read_toFile d s e w h
  have hn : DocValues.wrap64 ((e : Int) - (s : Int)) = ((e - s : Nat) : Int) :=
    (DocValues.wrap64_of_nonneg (by omega) (by omega)).trans (Int.ofNat_sub (Nat.le_of_lt hse)).symm
  have n1 : ¬ (((e - s : Nat) : Int) < 0) := by omega
  have n2 : ¬ ((s : Int) < 0) := by omega
  have n3 : ¬ (((e - s : Nat) : Int) = 0) := by omega
  simp only [DocValues.Data.read, DocValues.Data.toFile, DocValues.i64_of_lt hs,
    DocValues.i64_of_lt he, hn,
    Bool.false_eq_true, if_false, n1, n2, n3] at h
  split at h
  · cases h
  · simp only [Res.ok.injEq] at h
    exact ⟨by omega, h.symm⟩

theorem loadFieldRecord_ok (d : Data) (addr dl : Nat) (f : FieldDesc) (R : Bytes)
    (h : d.bytes.drop addr = fieldRecord dl f ++ R) (haddr : addr ≤ d.bytes.length)
    (hlen : d.bytes.length < 2 ^ 62) (hdl : dl < 2 ^ 64) (hname : f.name.length < 2 ^ 64)
    (hfd : f.fieldDocs < 2 ^ 64) (hff : f.fieldFreqs < 2 ^ 64) :
    loadFieldRecord d addr (u64 d.bytes.length) = .ok (dl, f.name, f.fieldDocs, f.fieldFreqs) := by
  unfold fieldRecord at h
  simp only [List.append_assoc] at h
  obtain ⟨h2, b1⟩ := drop_append_step h haddr
  obtain ⟨h3, b2⟩ := drop_append_step h2 b1
  obtain ⟨h4, b3⟩ := drop_append_step h3 b2
  obtain ⟨h5, b4⟩ := drop_append_step h4 b3
  obtain ⟨w1, r1, u1⟩ := read_to_end d _ dl _ h haddr hdl hlen
  obtain ⟨w2, r2, u2⟩ := read_to_end d _ f.name.length _ h2 b1 hname hlen
  have r3 := read_exact d _ f.name _ h3 b2 hlen
  obtain ⟨w4, r4, u4⟩ := read_to_end d _ f.fieldDocs _ h4 b3 hfd hlen
  obtain ⟨w5, r5, u5⟩ := read_to_end d _ f.fieldFreqs _ h5 b4 hff hlen
  simp only [loadFieldRecord, add64_assoc, add64_inside hlen b1, add64_inside hlen b2,
    add64_inside hlen b3, add64_inside hlen b4, r1, u1, r2, u2, r3, r4, u4, r5, u5,
    ChunkBytes.ok_bind, ChunkBytes.pure_eq_ok]

theorem table_drop (l : List Nat) (pre tail : Bytes) (k x : Nat) (h : l[k]? = some x) :
    ∃ rest, (pre ++ l.flatMap (be 8) ++ tail).drop (pre.length + 8 * k) = be 8 x ++ rest := by
  rw [List.append_assoc, List.drop_length_add_append]
  exact Stored.flatMap_be8_drop l k x tail h

/-- what `loadFields` collects from the fields `fs` -/
def accOf (fs : List (Nat × FieldDesc)) : FieldsAcc :=
  { fieldsInv := fs.map (·.2.name), dictLocs := fs.map (·.1),
    fieldDocs := fs.map (·.2.fieldDocs), fieldFreqs := fs.map (·.2.fieldFreqs) }

def FieldsAcc.append (a b : FieldsAcc) : FieldsAcc :=
  { fieldsInv := a.fieldsInv ++ b.fieldsInv, dictLocs := a.dictLocs ++ b.dictLocs,
    fieldDocs := a.fieldDocs ++ b.fieldDocs, fieldFreqs := a.fieldFreqs ++ b.fieldFreqs }

theorem mul64_small {a b : Nat} (h : a * b < 2 ^ 64) : mul64 a b = a * b :=
  Nat.mod_eq_of_lt h

/-- the table walk: with `k` records done it collects the remaining ones and stops exactly at the
    end of the data section -/
theorem loadFieldsLoop_ok (d : Data) (A : Bytes) (fs : List (Nat × FieldDesc))
    (hd : d.bytes = A ++ (persistFieldsLoop A.length fs).1 ++
      (persistFieldsLoop A.length fs).2.flatMap (be 8))
    (hlen : d.bytes.length < 2 ^ 62)
    (hval : ∀ p ∈ fs, p.1 < 2 ^ 64 ∧ p.2.name.length < 2 ^ 64 ∧ p.2.fieldDocs < 2 ^ 64 ∧
      p.2.fieldFreqs < 2 ^ 64) :
    ∀ (n k : Nat) (acc : FieldsAcc) (fuel : Nat), k + n = fs.length → n < fuel →
      loadFieldsLoop d (A.length + (persistFieldsLoop A.length fs).1.length) fuel k acc =
        .ok (acc.append (accOf (fs.drop k))) := by
  have hspec := persistFieldsLoop_spec fs A.length
  have htl := persistFieldsLoop_length fs A.length
  generalize persistFieldsLoop A.length fs = P at hd hspec htl ⊢
  have hbl : d.bytes.length = A.length + P.1.length + 8 * fs.length := by
    rw [hd, List.length_append, List.length_append, Stored.flatMap_be8_length, htl]
  have hend := u64_small (x := d.bytes.length) (Nat.lt_trans hlen (by decide))
  intro n
  induction n with
  | zero =>
    intro k acc fuel hk hf
    obtain ⟨fuel, rfl⟩ := Nat.exists_eq_add_one_of_ne_zero (Nat.ne_of_gt hf)
    -- the walk has reached the end of the table, which is the end of the data
    have he : A.length + P.1.length + 8 * k = d.bytes.length := by rw [hbl, ← hk]; rfl
    have h8k : 8 * k < 2 ^ 64 :=
      Nat.lt_of_le_of_lt (he ▸ Nat.le_add_left _ _) (Nat.lt_trans hlen (by decide))
    simp only [loadFieldsLoop, mul64_small h8k, add64_inside hlen (Nat.le_of_eq he), hend, he,
      Nat.lt_irrefl, if_false, List.drop_eq_nil_of_le (show fs.length ≤ k from Nat.le_of_eq hk.symm), accOf,
      FieldsAcc.append, List.map_nil, List.append_nil]
  | succ n ih =>
    intro k acc fuel hk hf
    obtain ⟨fuel, rfl⟩ := Nat.exists_eq_add_one_of_ne_zero (Nat.ne_of_gt (Nat.zero_lt_of_lt hf))
    have hklt : k < fs.length := by omega
    obtain ⟨pre, post, hrec, hoff⟩ := hspec k fs[k] (List.getElem?_eq_getElem hklt)
    have hrl := congrArg List.length hrec
    simp only [List.length_append] at hrl
    obtain ⟨hin8, hrin⟩ : A.length + P.1.length + 8 * k + 8 ≤ d.bytes.length ∧
        A.length + pre.length ≤ d.bytes.length := by omega
    have hlt : A.length + P.1.length + 8 * k < d.bytes.length :=
      Nat.lt_of_lt_of_le (Nat.lt_add_of_pos_right (by decide)) hin8
    have h8k : 8 * k < 2 ^ 64 := Nat.lt_of_le_of_lt (Nat.le_add_left _ _)
      (Nat.lt_trans (Nat.lt_trans hlt hlen) (by decide))
    have hk' : k + 1 + n = fs.length := by rw [Nat.add_assoc, Nat.add_comm 1]; exact hk
    have hf' : n < fuel := Nat.lt_of_succ_lt_succ hf
    obtain ⟨hdl, hname, hfd, hff⟩ := hval fs[k] (List.getElem_mem hklt)
    -- entry `k` of the table holds the address of record `k`
    obtain ⟨rest, htab⟩ := table_drop P.2 (A ++ P.1) [] k _ hoff
    rw [List.append_nil, ← hd, List.length_append] at htab
    have hread := read_exact d _ _ rest htab (Nat.le_of_lt hlt) hlen
    rw [Stored.be_length] at hread
    have haddr : unbe (be 8 (u64 (A.length + pre.length))) = A.length + pre.length := by
      rw [Stored.unbe_be8 _ (u64_lt _),
        u64_small (Nat.lt_of_le_of_lt hrin (Nat.lt_trans hlen (by decide)))]
    have hrecord := loadFieldRecord_ok d (A.length + pre.length) fs[k].1 fs[k].2
      (post ++ P.2.flatMap (be 8))
      (by rw [← List.length_append]
          exact drop_of_eq_append (by rw [hd, hrec]; simp only [List.append_assoc]))
      hrin hlen hdl hname hfd hff
    rw [hend] at hrecord
    simp only [loadFieldsLoop, mul64_small h8k, add64_inside hlen (Nat.le_of_lt hlt),
      add64_inside hlen hin8, hend, hlt, if_true, hread, haddr, hrecord, ChunkBytes.ok_bind]
    rw [ih (k + 1) _ fuel hk' hf', List.drop_eq_getElem_cons hklt]
    simp only [accOf, FieldsAcc.append, List.map_cons, List.append_assoc, List.singleton_append]

theorem loadFields_ok (d : Data) (A : Bytes) (fs : List (Nat × FieldDesc))
    (hd : d.bytes = A ++ (persistFields A.length fs).1) (hlen : d.bytes.length < 2 ^ 62)
    (hval : ∀ p ∈ fs, p.1 < 2 ^ 64 ∧ p.2.name.length < 2 ^ 64 ∧ p.2.fieldDocs < 2 ^ 64 ∧
      p.2.fieldFreqs < 2 ^ 64) :
    loadFields d (persistFields A.length fs).2 = .ok (accOf fs) := by
  have hl := congrArg List.length hd
  rw [List.length_append, persistFields_length] at hl
  unfold persistFields at hd
  rw [← List.append_assoc] at hd
  rw [loadFields, persistFields_snd, u64_small (by omega),
    loadFieldsLoop_ok d A fs hd hlen hval fs.length 0 {} (d.bytes.length + 1) (Nat.zero_add _) (by omega)]
  rfl

/-- The loop of `loadDvReaders` on the index the writer put at `dvo`: the readers are whatever
    `loadFieldDocValueReader` makes of the recorded offsets.  The position is kept in the loop's
    own form `add64 dvo read`, so that the induction hypothesis speaks of the recursive call as it
    stands. -/
theorem loadDvLoop_ok (d : Data) (dvo : Nat) (hlen : d.bytes.length < 2 ^ 62) :
    ∀ (outs : List FieldOut) (names : List Bytes) (read : Nat),
      names.length = outs.length →
      DocValues.At d.bytes (add64 dvo read) (dvIndexBytes outs) →
      (∀ o ∈ outs, o.dvStart < 2 ^ 64 ∧ o.dvEnd < 2 ^ 64 ∧
        ∃ r, DocValues.loadFieldDocValueReader d o.dvStart o.dvEnd = .ok r) →
      ∃ rs, loadDvLoop d dvo names read = .ok rs ∧ rs.length = outs.length ∧
        ∀ (i : Nat) (o : FieldOut), outs[i]? = some o →
          ∃ r, rs[i]? = some r ∧ DocValues.loadFieldDocValueReader d o.dvStart o.dvEnd = .ok r := by
  have hlen63 : d.bytes.length < 2 ^ 63 := Nat.lt_trans hlen (by decide)
  intro outs
  induction outs with
  | nil =>
    intro names read hn _ _
    have : names = [] := List.eq_nil_of_length_eq_zero (by simpa using hn)
    subst this
    exact ⟨[], rfl, rfl, fun i o h => by simp at h⟩
  | cons o outs ih =>
    intro names read hn hat hrd
    cases names with
    | nil => simp at hn
    | cons nm names =>
      obtain ⟨hs, he, r, hr⟩ := hrd o (by simp)
      simp only [dvIndexBytes, List.flatMap_cons, List.append_assoc] at hat
      have h2 := hat.right
      have h3 := h2.right
      obtain ⟨w1, r1, u1⟩ := hat.left.read_window hs hlen63
      obtain ⟨w2, r2, u2⟩ := h2.left.read_window he hlen63
      have hpos : add64 dvo (add64 (add64 read (putUvarint o.dvStart).length) (putUvarint o.dvEnd).length) =
          add64 dvo read + (putUvarint o.dvStart).length + (putUvarint o.dvEnd).length := by
        rw [add64_assoc, add64_assoc, add64_inside hlen (At.end_le hat.left), add64_inside hlen (At.end_le h2.left)]
      obtain ⟨rs, hrs, hrl, hri⟩ := ih names _ (by simpa using hn) (hpos ▸ h3)
        (fun o' ho' => hrd o' (by simp [ho']))
      refine ⟨r :: rs, ?_, by simp [hrl], ?_⟩
      · simp only [loadDvLoop, add64_assoc, add64_inside hlen (At.end_le hat.left), r1, u1, r2, u2, hr, hrs,
          ChunkBytes.ok_bind, ChunkBytes.pure_eq_ok]
      · intro i o' hi
        cases i with
        | zero =>
          simp only [List.getElem?_cons_zero, Option.some.injEq] at hi
          subst hi
          exact ⟨r, rfl, hr⟩
        | succ i => exact hri i o' hi

theorem dictionary_ok (K : Codecs) (ld : Loaded) (i dictStart : Nat) (es : List (Bytes × Nat))
    (hdl : ld.dictLocs[i]? = some dictStart) (hpos : 0 < dictStart)
    (hA : At ld.data.bytes dictStart (dictBytes K es)) (hlen : ld.data.bytes.length < 2 ^ 62)
    (hasc : ascKeys (es.map (·.1)) = true) (hv : ∀ e ∈ es, e.2 < 2 ^ 64) :
    dictionaryOf K ld i = .ok (some es) := by
  have h2 := hA.right
  obtain ⟨w, r1, u1⟩ := at_window hA.left
    (Nat.lt_trans (Nat.lt_of_le_of_lt (Nat.le_trans (Nat.le_add_left _ _) h2.end_le) hlen) (by decide))
    hlen
  have r2 := h2.read_exact (Nat.lt_trans hlen (by decide))
  simp only [dictionaryOf, hdl, hpos, if_true, add64_inside hlen hA.left.end_le,
    add64_inside hlen h2.end_le, r1, u1, r2, K.fst_rt es hasc hv, ChunkBytes.ok_bind,
    ChunkBytes.pure_eq_ok]

theorem readRecord_ok (K : Codecs) (ld : Loaded) (off tfOff locRaw : Nat) (docs : List Nat)
    (hA : At ld.data.bytes off
      (putUvarint tfOff ++ putUvarint locRaw ++ putUvarint (K.rEnc docs).length ++ K.rEnc docs))
    (hlen : ld.data.bytes.length < 2 ^ 62) (htf : tfOff < 2 ^ 64) (hloc : locRaw < 2 ^ 64)
    (hasc : docs.Pairwise (· < ·)) (h32 : ∀ d ∈ docs, d < 2 ^ 32) :
    readRecord K ld off = .ok { freqOffset := tfOff, locOffset := locRaw, docs := docs } := by
  simp only [List.append_assoc] at hA
  have h2 := hA.right
  have h3 := h2.right
  have h4 := h3.right
  obtain ⟨w1, r1, u1⟩ := at_window hA.left htf hlen
  obtain ⟨w2, r2, u2⟩ := at_window h2.left hloc hlen
  obtain ⟨w3, r3, u3⟩ := at_window h3.left
    (Nat.lt_trans (Nat.lt_of_le_of_lt (Nat.le_trans (Nat.le_add_left _ _) h4.end_le) hlen) (by decide))
    hlen
  have r4 := h4.read_exact (Nat.lt_trans hlen (by decide))
  simp only [readRecord, add64_assoc, add64_inside hlen hA.left.end_le,
    add64_inside hlen h2.left.end_le, add64_inside hlen h3.left.end_le,
    add64_inside hlen h4.end_le, r1, u1, r2, u2, r3, u3, r4, K.r_rt docs hasc h32,
    ChunkBytes.ok_bind, ChunkBytes.pure_eq_ok]

theorem writeAt_cases (c : Coder) (n : Nat) :
    ((c.writeAt n).1 = 0 ∧ (c.writeAt n).2.1 = []) ∨
    ((c.writeAt n).1 = n % two64 ∧ 0 < (c.writeAt n).2.1.length) := by
  unfold Coder.writeAt
  split
  · exact Or.inl ⟨rfl, rfl⟩
  · refine Or.inr ⟨rfl, ?_⟩
    simp only [Coder.write, List.length_append]
    have := putUvarint_length_pos (ChunkBytes.endOffsets 0 c.chunkLens).length
    omega

/-- the arithmetic of the location offset: the record holds `b - a` when both offsets are
    positive (then `a < b`: the location stream lies behind the freq/norm stream), and the reader
    adds `a` back under the same test -/
theorem locOffset_arith {a b : Nat} (hb : b < 2 ^ 62) (hab : 0 < a → 0 < b → a < b) :
    (if b > 0 ∧ a > 0 then sub64 b a else b) < 2 ^ 64 ∧
    (if (if b > 0 ∧ a > 0 then sub64 b a else b) > 0 ∧ a > 0
      then add64 (if b > 0 ∧ a > 0 then sub64 b a else b) a
      else (if b > 0 ∧ a > 0 then sub64 b a else b)) = b := by
  by_cases h : b > 0 ∧ a > 0
  · have hlt := hab h.2 h.1
    have hb64 : b < 2 ^ 64 := by omega
    rw [if_pos h, if_pos ⟨by rw [DocValues.sub64_small hb64 (Nat.le_of_lt hlt)]; omega, h.2⟩]
    exact ⟨DocValues.sub64_lt _ _, DocValues.add64_sub64 hb64⟩
  · rw [if_neg h]
    exact ⟨by omega, if_neg (fun h' => h ⟨h'.1, h'.2⟩)⟩

/-- `PostingsList.read` undoes what `writePostings` did to the location offset: the record holds
    `locOffset - tfOffset` when both streams were written, and the reader adds `freqOffset` back
    under the same test - which is the same test because the freq/norm stream is not empty. -/
theorem locOffset_roundtrip (tf' lc' : Coder) (count : Nat)
    (h : count + (tf'.writeAt count).2.1.length < 2 ^ 62) :
    let w1 := tf'.writeAt count
    let w2 := lc'.writeAt (count + w1.2.1.length)
    let raw := if w2.1 > 0 ∧ w1.1 > 0 then sub64 w2.1 w1.1 else w2.1
    raw < 2 ^ 64 ∧ w1.1 < 2 ^ 64 ∧ (w1.1 = 0 ∨ w1.1 = count) ∧
      (w2.1 = 0 ∨ w2.1 = count + w1.2.1.length) ∧
      (if raw > 0 ∧ w1.1 > 0 then add64 raw w1.1 else raw) = w2.1 := by
  intro w1 w2 raw
  have h : count + w1.2.1.length < 2 ^ 62 := h
  have hmod : ∀ n, n < 2 ^ 62 → n % two64 = n := fun n hn => Nat.mod_eq_of_lt (by unfold two64; omega)
  -- the offsets: 0 for a stream that was not written, else the position it was written at
  have h1 : w1.1 = 0 ∨ (w1.1 = count ∧ 0 < w1.2.1.length) := by
    rcases writeAt_cases tf' count with c | c
    · exact Or.inl c.1
    · exact Or.inr ⟨c.1.trans (hmod _ (by omega)), c.2⟩
  have h2 : w2.1 = 0 ∨ w2.1 = count + w1.2.1.length := by
    rcases writeAt_cases lc' (count + w1.2.1.length) with c | c
    · exact Or.inl c.1
    · exact Or.inr (c.1.trans (hmod _ h))
  obtain ⟨r1, r2⟩ := locOffset_arith (a := w1.1) (b := w2.1) (by omega) (by omega)
  exact ⟨r1, by omega, h1.imp id And.left, h2, r2⟩

open Ice.Props.ChunkBytes in
/-- `postings_streams_load` for coders that were re-sized (`SetChunkSize`) instead of newly
    created: decoders opened at the offsets `writeAt` returned (`w1`, `w2`: the two write results)
    load, for every chunk, `fnBytes` / `locBytes` of the entries of that chunk. -/
theorem postings_decoders (Kc : ChunkBytes.Codec) (cs total : Nat) (hpos : 0 < cs)
    (es : List Entry) (hs : es.Pairwise (fun a b => a.doc ≤ b.doc))
    (hidx : ∀ e ∈ es, e.doc / cs < total) (ht : 0 < total)
    (tf lc tf' lc' : Coder) (hf1 : Fresh tf) (hc1 : tf.chunkSize = cs) (hl1 : tf.lensLen = total)
    (hf2 : Fresh lc) (hc2 : lc.chunkSize = cs) (hl2 : lc.lensLen = total)
    (htf' : tf.encode Kc (tfAdds es) = .ok tf') (hlc' : lc.encode Kc (locAdds es) = .ok lc')
    (file : Bool) (pre suf : Bytes) (hpre : pre ≠ []) {w1 w2 : Nat × Bytes × Coder}
    (hw1 : tf'.writeAt pre.length = w1) (hw2 : lc'.writeAt (pre.length + w1.2.1.length) = w2)
    (hsz : (pre ++ w1.2.1 ++ w2.2.1 ++ suf).length < 2 ^ 62)
    (hsuf : file = true → 10 ≤ suf.length) :
    ∃ dt dl, ChunkBytes.Decoder.newWith file (pre ++ w1.2.1 ++ w2.2.1 ++ suf) w1.1 = .ok dt ∧
      ChunkBytes.Decoder.newWith file (pre ++ w1.2.1 ++ w2.2.1 ++ suf) w2.1 = .ok dl ∧
      ∀ c, c < total →
        dt.loadChunk Kc c = .ok (ChunkBytes.fnBytes (chunkOf cs es c)) ∧
        dl.loadChunk Kc c = .ok (ChunkBytes.locBytes (chunkOf cs es c)) := by
  subst hw1
  have hidx1 : ∀ a ∈ tfAdds es, a.1 / cs < total := fun a ha => by
    obtain ⟨e, he, h⟩ := (adds_doc es).1 a ha; exact h ▸ hidx e he
  have hidx2 : ∀ a ∈ locAdds es, a.1 / cs < total := fun a ha => by
    obtain ⟨e, he, h⟩ := (adds_doc es).2 a ha; exact h ▸ hidx e he
  obtain ⟨hs1, hs2⟩ := T7_sorted cs es hs
  rw [← List.length_append] at hw2
  subst hw2
  -- the first stream lies behind `pre`, the second behind `pre` and the first
  obtain ⟨dt, hdt, hlt⟩ := T6_writeAt Kc tf hf1 cs total hc1 hpos hl1 ht (tfAdds es) hs1
    hidx1 tf' htf' file pre (_ ++ suf) hpre (by rw [← List.append_assoc]; exact hsz)
    (fun h => by rw [List.length_append]; exact Nat.le_trans (hsuf h) (Nat.le_add_left _ _))
  obtain ⟨dl, hdl, hll⟩ := T6_writeAt Kc lc hf2 cs total hc2 hpos hl2 ht (locAdds es) hs2
    hidx2 lc' hlc' file (pre ++ _) suf (by simp [hpre]) hsz hsuf
  rw [← List.append_assoc] at hdt
  refine ⟨dt, dl, hdt, hdl, fun c hc => ⟨?_, ?_⟩⟩
  · rw [hlt c hc, (T7_chunks cs es c).1]
  · rw [hll c hc, (T7_chunks cs es c).2]

/-- what the readers find at the FST value `v` of a term: the document and norm of a 1-hit term;
    for a general term `v` is an offset into the data (never mistaken for a 1-hit value) at which
    `readPostings` finds the record, and chunked-int decoders opened at the two offsets it yields
    load, chunk by chunk, the freq/norm bytes and the location bytes of the entries of that chunk -/
def TermReads (K : Codecs) (ld : Loaded) (mode nd v : Nat) : TermDesc → Prop
  | .oneHit d n => v = encode1Hit d n ∧ readPostings K ld v = .ok (.oneHit d n)
  | .general es => 0 < v ∧ v < ld.data.bytes.length ∧ is1Hit v = false ∧
    ∃ fo lo raw cs, readPostings K ld v = .ok (.general fo lo (es.map (·.doc)) cs) ∧
      ld.store K v = some { freqOffset := fo, locOffset := raw, docs := es.map (·.doc) } ∧
      getChunkSize mode es.length nd = .ok cs ∧ 0 < cs ∧
      ∀ file : Bool, ∃ dt dl,
        ChunkBytes.Decoder.newWith file ld.data.bytes fo = .ok dt ∧
        ChunkBytes.Decoder.newWith file ld.data.bytes lo = .ok dl ∧
        ∀ c, c < (nd - 1) / cs + 1 →
          dt.loadChunk K.chunk c = .ok (ChunkBytes.fnBytes (Ice.Props.ChunkBytes.chunkOf cs es c)) ∧
          dl.loadChunk K.chunk c = .ok (ChunkBytes.locBytes (Ice.Props.ChunkBytes.chunkOf cs es c))

theorem TermReads.value {K : Codecs} {ld : Loaded} {mode nd v : Nat} {td : TermDesc}
    (h : TermReads K ld mode nd v td) (hlen : ld.data.bytes.length < 2 ^ 62) :
    0 < v ∧ v < 2 ^ 64 := by
  cases td with
  | oneHit d n => exact h.1 ▸ ⟨encode1Hit_pos d n, encode1Hit_lt d n⟩
  | general es => exact ⟨h.1, Nat.lt_trans (Nat.lt_trans h.2.1 hlen) (by decide)⟩

/-- A valid term whose bytes `tb` lie at a positive offset of the data section of a segment with
    the writer's chunk mode and document count is read back at the value the writer returned. -/
theorem term_read (K : Codecs) (ld : Loaded) {merger : Bool} {mode nd : Nat} {t : Bytes × TermDesc}
    {tb : Bytes} {c v : Nat} (hat : At ld.data.bytes c tb) (hc : 0 < c)
    (hlen : ld.data.bytes.length < 2 ^ 62)
    (hmode : ld.footer.chunkMode = mode) (hnd : ld.footer.numDocs = nd) (hn32 : nd < 2 ^ 32)
    (hval : t.2.Valid merger nd) (htp : TermPost K mode nd t c tb v) :
    TermReads K ld mode nd v t.2 := by
  obtain ⟨key, td⟩ := t
  cases td with
  | oneHit d n =>
    obtain ⟨-, rfl⟩ := htp
    obtain ⟨-, hd31, hn31, -⟩ := hval
    refine ⟨rfl, ?_⟩
    unfold readPostings
    rw [if_pos (is1Hit_encode d n), decode_encode1Hit d n hd31 hn31]
  | general es =>
  have hok : EntriesOK nd es := hval.2
  obtain ⟨cs, tf0, lc0, tf', lc', hcs, hcspos, hf1, hc1, hl1, hf2, hc2, hl2, htf', hlc', hb, hv⟩ := htp
  have hidx : ∀ e ∈ es, e.doc / cs < (nd - 1) / cs + 1 := fun e he =>
    chunk_index_lt cs e.doc (nd - 1) (Nat.le_sub_one_of_lt (hok.2.2 e he))
  -- name what the two streams wrote; the record, which is not empty, lies behind them
  generalize hw1 : tf'.writeAt c = w1 at hb hv
  generalize hw2 : lc'.writeAt (c + w1.2.1.length) = w2 at hb hv
  have hrecAt := (hb ▸ hat).right
  have hv62 := Nat.lt_of_le_of_lt (hb ▸ hat).left.end_le hlen
  rw [List.length_append, ← Nat.add_assoc] at hrecAt hv62
  obtain ⟨hraw, hw1lt, -, -, hadj⟩ := locOffset_roundtrip tf' lc' c
    (hw1 ▸ Nat.lt_of_le_of_lt (Nat.le_add_right _ _) hv62)
  simp only [hw1, hw2] at hraw hw1lt hadj
  rw [u64_small (Nat.lt_trans hv62 (by decide))] at hv
  have hrec := readRecord_ok K ld v w1.1 _ (es.map (·.doc)) (hv ▸ hrecAt) hlen hw1lt
    hraw (List.pairwise_map.mpr hok.2.1)
    (fun d hd => by
      obtain ⟨e, he, rfl⟩ := List.mem_map.mp hd
      exact Nat.lt_trans (hok.2.2 e he) hn32)
  have h1 : is1Hit v = false := is1Hit_offset v (hv ▸ hv62)
  refine ⟨hv ▸ Nat.add_pos_left (Nat.add_pos_left hc _) _,
    Nat.lt_of_lt_of_le (Nat.lt_add_of_pos_right (postingsRecord_length_pos K _ _ _)) (hv ▸ hrecAt.end_le),
    h1, w1.1, w2.1, if w2.1 > 0 ∧ w1.1 > 0 then sub64 w2.1 w1.1 else w2.1, cs, ?_, ?_, hcs, hcspos, ?_⟩
  · simp only [readPostings, h1, Bool.false_eq_true, if_false, hrec, ChunkBytes.ok_bind, hmode, hnd,
      List.length_map, hcs, hadj, ChunkBytes.pure_eq_ok]
  · rw [Loaded.store, hrec]
  · intro file
    obtain ⟨pre, suf, hd, rfl, hsuf⟩ := hat.split
    have hdata : ld.data.bytes =
        pre ++ w1.2.1 ++ w2.2.1 ++ (postingsRecord K w1.1 w2.1 (es.map (·.doc)) ++ suf) := by
      rw [hd, hb]; simp only [List.append_assoc]
    have := postings_decoders K.chunk cs ((nd - 1) / cs + 1) hcspos es hok.sorted hidx
      (Nat.succ_pos _) tf0 lc0 tf' lc' hf1 hc1 hl1 hf2 hc2 hl2 htf' hlc' file pre
      (postingsRecord K w1.1 w2.1 (es.map (·.doc)) ++ suf) (List.ne_nil_of_length_pos hc) hw1 hw2
      (hdata ▸ hlen)
      (fun _ => by rw [List.length_append]; exact Nat.le_trans hsuf (Nat.le_add_left _ _))
    rwa [← hdata] at this

/-- A valid field whose bytes `b` lie at a positive offset of the data section of `ld`, its
    dictionary location standing at index `i` of the table: `dictionaryOf` finds its FST, which
    holds the term keys in order, each with a value at which the term is read back. -/
theorem field_read (K : Codecs) (ld : Loaded) {merger : Bool} {mode nd c i : Nat} {f : FieldDesc}
    {b : Bytes} {o : FieldOut} (hat : At ld.data.bytes c b) (hc : 0 < c)
    (hlen : ld.data.bytes.length < 2 ^ 62)
    (hmode : ld.footer.chunkMode = mode) (hnd : ld.footer.numDocs = nd) (hn32 : nd < 2 ^ 32)
    (hval : ∀ t ∈ f.terms, t.2.Valid merger nd) (hp : FieldPost K merger mode nd f c b o)
    (hdl : ld.dictLocs[i]? = some o.dictLoc) :
    ∃ fst, dictionaryOf K ld i = .ok (some fst) ∧ fst.map (·.1) = f.terms.map (·.1) ∧
      ∀ (j : Nat) (key : Bytes) (td : TermDesc), f.terms[j]? = some (key, td) →
        ∃ v, fst[j]? = some (key, v) ∧ TermReads K ld mode nd v td := by
  obtain ⟨tb, vals, sec, hvl, hel, hasc, hb, hdl', -⟩ := hp
  have hat' := hb ▸ hat
  have hterm : ∀ (j : Nat) (t : Bytes × TermDesc), f.terms[j]? = some t →
      ∃ v, vals[j]? = some v ∧ TermReads K ld mode nd v t.2 := by
    intro j t ht
    obtain ⟨Tpre, tbj, Tpost, v, htb, hvj, htp⟩ := hel j t ht
    exact ⟨v, hvj, term_read K ld (hat'.left.left.sub htb) (Nat.add_pos_left hc _) hlen hmode hnd hn32
      (hval t (List.mem_of_getElem? ht)) htp⟩
  have hvals : ∀ v ∈ vals, 0 < v ∧ v < 2 ^ 64 :=
    forall_mem_of_index hvl (fun j t ht => by
      obtain ⟨v, hv', hr⟩ := hterm j t ht
      exact ⟨v, hv', hr.value hlen⟩)
  rw [fstEntries_eq f.terms vals (fun v hvm => (hvals v hvm).1)] at hasc hat'
  -- the dictionary lies behind the terms' bytes
  rw [hdl', u64_small (Nat.lt_trans (Nat.lt_of_le_of_lt hat'.left.left.end_le hlen) (by decide))] at hdl
  refine ⟨_, dictionary_ok K ld i _ _ hdl (Nat.add_pos_left hc _) hat'.left.right hlen hasc
    (fun e he => (hvals e.2 (List.of_mem_zip he).2).2), ?_, fun j key td ht => ?_⟩
  · rw [List.map_fst_zip]; simp [hvl]
  · obtain ⟨v, hvj, hr⟩ := hterm j _ ht
    exact ⟨v, List.getElem?_zip_eq_some.mpr ⟨by rw [List.getElem?_map, ht]; rfl, hvj⟩, hr⟩

open Ice.Props in
/-- A field whose bytes lie in the data `d`: `loadFieldDocValueReader` at the two recorded offsets
    finds no reader for a field without doc values, and otherwise opens the column, which lies
    there as the writer of C07 wrote it (`C07.Placed`). -/
theorem field_dv (K : Codecs) (d : Data) {merger : Bool} {mode nd c : Nat} {f : FieldDesc}
    {b : Bytes} {o : FieldOut} (hat : At d.bytes c b) (hlen : d.bytes.length < 2 ^ 62)
    (hp : FieldPost K merger mode nd f c b o)
    (hvalid : ∀ vals, f.dv = some vals → C07.Valid dvChunk (nd - 1) vals) :
    o.dvStart < 2 ^ 64 ∧ o.dvEnd < 2 ^ 64 ∧
      ∃ r, DocValues.loadFieldDocValueReader d o.dvStart o.dvEnd = .ok r ∧ (f.dv = none → r = none) ∧
        ∀ vals, f.dv = some vals → ∃ r0, r = some r0 ∧
          C07.Placed (dvMode merger) K.dv dvChunk (nd - 1) vals d o.dvStart o.dvEnd := by
  obtain ⟨tb, vals, sec, -, -, -, hb, -, hdv⟩ := hp
  cases hfd : f.dv with
  | none =>
    rw [hfd] at hdv
    obtain ⟨-, h1, h2⟩ := hdv
    exact ⟨by rw [h1]; decide, by rw [h2]; decide, none, h1 ▸ C07.C07_no_docvalues _ _,
      fun _ => rfl, nofun⟩
  | some dvals =>
    rw [hfd] at hdv
    obtain ⟨s, e, hwr, h1, h2⟩ := hdv
    generalize dictBytes K (fstEntries f.terms vals) = db at hb hwr
    rw [Nat.add_assoc, ← List.length_append] at hwr
    have hP := C07.Placed.of_at (hvalid dvals hfd) hwr (hb ▸ hat).right (Nat.lt_trans hlen (by decide))
    -- the recorded offsets are the section's two ends, inside the data section
    have hel : e < 2 ^ 64 := hP.dvEnd_eq ▸ Nat.lt_trans (Nat.lt_of_le_of_lt hP.sec.end_le hlen) (by decide)
    have hs : s ≤ e := hP.dvEnd_eq ▸ Nat.le_add_right _ _
    rw [← u64_small (Nat.lt_of_le_of_lt hs hel), ← h1, ← u64_small hel, ← h2] at hP
    obtain ⟨_, _, -, ⟨r0, hr0, -⟩, -⟩ := hP.spec
    exact ⟨h1 ▸ u64_lt _, h2 ▸ u64_lt _, some r0, hr0, nofun, fun v hv' => by
      cases hv'; exact ⟨r0, rfl, hP⟩⟩

end Ice.Model.Format
