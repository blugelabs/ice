import IceModel.Model.MergeLoop
import IceModel.Lemmas.Sort
import IceModel.Lemmas.Merge
/-
  The enumerator (enumerator.go) delivers the ordered join of its iterators: running a loop body
  over a fresh enumerator is folding the body over `expectedFull` (`run_spec`).

  The proof goes phase by phase: a phase is the run from one `updateMatches` to the next, during
  which the enumerator stands on one key and walks through the iterators holding it.  The state
  right after `updateMatches` depends on the iterators alone (`phaseState`); it names the least
  first key `k` and the iterators standing on it (`phaseState_cases`).  The loop delivers these
  one by one (`loop_within`); the `Next` after the last of them steps exactly these iterators and
  ends in the `phaseState` of the stepped ones (`next_phase`).  On the other side `expectedFull`
  splits into the deliveries of `k` and the `expectedFull` of the stepped contents
  (`expectedFull_phase`).  So the induction (`loop_phases`) is on the number of pairs still to come.
-/
namespace Ice.Model.MergeLoop
open Ice Ice.Spec

/-- the slice the enumerator shows for key `k`: the empty key is only ever seen as nil -/
def keyOf (k : Bytes) : Key := if k.isEmpty then none else some k

@[simp] theorem keyOf_bytes (k : Bytes) : (keyOf k).bytes = k := by
  unfold keyOf
  cases k <;> simp [Key.bytes]

theorem cmp_nil_not_gt (k : Bytes) : Bytes.cmp [] k ≠ .gt := by
  cases k <;> simp [Bytes.cmp]

theorem ne_nil_of_lt {a b : Bytes} (h : Bytes.cmp a b = .lt) : b ≠ [] := by
  intro hb; subst hb
  cases a <;> simp [Bytes.cmp] at h

def keyLe (a b : Bytes) : Prop := a = b ∨ Bytes.cmp a b = .lt

theorem keyLe_nil (k : Bytes) : keyLe [] k := by
  cases k with
  | nil => left; rfl
  | cons a r => right; simp [Bytes.cmp]

theorem keyLe_trans_lt {a b c : Bytes} (h1 : keyLe a b) (h2 : Bytes.cmp b c = .lt) :
    Bytes.cmp a c = .lt := by
  rcases h1 with rfl | h1
  · exact h2
  · exact Bytes.cmp_lt_trans h1 h2

theorem lt_trans_keyLe {a b c : Bytes} (h1 : Bytes.cmp a b = .lt) (h2 : keyLe b c) :
    Bytes.cmp a c = .lt := by
  rcases h2 with rfl | h2
  · exact h1
  · exact Bytes.cmp_lt_trans h1 h2

/-- the value of key `k` in an FST -/
def lookupK {β : Type} (k : Bytes) : List (Bytes × β) → Option β
  | [] => none
  | (k', v) :: r => if k' = k then some v else lookupK k r

/-- (iterator index, value) for every iterator holding `k`, in index order -/
def holdersAt (ls : List (List (Bytes × Nat))) (k : Bytes) (i : Nat) : List (Nat × Nat) :=
  (ls.zipIdx i).filterMap (fun p => (lookupK k p.1).map (fun v => (p.2, v)))

def holders (ls : List (List (Bytes × Nat))) (k : Bytes) : List (Nat × Nat) := holdersAt ls k 0

/-- all keys, ascending, each once -/
def allKeys (ls : List (List (Bytes × Nat))) : List Bytes :=
  sortDedup (ls.flatMap (fun l => l.map (·.1)))

/-- what an enumerator over iterators with contents `ls` delivers: for every key in ascending
    order, for every iterator holding it in index order, `(key, index, value)` - together with
    the answer of `GetLowIdxsAndValues` at that moment -/
def expectedFull (ls : List (List (Bytes × Nat))) :
    List ((Key × Nat × Nat) × List (Nat × Nat)) :=
  (allKeys ls).flatMap (fun k =>
    (holders ls k).map (fun iv => ((keyOf k, iv.1, iv.2), holders ls k)))

theorem lookupK_eq_none {β : Type} (k : Bytes) (l : List (Bytes × β))
    (h : ∀ p ∈ l, p.1 ≠ k) : lookupK k l = none := by
  induction l with
  | nil => rfl
  | cons p r ih =>
    rw [lookupK, if_neg (h p (by simp))]
    exact ih (fun p hp => h p (by simp [hp]))

theorem lookupK_mem {β : Type} {k : Bytes} {l : List (Bytes × β)} {v : β}
    (h : lookupK k l = some v) : (k, v) ∈ l := by
  induction l with
  | nil => cases h
  | cons p r ih =>
    obtain ⟨k', v'⟩ := p
    rw [lookupK] at h
    split at h
    · next hk => cases h; subst hk; exact List.mem_cons_self
    · exact List.mem_cons_of_mem _ (ih h)

theorem lookupK_of_mem {β : Type} {k : Bytes} {l : List (Bytes × β)} {v : β}
    (hasc : Asc (l.map (·.1))) (h : (k, v) ∈ l) : lookupK k l = some v := by
  induction l with
  | nil => cases h
  | cons p r ih =>
    obtain ⟨k', v'⟩ := p
    have hp := List.pairwise_cons.1 hasc
    rcases List.mem_cons.1 h with e | h
    · cases e; exact if_pos rfl
    · have : k' ≠ k := by
        intro e; subst e
        exact Bytes.cmp_lt_irrefl _ (hp.1 k' (List.mem_map.2 ⟨(k', v), h, rfl⟩))
      rw [lookupK, if_neg this]
      exact ih hp.2 h

theorem holdersAt_cons (l : List (Bytes × Nat)) (ls : List (List (Bytes × Nat))) (k : Bytes)
    (i : Nat) :
    holdersAt (l :: ls) k i =
      (lookupK k l).toList.map (fun v => (i, v)) ++ holdersAt ls k (i + 1) := by
  simp only [holdersAt, List.zipIdx_cons, List.filterMap_cons]
  cases lookupK k l <;> rfl

theorem holdersAt_append (ls₁ ls₂ : List (List (Bytes × Nat))) (k : Bytes) (i : Nat) :
    holdersAt (ls₁ ++ ls₂) k i = holdersAt ls₁ k i ++ holdersAt ls₂ k (i + ls₁.length) := by
  simp only [holdersAt, List.zipIdx_append, List.filterMap_append]

theorem mem_holdersAt (k : Bytes) (ls : List (List (Bytes × Nat))) (i j v : Nat) :
    (j, v) ∈ holdersAt ls k i ↔ i ≤ j ∧ ∃ l, ls[j - i]? = some l ∧ lookupK k l = some v := by
  simp only [holdersAt, List.mem_filterMap, Prod.exists, Option.map_eq_some_iff, Prod.mk.injEq,
    List.mk_mem_zipIdx_iff_le_and_getElem?_sub]
  constructor
  · rintro ⟨l, j', ⟨h1, h2⟩, v', h3, rfl, rfl⟩
    exact ⟨h1, l, h2, h3⟩
  · rintro ⟨h1, l, h2, h3⟩
    exact ⟨l, j, ⟨h1, h2⟩, v, h3, rfl, rfl⟩

theorem holdersAt_fst_lt (k : Bytes) (ls : List (List (Bytes × Nat))) (i : Nat) :
    ((holdersAt ls k i).map (·.1)).Pairwise (· < ·) := by
  rw [holdersAt, List.pairwise_map, List.pairwise_filterMap]
  refine (zipIdx_snd_lt ls i).imp (fun h b hb b' hb' => ?_)
  obtain ⟨v, _, rfl⟩ := Option.map_eq_some_iff.1 hb
  obtain ⟨v', _, rfl⟩ := Option.map_eq_some_iff.1 hb'
  exact h

theorem holdersAt_map_congr (f : List (Bytes × Nat) → List (Bytes × Nat)) (k : Bytes)
    (ls : List (List (Bytes × Nat))) (i : Nat) (h : ∀ l ∈ ls, lookupK k (f l) = lookupK k l) :
    holdersAt (ls.map f) k i = holdersAt ls k i := by
  induction ls generalizing i with
  | nil => rfl
  | cons l ls ih =>
    rw [List.map_cons, holdersAt_cons, holdersAt_cons, h l (by simp),
      ih (i + 1) (fun l hl => h l (by simp [hl]))]

/-- what the proof knows about an iterator at the moment `updateMatches skip` runs: in
    `newEnumerator` (`skip = false`) it is fresh, after a phase (`skip = true`) the empty key, the
    least of all, is behind it.  Either way `Current` shows `keyOf` of the key the iterator stands
    on, and `skipCond` holds exactly of the drained iterators (`current_live`, `current_drained`) -/
structure Good (skip : Bool) (it : VIter) : Prop where
  asc : Asc (it.rest.map (·.1))
  noEmptyKey : skip = true → ∀ p ∈ it.rest, p.1 ≠ []
  fresh : skip = false → it = VIter.fresh it.rest ∧ ∀ v, ([], v) ∈ it.rest → v ≠ 0

/-- the test at enumerator.go:63-64 -/
def skipCond (skip : Bool) (kv : Key × Nat) : Bool :=
  (kv.1.isNone && kv.2 == 0) || (kv.1.bytes.length == 0 && skip)

theorem current_drained {skip : Bool} {it : VIter} (g : Good skip it) (h : it.rest = []) :
    skipCond skip it.current = true := by
  cases skip with
  | true =>
    simp only [VIter.current, h, skipCond]
    cases it.root <;> cases it.touched <;> simp [Key.bytes]
  | false =>
    have := (g.fresh rfl).1
    rw [h] at this
    rw [this]
    rfl

theorem current_live {skip : Bool} {it : VIter} (g : Good skip it) {k : Bytes} {v : Nat}
    {t : List (Bytes × Nat)} (h : it.rest = (k, v) :: t) :
    it.current = (keyOf k, v) ∧ skipCond skip (keyOf k, v) = false := by
  cases skip with
  | true =>
    have hk : k ≠ [] := g.noEmptyKey rfl (k, v) (by rw [h]; simp)
    cases k with
    | nil => exact absurd rfl hk
    | cons a r => exact ⟨by simp [VIter.current, h, keyOf], rfl⟩
  | false =>
    obtain ⟨hf, hv⟩ := g.fresh rfl
    rw [hf, h]
    cases k with
    | nil =>
      have : v ≠ 0 := hv v (by rw [h]; simp)
      exact ⟨rfl, by simp [skipCond, keyOf, this]⟩
    | cons a r => exact ⟨rfl, rfl⟩

theorem umLoop_snoc (skip : Bool) (l : List (Key × Nat)) (x : Key × Nat) (i : Nat)
    (st : Key × List Nat) :
    umLoop skip (l ++ [x]) i st = umStep skip (umLoop skip l i st) (i + l.length) x.1 x.2 := by
  induction l generalizing i st with
  | nil => rfl
  | cons a r ih =>
    simp only [List.cons_append, umLoop, ih, List.length_cons]
    congr 1
    rw [Nat.add_assoc, Nat.add_comm 1]

theorem umStep_skip {skip : Bool} {kv : Key × Nat} (h : skipCond skip kv = true)
    (st : Key × List Nat) (i : Nat) : umStep skip st i kv.1 kv.2 = st :=
  if_pos h

theorem umStep_live {skip : Bool} {k : Bytes} {v : Nat} (h : skipCond skip (keyOf k, v) = false)
    (st : Key × List Nat) (i : Nat) :
    umStep skip st i (keyOf k) v =
      if Bytes.cmp k st.1.bytes = .lt ∨ st.2 = [] then (keyOf k, [i])
      else if Bytes.cmp k st.1.bytes = .eq then (st.1, st.2 ++ [i]) else st := by
  have h' : ¬ ((((keyOf k).isNone && v == 0) || ((keyOf k).bytes.length == 0 && skip)) = true) :=
    Bool.eq_false_iff.1 h
  rw [umStep, if_neg h']
  simp only [keyOf_bytes, Bool.or_eq_true, beq_iff_eq, List.length_eq_zero_iff]

/-- (index, value) of the lists in `ls` (numbered from `i`) whose first key is `k`: the holders of
    `k` among the lists cut down to their first pair, so that the lemmas on `holdersAt` apply -/
def headHolders (k : Bytes) (ls : List (List (Bytes × Nat))) (i : Nat) : List (Nat × Nat) :=
  holdersAt (ls.map (List.take 1)) k i

theorem lookupK_take_one {β : Type} (k k' : Bytes) (v : β) (t : List (Bytes × β)) :
    lookupK k (((k', v) :: t).take 1) = if k' = k then some v else none := rfl

theorem headHolders_cons (k : Bytes) (l : List (Bytes × Nat)) (ls : List (List (Bytes × Nat)))
    (i : Nat) :
    headHolders k (l :: ls) i =
      (lookupK k (l.take 1)).toList.map (fun v => (i, v)) ++ headHolders k ls (i + 1) :=
  holdersAt_cons _ _ _ _

theorem of_mem_headHolders {k : Bytes} {ls : List (List (Bytes × Nat))} {i j v : Nat}
    (h : (j, v) ∈ headHolders k ls i) : ∃ t, ls[j - i]? = some ((k, v) :: t) := by
  obtain ⟨_, l, hl, hv⟩ := (mem_holdersAt _ _ _ _ _).1 h
  rw [List.getElem?_map] at hl
  obtain ⟨l', hl', rfl⟩ := Option.map_eq_some_iff.1 hl
  rcases l' with _ | ⟨⟨k', v'⟩, t⟩
  · cases hv
  · rw [lookupK_take_one] at hv
    split at hv
    · next hk => cases hv; subst hk; exact ⟨t, hl'⟩
    · cases hv

theorem headHolders_snoc (k : Bytes) (ls : List (List (Bytes × Nat))) (l : List (Bytes × Nat)) :
    headHolders k (ls ++ [l]) 0 =
      headHolders k ls 0 ++ (lookupK k (l.take 1)).toList.map (fun v => (ls.length, v)) := by
  simp only [headHolders, List.map_append, List.map_cons, List.map_nil, holdersAt_append,
    holdersAt_cons, List.length_map, Nat.zero_add]
  exact congrArg _ (List.append_nil _)

theorem headHolders_eq_nil {k : Bytes} {ls : List (List (Bytes × Nat))} (i : Nat)
    (h : ∀ l ∈ ls, ∀ v t, l ≠ (k, v) :: t) : headHolders k ls i = [] := by
  apply List.eq_nil_iff_forall_not_mem.2
  rintro ⟨j, v⟩ hjv
  obtain ⟨t, ht⟩ := of_mem_headHolders hjv
  exact h _ (List.mem_of_getElem? ht) v t rfl

theorem current_of_mem_headHolders {skip : Bool} {its : List VIter}
    (hg : ∀ it ∈ its, Good skip it) {k : Bytes} {iv : Nat × Nat}
    (h : iv ∈ headHolders k (its.map (·.rest)) 0) :
    ∃ key, (its.map VIter.current)[iv.1]? = some (key, iv.2) := by
  obtain ⟨t, ht⟩ := of_mem_headHolders (j := iv.1) (v := iv.2) h
  rw [Nat.sub_zero, List.getElem?_map] at ht
  obtain ⟨it, hj, ht⟩ := Option.map_eq_some_iff.1 ht
  exact ⟨keyOf k, by rw [List.getElem?_map, hj, Option.map_some,
    (current_live (hg it (List.mem_of_getElem? hj)) ht).1]⟩

/-- `k` is not above the first key of `l` -/
def LeHead (k : Bytes) (l : List (Bytes × Nat)) : Prop :=
  ∀ k' v' t, l = (k', v') :: t → keyLe k k'

def LeHeads (k : Bytes) (ls : List (List (Bytes × Nat))) : Prop := ∀ l ∈ ls, LeHead k l

/-- what `updateMatches` has found after looking at iterators with contents `ls`: nothing while
    all are drained, else the least first key and the indexes of the iterators standing on it -/
def LowOf (ls : List (List (Bytes × Nat))) (st : Key × List Nat) : Prop :=
  ((∀ l ∈ ls, l = []) ∧ st = (none, [])) ∨
  ∃ k, st = (keyOf k, (headHolders k ls 0).map (·.1)) ∧ headHolders k ls 0 ≠ [] ∧ LeHeads k ls

theorem lowOf_drained {ls : List (List (Bytes × Nat))} {st : Key × List Nat} (h : LowOf ls st) :
    LowOf (ls ++ [[]]) st := by
  have hm : ∀ {P : List (Bytes × Nat) → Prop}, (∀ l ∈ ls, P l) → P [] → ∀ l ∈ ls ++ [[]], P l :=
    fun h1 h2 => List.forall_mem_append.2 ⟨h1, List.forall_mem_singleton.2 h2⟩
  rcases h with ⟨h1, h2⟩ | ⟨k, h1, h2, h3⟩
  · exact Or.inl ⟨hm h1 rfl, h2⟩
  · have e : headHolders k (ls ++ [[]]) 0 = headHolders k ls 0 := by
      rw [headHolders_snoc]; exact List.append_nil _
    exact Or.inr ⟨k, by rw [e]; exact h1, by rw [e]; exact h2, hm h3 (fun _ _ _ e => by cases e)⟩

theorem lowOf_live {ls : List (List (Bytes × Nat))} {st : Key × List Nat} (h : LowOf ls st)
    (k' : Bytes) (v' : Nat) (t : List (Bytes × Nat)) :
    LowOf (ls ++ [(k', v') :: t])
      (if Bytes.cmp k' st.1.bytes = .lt ∨ st.2 = [] then (keyOf k', [ls.length])
       else if Bytes.cmp k' st.1.bytes = .eq then (st.1, st.2 ++ [ls.length]) else st) := by
  have hm : ∀ {k : Bytes}, LeHeads k ls → keyLe k k' → LeHeads k (ls ++ [(k', v') :: t]) :=
    fun h1 h2 => List.forall_mem_append.2
      ⟨h1, List.forall_mem_singleton.2 fun _ _ _ e => by cases e; exact h2⟩
  have hnew : (∀ l ∈ ls, ∀ k'' v'' t'', l = (k'', v'') :: t'' → Bytes.cmp k' k'' = .lt) →
      LowOf (ls ++ [(k', v') :: t]) (keyOf k', [ls.length]) := by
    intro hlt
    have hh : headHolders k' (ls ++ [(k', v') :: t]) 0 = [(ls.length, v')] := by
      rw [headHolders_snoc, lookupK_take_one, if_pos rfl, headHolders_eq_nil 0 fun l hl v t e =>
        Bytes.cmp_lt_irrefl _ (hlt l hl k' v t e)]
      rfl
    exact Or.inr ⟨k', by rw [hh]; rfl, by rw [hh]; exact List.cons_ne_nil _ _,
      hm (fun l hl k'' v'' t'' e => Or.inr (hlt l hl k'' v'' t'' e)) (Or.inl rfl)⟩
  rcases h with ⟨h1, h2⟩ | ⟨k, h1, h2, h3⟩
  · rw [h2, if_pos (Or.inr rfl)]
    exact hnew fun l hl _ _ _ e => by rw [h1 l hl] at e; cases e
  · have hne : (headHolders k ls 0).map (·.1) ≠ [] := by simpa using h2
    have hne' : headHolders k (ls ++ [(k', v') :: t]) 0 ≠ [] := by
      rw [headHolders_snoc]; exact List.append_ne_nil_of_left_ne_nil h2 _
    rw [h1]
    simp only [keyOf_bytes, hne, or_false]
    rcases hcmp : Bytes.cmp k' k with _ | _ | _
    · rw [if_pos rfl]
      exact hnew fun l hl k'' v'' t'' e => lt_trans_keyLe hcmp (h3 l hl k'' v'' t'' e)
    · have hkk : k' = k := (Bytes.cmp_eq_iff _ _).1 hcmp
      subst hkk
      refine Or.inr ⟨k', ?_, hne', hm h3 (Or.inl rfl)⟩
      simp only [reduceCtorEq, if_false, headHolders_snoc, lookupK_take_one, if_true,
        Option.toList_some, List.map_append, List.map_cons, List.map_nil]
    · have hkk : k' ≠ k := by
        intro he; subst he; rw [Bytes.cmp_self] at hcmp; cases hcmp
      refine Or.inr ⟨k, ?_, hne', hm h3 (Or.inr ((Bytes.cmp_swap _ _).1 hcmp))⟩
      simp only [reduceCtorEq, headHolders_snoc, lookupK_take_one, hkk, if_false,
        Option.toList_none, List.map_nil, List.append_nil]

theorem umLoop_spec (skip : Bool) (its : List VIter) (hg : ∀ it ∈ its, Good skip it) :
    LowOf (its.map (·.rest)) (umLoop skip (its.map VIter.current) 0 (none, [])) := by
  induction its using snoc_induction with
  | nil => exact Or.inl ⟨by simp, rfl⟩
  | snoc its it ih =>
    have g : Good skip it := hg it (by simp)
    specialize ih (fun x hx => hg x (by simp [hx]))
    simp only [List.map_append, List.map_cons, List.map_nil, umLoop_snoc, List.length_map,
      Nat.zero_add]
    rcases hr : it.rest with _ | ⟨⟨k', v'⟩, t⟩
    · rw [umStep_skip (current_drained g hr)]
      exact lowOf_drained ih
    · obtain ⟨hc, hns⟩ := current_live g hr
      rw [hc, umStep_live hns]
      have := lowOf_live ih k' v' t
      rwa [List.length_map] at this

def mkE (its : List VIter) : Enum :=
  { itrs := its, curr := its.map VIter.current, lowK := none, lowIdxs := [], lowCurr := 0 }

/-- the enumerator right after `updateMatches skip` -/
def phaseState (skip : Bool) (its : List VIter) : Enum := (mkE its).updateMatches skip

theorem phaseState_cases (skip : Bool) (its : List VIter) (hg : ∀ it ∈ its, Good skip it) :
    ((∀ it ∈ its, it.rest = []) ∧ (phaseState skip its).isDone = true) ∨
    ∃ k, phaseState skip its = Enum.mk its (its.map VIter.current) (keyOf k)
        ((headHolders k (its.map (·.rest)) 0).map (·.1)) 0 ∧
      headHolders k (its.map (·.rest)) 0 ≠ [] ∧ LeHeads k (its.map (·.rest)) := by
  rcases umLoop_spec skip its hg with ⟨h1, h2⟩ | ⟨k, h1, h2, h3⟩
  · exact Or.inl ⟨List.forall_mem_map.1 h1,
      by simp only [phaseState, Enum.updateMatches, mkE, h2]; rfl⟩
  · exact Or.inr ⟨k, by simp only [phaseState, Enum.updateMatches, mkE, h1], h2, h3⟩

/-- fold of a loop body over predicted deliveries -/
def foldBody {σ : Type}
    (body : σ → Key × Nat × Nat → Except MergeErr (List (Nat × Nat)) → Except MergeErr σ) :
    List ((Key × Nat × Nat) × List (Nat × Nat)) → σ → Except MergeErr σ
  | [], s => .ok s
  | (c, lw) :: r, s =>
    match body s c (.ok lw) with
    | .error e => .error e
    | .ok s' => foldBody body r s'

theorem foldBody_append {σ : Type}
    (body : σ → Key × Nat × Nat → Except MergeErr (List (Nat × Nat)) → Except MergeErr σ)
    (l₁ l₂ : List ((Key × Nat × Nat) × List (Nat × Nat))) (s : σ) :
    foldBody body (l₁ ++ l₂) s =
      match foldBody body l₁ s with
      | .error e => .error e
      | .ok s' => foldBody body l₂ s' := by
  induction l₁ generalizing s with
  | nil => rfl
  | cons a r ih =>
    obtain ⟨c, lw⟩ := a
    simp only [List.cons_append, foldBody]
    cases body s c (.ok lw) with
    | error e => rfl
    | ok s' => exact ih s'

theorem lowsLoop_eq (curr : List (Key × Nat)) (hs : List (Nat × Nat))
    (h : ∀ iv ∈ hs, ∃ key, curr[iv.1]? = some (key, iv.2)) :
    lowsLoop curr (hs.map (·.1)) = .ok hs := by
  induction hs with
  | nil => rfl
  | cons a r ih =>
    obtain ⟨key, hk⟩ := h a (by simp)
    simp only [List.map_cons, lowsLoop, hk, ih (fun iv hiv => h iv (by simp [hiv]))]

section Within
variable {σ : Type}
  (body : σ → Key × Nat × Nat → Except MergeErr (List (Nat × Nat)) → Except MergeErr σ)
  (its : List VIter) (curr : List (Key × Nat)) (lowK : Key) (hs : List (Nat × Nat))

theorem next_within (c : Nat) (hc : c + 1 < hs.length) :
    Enum.next (Enum.mk its curr lowK (hs.map (·.1)) c) =
      .ok (Enum.mk its curr lowK (hs.map (·.1)) (c + 1), false) := by
  have h1 : ¬ (c + 1 ≥ (hs.map (·.1)).length) := by rw [List.length_map]; exact Nat.not_le.2 hc
  have h2 : ((hs.map (·.1)).length == 0) = false := by
    rw [List.length_map, beq_eq_false_iff_ne]; exact Nat.ne_zero_of_lt hc
  simp only [Enum.next, h1, if_false, Enum.isDone, h2, Bool.and_false]

variable (h2 : ∀ iv ∈ hs, ∃ key, curr[iv.1]? = some (key, iv.2))
include h2

theorem loop_round (F : Nat) (pre suf : List (Nat × Nat)) (iv : Nat × Nat) (s : σ)
    (h : hs = pre ++ iv :: suf) :
    Enum.loop body (F + 1) (Enum.mk its curr lowK (hs.map (·.1)) pre.length) s =
      match body s (lowK, iv.1, iv.2) (.ok hs) with
      | .error e => .error e
      | .ok s' =>
        match Enum.next (Enum.mk its curr lowK (hs.map (·.1)) pre.length) with
        | .error e => .error e
        | .ok (m', done) => if done then .ok s' else Enum.loop body F m' s' := by
  obtain ⟨key, hk⟩ := h2 iv (by rw [h]; simp)
  have hget : (hs.map (·.1))[pre.length]? = some iv.1 := by rw [h]; simp
  have hlt : pre.length < (hs.map (·.1)).length := by rw [h]; simp
  have hcur : Enum.current (Enum.mk its curr lowK (hs.map (·.1)) pre.length) =
      .ok (lowK, iv.1, iv.2) := by
    simp only [Enum.current, hlt, if_true, hget, hk]
  rw [Enum.loop, hcur, Enum.lows, lowsLoop_eq _ _ h2]
  rfl

/-- the rounds of a phase from the holder `iv` on: the body is folded over the holders still to
    come; what is left is the `Next` of the last one, which ends the phase -/
theorem loop_within (F : Nat) : ∀ (suf pre : List (Nat × Nat)) (iv : Nat × Nat) (s : σ),
    hs = pre ++ iv :: suf →
    Enum.loop body (F + (suf.length + 1)) (Enum.mk its curr lowK (hs.map (·.1)) pre.length) s =
      match foldBody body ((iv :: suf).map (fun iv => ((lowK, iv.1, iv.2), hs))) s with
      | .error e => .error e
      | .ok s' =>
        match Enum.next (Enum.mk its curr lowK (hs.map (·.1)) (hs.length - 1)) with
        | .error e => .error e
        | .ok (m', done) => if done then .ok s' else Enum.loop body F m' s' := by
  intro suf
  induction suf with
  | nil =>
    intro pre iv s h
    have hl : hs.length - 1 = pre.length := by rw [h]; simp
    rw [List.length_nil, Nat.zero_add, loop_round body its curr lowK hs h2 F pre [] iv s h, hl]
    simp only [List.map_cons, List.map_nil, foldBody]
    cases body s (lowK, iv.1, iv.2) (.ok hs) <;> rfl
  | cons iv' suf ih =>
    intro pre iv s h
    rw [List.length_cons, ← Nat.add_assoc, loop_round body its curr lowK hs h2 _ pre _ iv s h]
    simp only [List.map_cons, foldBody]
    cases body s (lowK, iv.1, iv.2) (.ok hs) with
    | error e => rfl
    | ok s' =>
      have := ih (pre ++ [iv]) iv' s' (by rw [h, List.append_assoc]; rfl)
      rw [List.length_append] at this
      simp only [next_within its curr lowK hs pre.length (by rw [h]; simp)]
      exact this

end Within

/-- the step of one iterator at the end of the phase of key `k`: it moves on when it stands on
    `k` (the test is the one `headHolders` makes) -/
def advIt (k : Bytes) (it : VIter) : VIter :=
  if (lookupK k (it.rest.take 1)).isSome then it.next.1 else it

def advL (k : Bytes) (l : List (Bytes × Nat)) : List (Bytes × Nat) :=
  if (lookupK k (l.take 1)).isSome then l.tail else l

theorem advL_cons (k k' : Bytes) (v : Nat) (t : List (Bytes × Nat)) :
    advL k ((k', v) :: t) = if k' = k then t else (k', v) :: t := by
  rw [advL, lookupK_take_one]
  split <;> rfl

theorem advIt_rest (k : Bytes) (it : VIter) : (advIt k it).rest = advL k it.rest := by
  unfold advIt advL
  split <;> rfl

/-- the loop of `Next` over the indexes of the iterators standing on `k` -/
theorem advance_phase (k : Bytes) (lowK : Key) (idxs : List Nat) (c : Nat) :
    ∀ (its pre : List VIter),
    Enum.advance ⟨pre ++ its, (pre ++ its).map VIter.current, lowK, idxs, c⟩
        ((headHolders k (its.map (·.rest)) pre.length).map (·.1)) =
      .ok ⟨pre ++ its.map (advIt k), (pre ++ its.map (advIt k)).map VIter.current, lowK, idxs, c⟩ := by
  intro its
  induction its with
  | nil => intro pre; rfl
  | cons it its ih =>
    intro pre
    have hih := ih (pre ++ [advIt k it])
    simp only [List.length_append, List.length_singleton, List.append_assoc,
      List.singleton_append, List.map_cons, headHolders_cons] at hih ⊢
    rcases h : lookupK k (it.rest.take 1) with _ | v
    · have hadv : advIt k it = it := by simp [advIt, h]
      rw [hadv] at hih ⊢
      exact hih
    · have hadv : advIt k it = it.next.1 := by simp [advIt, h]
      rw [hadv] at hih ⊢
      simp only [Option.toList_some, List.map_cons, List.map_nil, List.cons_append,
        List.nil_append, Enum.advance, List.length_append, List.length_cons, List.length_map,
        List.getElem?_append_right (Nat.le_refl _), Nat.sub_self, List.getElem?_cons_zero,
        Nat.lt_add_right_iff_pos, Nat.zero_lt_succ, if_true, ← List.map_set,
        List.set_append_right _ _ (Nat.le_refl _), List.set_cons_zero]
      exact hih

theorem next_phase (k : Bytes) (its : List VIter) (lowK : Key) (c : Nat)
    (hc : c + 1 ≥ (headHolders k (its.map (·.rest)) 0).length) :
    Enum.next (Enum.mk its (its.map VIter.current) lowK
        ((headHolders k (its.map (·.rest)) 0).map (·.1)) c) =
      .ok (phaseState true (its.map (advIt k)), (phaseState true (its.map (advIt k))).isDone) := by
  have ha := advance_phase k lowK ((headHolders k (its.map (·.rest)) 0).map (·.1)) (c + 1) its []
  have hc' : c + 1 ≥ ((headHolders k (its.map (·.rest)) 0).map (·.1)).length := by
    rw [List.length_map]; exact hc
  simp only [List.nil_append, List.length_nil] at ha
  simp only [Enum.next, hc', if_true, ha, Enum.updateMatches, phaseState, mkE]

theorem asc_tail_gt {k : Bytes} {v : Nat} {t : List (Bytes × Nat)}
    (h : Asc (((k, v) :: t).map (·.1))) : ∀ p ∈ t, Bytes.cmp k p.1 = .lt := by
  intro p hp
  exact (List.pairwise_cons.1 h).1 p.1 (List.mem_map.2 ⟨p, hp, rfl⟩)

theorem advL_sublist (k : Bytes) (l : List (Bytes × Nat)) : (advL k l).Sublist l := by
  unfold advL
  split
  · exact List.tail_sublist l
  · exact List.Sublist.refl l

theorem mem_or_advL {k : Bytes} {l : List (Bytes × Nat)} {p : Bytes × Nat} (h : p ∈ l) :
    p.1 = k ∨ p ∈ advL k l := by
  rcases l with _ | ⟨⟨k', v'⟩, t⟩
  · simp at h
  · rw [advL_cons]
    by_cases hk : k' = k
    · rw [if_pos hk]
      rcases List.mem_cons.1 h with rfl | h
      · exact Or.inl hk
      · exact Or.inr h
    · rw [if_neg hk]; exact Or.inr h

theorem advL_gt {k : Bytes} {l : List (Bytes × Nat)} (hasc : Asc (l.map (·.1)))
    (hmin : LeHead k l) :
    ∀ p ∈ advL k l, Bytes.cmp k p.1 = .lt := by
  rcases l with _ | ⟨⟨k', v'⟩, t⟩
  · simp [advL]
  · have htl := asc_tail_gt hasc
    rw [advL_cons]
    by_cases hk : k' = k
    · subst hk; rw [if_pos rfl]; exact htl
    · rw [if_neg hk]
      have hlt := (hmin k' v' t rfl).resolve_left (Ne.symm hk)
      intro p hp
      rcases List.mem_cons.1 hp with rfl | hp
      · exact hlt
      · exact Bytes.cmp_lt_trans hlt (htl p hp)

/-- after the phase of the least key every remaining key is larger, hence not empty -/
theorem good_advIt {skip : Bool} {k : Bytes} {it : VIter} (g : Good skip it)
    (hmin : LeHead k it.rest) : Good true (advIt k it) := by
  have e := advIt_rest k it
  refine ⟨?_, ?_, by intro h; cases h⟩
  · rw [e]; exact g.asc.sublist ((advL_sublist k _).map _)
  · intro _ p hp
    rw [e] at hp
    exact ne_nil_of_lt (advL_gt g.asc hmin p hp)

/-- a phase uses up one pair per holder -/
theorem total_advL (k : Bytes) (ls : List (List (Bytes × Nat))) (i : Nat) :
    ((ls.map (advL k)).map List.length).sum + (headHolders k ls i).length =
      (ls.map List.length).sum := by
  induction ls generalizing i with
  | nil => rfl
  | cons l ls ih =>
    have hl : (advL k l).length + (lookupK k (l.take 1)).toList.length = l.length := by
      rcases l with _ | ⟨⟨k', v'⟩, t⟩
      · rfl
      · rw [lookupK_take_one, advL_cons]; split <;> rfl
    have := ih (i + 1)
    simp only [List.map_cons, headHolders_cons, List.length_append, List.length_map,
      List.sum_cons] at this ⊢
    rw [← this, ← hl]
    exact Nat.add_add_add_comm _ _ _ _

/-- in an ascending list a key not above the first key can only be the first key -/
theorem lookupK_take_one_eq (k : Bytes) (l : List (Bytes × Nat)) (hasc : Asc (l.map (·.1)))
    (hmin : LeHead k l) : lookupK k (l.take 1) = lookupK k l := by
  rcases l with _ | ⟨⟨k', v'⟩, t⟩
  · rfl
  · rw [lookupK_take_one, lookupK]
    split
    · rfl
    · next hk =>
      refine (lookupK_eq_none k t fun p hp he => ?_).symm
      have h1 := asc_tail_gt hasc p hp
      rw [he] at h1
      exact Bytes.cmp_lt_asymm h1 ((hmin k' v' t rfl).resolve_left (Ne.symm hk))

theorem lookupK_advL (k x : Bytes) (l : List (Bytes × Nat)) (h : x ≠ k) :
    lookupK x (advL k l) = lookupK x l := by
  rcases l with _ | ⟨⟨k', v'⟩, t⟩
  · rfl
  · rw [advL_cons]
    by_cases hk : k' = k
    · subst hk
      rw [if_pos rfl, lookupK, if_neg (Ne.symm h)]
    · rw [if_neg hk]

theorem allKeys_phase (k : Bytes) (ls : List (List (Bytes × Nat)))
    (hasc : ∀ l ∈ ls, Asc (l.map (·.1))) (hmin : LeHeads k ls)
    (hk : headHolders k ls 0 ≠ []) :
    allKeys ls = k :: allKeys (ls.map (advL k)) ∧
      ∀ x ∈ allKeys (ls.map (advL k)), Bytes.cmp k x = .lt := by
  have hgt : ∀ x ∈ allKeys (ls.map (advL k)), Bytes.cmp k x = .lt := by
    intro x hx
    simp only [allKeys, mem_sortDedup, List.mem_flatMap, List.mem_map] at hx
    obtain ⟨l', ⟨l, hl, rfl⟩, p, hp, rfl⟩ := hx
    exact advL_gt (hasc l hl) (hmin l hl) p hp
  refine ⟨?_, hgt⟩
  apply asc_ext (asc_sortDedup _)
  · exact List.pairwise_cons.2 ⟨hgt, asc_sortDedup _⟩
  · intro x
    simp only [allKeys, List.mem_cons, mem_sortDedup, List.mem_flatMap, List.mem_map]
    constructor
    · rintro ⟨l, hl, p, hp, rfl⟩
      rcases mem_or_advL (k := k) hp with h | h
      · left; exact h
      · right; exact ⟨advL k l, ⟨l, hl, rfl⟩, p, h, rfl⟩
    · rintro (rfl | ⟨l', ⟨l, hl, rfl⟩, p, hp, rfl⟩)
      · obtain ⟨⟨j, v⟩, hjv⟩ := List.exists_mem_of_ne_nil _ hk
        obtain ⟨t, ht⟩ := of_mem_headHolders hjv
        exact ⟨_, List.mem_of_getElem? ht, (x, v), by simp, rfl⟩
      · exact ⟨l, hl, p, (advL_sublist k l).subset hp, rfl⟩

theorem expectedFull_phase (k : Bytes) (ls : List (List (Bytes × Nat)))
    (hasc : ∀ l ∈ ls, Asc (l.map (·.1))) (hmin : LeHeads k ls)
    (hk : headHolders k ls 0 ≠ []) :
    expectedFull ls =
      (headHolders k ls 0).map (fun iv => ((keyOf k, iv.1, iv.2), headHolders k ls 0)) ++
      expectedFull (ls.map (advL k)) := by
  obtain ⟨h1, h2⟩ := allKeys_phase k ls hasc hmin hk
  have hhead : headHolders k ls 0 = holders ls k :=
    holdersAt_map_congr _ k ls 0 (fun l hl => lookupK_take_one_eq k l (hasc l hl) (hmin l hl))
  unfold expectedFull
  rw [h1, List.flatMap_cons, hhead]
  congr 1
  apply flatMap_congr'
  intro x hx
  have hne : x ≠ k := by
    intro e; subst e
    exact Bytes.cmp_lt_irrefl _ (h2 x hx)
  simp only [holders, holdersAt_map_congr _ x ls 0 (fun l _ => lookupK_advL k x l hne)]

theorem fuelFor_eq (its : List VIter) :
    fuelFor its = ((its.map (·.rest)).map List.length).sum := by
  simp [fuelFor, List.map_map, Function.comp_def]

theorem fuelFor_eq_zero (its : List VIter) : fuelFor its = 0 ↔ ∀ it ∈ its, it.rest = [] := by
  simp only [fuelFor, List.sum_eq_zero_iff_forall_eq_nat, List.mem_map, forall_exists_index,
    and_imp, forall_apply_eq_imp_iff₂, List.length_eq_zero_iff]

theorem expectedFull_nil (ls : List (List (Bytes × Nat))) (h : ∀ l ∈ ls, l = []) :
    expectedFull ls = [] := by
  have : ls.flatMap (fun l => l.map (·.1)) = [] := by
    rw [List.flatMap_eq_nil_iff]
    intro l hl; rw [h l hl]; rfl
  simp [expectedFull, allKeys, this, sortDedup]

theorem phaseState_isDone (skip : Bool) (its : List VIter) (hg : ∀ it ∈ its, Good skip it) :
    (phaseState skip its).isDone = decide (fuelFor its = 0) := by
  rcases phaseState_cases skip its hg with ⟨h1, h2⟩ | ⟨k, h1, h2, _⟩
  · rw [h2, (fuelFor_eq_zero its).2 h1]; rfl
  · have hne : fuelFor its ≠ 0 := by
      rw [fuelFor_eq, ← total_advL k _ 0]
      exact Nat.ne_of_gt (Nat.add_pos_right _ (List.length_pos_iff.2 h2))
    rw [h1]
    simp [Enum.isDone, h2, hne]

/-- the enumerator loop, entered unless `updateMatches` reports the end, is the fold of the body
    over `expectedFull`; fuel `fuelFor its` (one round per (key, iterator) pair) or anything larger
    suffices -/
theorem loop_phases {σ : Type}
    (body : σ → Key × Nat × Nat → Except MergeErr (List (Nat × Nat)) → Except MergeErr σ) :
    ∀ (n : Nat) (skip : Bool) (its : List VIter), (∀ it ∈ its, Good skip it) →
      fuelFor its = n → ∀ (extra : Nat) (s : σ),
      (if (phaseState skip its).isDone then .ok s
       else Enum.loop body (extra + n) (phaseState skip its) s) =
        foldBody body (expectedFull (its.map (·.rest))) s := by
  intro n
  induction n using Nat.strongRecOn with
  | ind n ih =>
    intro skip its hg hn extra s
    rcases phaseState_cases skip its hg with ⟨h1, h2⟩ | ⟨k, hps, h3, h4⟩
    · rw [if_pos h2, expectedFull_nil _ (List.forall_mem_map.2 h1)]
      rfl
    · -- the phase of `k`; what the induction is applied to afterwards are the iterators
      -- `its.map (advIt k)`, with contents `(its.map (·.rest)).map (advL k)`
      have hg' : ∀ it ∈ its.map (advIt k), Good true it :=
        List.forall_mem_map.2 fun it hit =>
          good_advIt (hg it hit) (h4 _ (List.mem_map_of_mem hit))
      have hrest' : (its.map (advIt k)).map (·.rest) = (its.map (·.rest)).map (advL k) := by
        simp only [List.map_map]
        exact List.map_congr_left (fun it _ => advIt_rest k it)
      have htot := total_advL k (its.map (·.rest)) 0
      rw [← hrest', ← fuelFor_eq, ← fuelFor_eq, hn] at htot
      have hphase := expectedFull_phase k (its.map (·.rest))
        (List.forall_mem_map.2 fun it hit => (hg it hit).asc) h4 h3
      rw [← hrest'] at hphase
      have hnext := next_phase k its (keyOf k)
      have hcur := fun iv => current_of_mem_headHolders hg (k := k) (iv := iv)
      have hrec := ih (fuelFor (its.map (advIt k)))
        (by rw [← htot]; exact Nat.lt_add_of_pos_right (List.length_pos_iff.2 h3)) true _ hg' rfl
        extra
      -- the loop delivers the holders `hs` of `k`, then `Next` starts the next phase
      generalize headHolders k (its.map (·.rest)) 0 = hs at *
      obtain ⟨iv, suf, hhs⟩ := List.exists_cons_of_ne_nil h3
      have hlen : hs.length = suf.length + 1 := by rw [hhs]; rfl
      rw [hps, if_neg (by simp [Enum.isDone, hhs]), ← htot, hlen, ← Nat.add_assoc,
        show (0 : Nat) = ([] : List (Nat × Nat)).length from rfl,
        loop_within body its _ (keyOf k) hs hcur _ suf [] iv s hhs, hphase, foldBody_append, ← hhs]
      cases foldBody body (hs.map fun iv => ((keyOf k, iv.1, iv.2), hs)) s with
      | error e => rfl
      | ok s' =>
        simp only []
        rw [hnext (hs.length - 1) (Nat.le_of_eq (by rw [hlen]; rfl))]
        exact hrec s'

/-- the contract on the FSTs handed to an enumerator: keys strictly ascending, and the value of
    the empty key is not 0 (ice never stores 0: a value is a postings offset > 0 or a 1-hit
    code, `encode1Hit_pos`) -/
structure WFIters (ls : List (List (Bytes × Nat))) : Prop where
  asc : ∀ l ∈ ls, Asc (l.map (·.1))
  nz : ∀ l ∈ ls, ∀ v, ([], v) ∈ l → v ≠ 0

theorem fresh_rest (l : List (Bytes × Nat)) : (VIter.fresh l).rest = l := rfl

theorem map_fresh_rest (ls : List (List (Bytes × Nat))) :
    (ls.map VIter.fresh).map (·.rest) = ls := by
  simp [List.map_map, Function.comp_def, fresh_rest]

theorem good_fresh {ls : List (List (Bytes × Nat))} (h : WFIters ls) :
    ∀ it ∈ ls.map VIter.fresh, Good false it := by
  intro it hit
  obtain ⟨l, hl, rfl⟩ := List.mem_map.1 hit
  exact ⟨h.asc l hl, fun h' => Bool.noConfusion h', fun _ => ⟨rfl, h.nz l hl⟩⟩

theorem fuelFor_fresh (ls : List (List (Bytes × Nat))) :
    fuelFor (ls.map VIter.fresh) = (ls.map List.length).sum := by
  rw [fuelFor_eq, map_fresh_rest]

theorem new_eq (its : List VIter) :
    Enum.new its = (phaseState false its, (phaseState false its).isDone) := rfl

theorem new_done {ls : List (List (Bytes × Nat))} (h : WFIters ls) :
    (Enum.new (ls.map VIter.fresh)).2 = decide ((ls.map List.length).sum = 0) := by
  rw [new_eq, phaseState_isDone false _ (good_fresh h), fuelFor_fresh]

/-- every use of an enumerator - `newEnumerator`, then the loop unless `ErrIteratorDone` - folds
    the body over `expectedFull`; the fuel `fuelFor` (or more) is never exhausted -/
theorem run_spec {σ : Type}
    (body : σ → Key × Nat × Nat → Except MergeErr (List (Nat × Nat)) → Except MergeErr σ)
    {ls : List (List (Bytes × Nat))} (h : WFIters ls) (extra : Nat) (s : σ) :
    (if (Enum.new (ls.map VIter.fresh)).2 then .ok s
     else Enum.loop body (extra + fuelFor (ls.map VIter.fresh))
       (Enum.new (ls.map VIter.fresh)).1 s) = foldBody body (expectedFull ls) s := by
  have := loop_phases body _ false _ (good_fresh h) rfl extra s
  rwa [map_fresh_rest] at this

theorem foldBody_collect (l : List ((Key × Nat × Nat) × List (Nat × Nat)))
    (acc : List ((Key × Nat × Nat) × List (Nat × Nat))) :
    foldBody collectBody l acc = .ok (acc ++ l) := by
  induction l generalizing acc with
  | nil => simp [foldBody]
  | cons a r ih =>
    obtain ⟨c, lw⟩ := a
    simp only [foldBody, collectBody]
    rw [ih]; simp

theorem enumerateFull_spec {ls : List (List (Bytes × Nat))} (h : WFIters ls) :
    enumerateFull (ls.map VIter.fresh) = .ok (expectedFull ls) := by
  have := run_spec collectBody h 0 []
  rw [Nat.zero_add, foldBody_collect, List.nil_append] at this
  exact this

theorem mem_holders {ls : List (List (Bytes × Nat))} (h : ∀ l ∈ ls, Asc (l.map (·.1)))
    (k : Bytes) (i v : Nat) :
    (i, v) ∈ holders ls k ↔ ∃ l, ls[i]? = some l ∧ (k, v) ∈ l := by
  rw [holders, mem_holdersAt]
  simp only [Nat.zero_le, true_and, Nat.sub_zero]
  exact exists_congr fun l => and_congr_right fun hl =>
    ⟨lookupK_mem, lookupK_of_mem (h l (List.mem_of_getElem? hl))⟩

theorem holders_ne_nil {ls : List (List (Bytes × Nat))} (h : ∀ l ∈ ls, Asc (l.map (·.1)))
    (k : Bytes) (hk : k ∈ allKeys ls) : holders ls k ≠ [] := by
  simp only [allKeys, mem_sortDedup, List.mem_flatMap, List.mem_map] at hk
  obtain ⟨l, hl, ⟨k', v⟩, hp, rfl⟩ := hk
  obtain ⟨i, hi⟩ := List.mem_iff_getElem?.1 hl
  exact List.ne_nil_of_mem ((mem_holders h k' i v).2 ⟨l, hi, hp⟩)

theorem expectedFull_lt (ls : List (List (Bytes × Nat))) :
    (expectedFull ls).Pairwise (fun a b =>
      Bytes.cmp a.1.1.bytes b.1.1.bytes = .lt ∨ (a.1.1 = b.1.1 ∧ a.1.2.1 < b.1.2.1)) := by
  unfold expectedFull
  rw [List.pairwise_flatMap]
  constructor
  · intro k _
    have := holdersAt_fst_lt k ls 0
    rw [List.pairwise_map] at this ⊢
    exact this.imp (fun h => Or.inr ⟨rfl, h⟩)
  · refine (asc_sortDedup _ : Asc (allKeys ls)).imp ?_
    intro a b hab x hx y hy
    obtain ⟨p, _, rfl⟩ := List.mem_map.1 hx
    obtain ⟨q, _, rfl⟩ := List.mem_map.1 hy
    left
    simpa using hab

end Ice.Model.MergeLoop
