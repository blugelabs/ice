import IceModel.Lemmas.ErrFlowSem
/-
  Error flow, part 4: tables of flows and their restriction to the functions of one AREA (write path,
  read path, persistence), still independent of the generated facts: the table is a parameter.

  On a concrete table only `WellFormed` is evaluated (names are unique, every flow parses, wrapping
  checks wrap with `Errorf`); the structure of every program of the table, and the discipline of those
  without an unchecked call, follow by lemma.  The `…Of` functions speak of a table, the `…In` functions
  of the restriction of a table to an area: `coveredIn fl fns` unfolds to `coveredOf (restrict fl fns)`,
  likewise `notCoveredIn` and `uncheckedIn`.
-/
namespace Ice.ErrFlow
open Ice.Bridge.ErrFlow

/-- a table of flows: function name, flat event list -/
abbrev Flows := List (String × List Ev)

def restrict (fl : Flows) (fns : List String) : Flows := fl.filter (fun f => f.1 ∈ fns)

/-- the structured program of a function of the table (`[]` for an unknown name or a flow that does
    not parse) -/
def progIn (fl : Flows) (name : String) : Prog :=
  match fl.lookup name with
  | some l => (parse l).getD []
  | none => []

/-- the unchecked calls (function, callee) of the functions of an area -/
def uncheckedIn (fl : Flows) (fns : List String) : List (String × String) :=
  (restrict fl fns).flatMap (fun f => (unchecked f.2).map (fun c => (f.1, c)))

/-- the discarded error results (function, callee) of the functions of an area -/
def droppedIn (fl : Flows) (fns : List String) : List (String × String) :=
  (restrict fl fns).flatMap (fun f => (dropped f.2).map (fun c => (f.1, c)))

/-- the functions of an area without / with an unchecked call -/
def coveredIn (fl : Flows) (fns : List String) : List String :=
  ((restrict fl fns).filter (fun f => unchecked f.2 = [])).map (·.1)
def notCoveredIn (fl : Flows) (fns : List String) : List String :=
  ((restrict fl fns).filter (fun f => unchecked f.2 ≠ [])).map (·.1)

theorem lookup_restrict (fl : Flows) (fns : List String) {n : String} (hn : n ∈ fns) :
    (restrict fl fns).lookup n = fl.lookup n := by
  induction fl with
  | nil => rfl
  | cons x xs ih =>
    obtain ⟨k, l⟩ := x
    by_cases hk : k ∈ fns
    · simp only [restrict, List.filter_cons, hk, decide_true, if_true, List.lookup_cons] at ih ⊢
      rw [ih]
    · have hne : (n == k) = false := beq_eq_false_iff_ne.2 fun h => hk (h ▸ hn)
      simpa only [restrict, List.filter_cons, hk, decide_false, Bool.false_eq_true, if_false,
        List.lookup_cons, hne] using ih

theorem progIn_restrict (fl : Flows) (fns : List String) {n : String} (hn : n ∈ fns) :
    progIn (restrict fl fns) n = progIn fl n := by
  simp [progIn, lookup_restrict fl fns hn]

/-- What is checked by evaluation on a concrete table: function names are unique, every flat event list
    parses (balanced braces, known events only), and the call inside a wrapping check
    `{:err F w R err }` is always `fmt.Errorf`. -/
def WellFormed (T : Flows) : Prop :=
  (T.map (·.1)).Nodup ∧
  ∀ f ∈ T, (parse f.2).isSome ∧ ∀ w ∈ wrappers ((parse f.2).getD []), w = "Errorf"

instance (T : Flows) : Decidable (WellFormed T) := by unfold WellFormed; infer_instance

/-- Strictly ascending, neighbour by neighbour: `n - 1` comparisons where deciding `Nodup` takes
    `n (n - 1) / 2`; the translator emits its table sorted by function name.  Compared as UTF-8 bytes,
    because `String.<` decodes both sides to characters, which the kernel evaluates a hundred times
    slower; any injective key would do. -/
def ascending : List String → Bool
  | a :: b :: l => a.toUTF8.data.toList < b.toUTF8.data.toList && ascending (b :: l)
  | _ => true

theorem pairwise_of_ascending : ∀ {l : List String}, ascending l = true →
    l.Pairwise (·.toUTF8.data.toList < ·.toUTF8.data.toList)
  | [], _ => .nil
  | [_], _ => List.pairwise_singleton ..
  | a :: b :: l, h => by
    obtain ⟨hab, hl⟩ := Bool.and_eq_true_iff.1 h
    have ih := pairwise_of_ascending hl
    refine List.pairwise_cons.2 ⟨fun c hc => ?_, ih⟩
    rcases List.mem_cons.1 hc with rfl | hc
    · exact of_decide_eq_true hab
    · exact List.lt_trans (of_decide_eq_true hab) ((List.pairwise_cons.1 ih).1 c hc)

theorem nodup_of_ascending {l : List String} (h : ascending l = true) : l.Nodup :=
  (pairwise_of_ascending h).imp fun {a b} (h : a.toUTF8.data.toList < _) (e : a = b) =>
    List.lt_irrefl _ (e ▸ h)

/-- the functions of a table without / with an unchecked call -/
def coveredOf (T : Flows) : List String := (T.filter (fun f => unchecked f.2 = [])).map (·.1)
def notCoveredOf (T : Flows) : List String := (T.filter (fun f => unchecked f.2 ≠ [])).map (·.1)

theorem lookup_of_mem {T : Flows} (hnd : (T.map (·.1)).Nodup) {f : String × List Ev} (hf : f ∈ T) :
    T.lookup f.1 = some f.2 := by
  induction T with
  | nil => cases hf
  | cons x xs ih =>
    obtain ⟨k, l⟩ := x
    rw [List.map_cons, List.nodup_cons] at hnd
    rcases List.mem_cons.1 hf with rfl | hf
    · simp only [List.lookup_cons, beq_self_eq_true]
    · have hne : (f.1 == k) = false :=
        beq_eq_false_iff_ne.2 fun h => hnd.1 (List.mem_map.2 ⟨f, hf, h⟩)
      simpa only [List.lookup_cons, hne] using ih hnd.2 hf

namespace WellFormed
variable {T : Flows} (h : WellFormed T) {f : String × List Ev} (hf : f ∈ T)
include h hf

theorem parse_progIn : parse f.2 = some (progIn T f.1) := by
  obtain ⟨p, hp⟩ := Option.isSome_iff_exists.1 (h.2 f hf).1
  simp [progIn, lookup_of_mem h.1 hf, hp]

theorem flat_progIn : flat (progIn T f.1) = f.2 := parse_flat (h.parse_progIn hf)

theorem wrappers_progIn : ∀ w ∈ wrappers (progIn T f.1), w = "Errorf" := by
  have := (h.2 f hf).2
  rwa [h.parse_progIn hf] at this

theorem disc_progIn (hu : unchecked f.2 = []) : Disc (progIn T f.1) :=
  ⟨by rw [← unchecked_parse (h.parse_progIn hf), hu],
   fun w hw => by rw [h.wrappers_progIn hf w hw]; rfl⟩

omit hf in
theorem disc_covered : ∀ n ∈ coveredOf T, Disc (progIn T n) := by
  intro n hn
  obtain ⟨f, hf, rfl⟩ := List.mem_map.1 hn
  obtain ⟨hf, hu⟩ := List.mem_filter.1 hf
  exact h.disc_progIn hf (of_decide_eq_true hu)

end WellFormed

theorem coveredOf_or_notCoveredOf (T : Flows) : ∀ f ∈ T, f.1 ∈ coveredOf T ∨ f.1 ∈ notCoveredOf T := by
  intro f hf
  by_cases hu : unchecked f.2 = []
  · exact .inl (List.mem_map_of_mem (List.mem_filter.2 ⟨hf, decide_eq_true hu⟩))
  · exact .inr (List.mem_map_of_mem (List.mem_filter.2 ⟨hf, decide_eq_true hu⟩))

def uncheckedOf (T : Flows) : List (String × String) :=
  T.flatMap (fun f => (unchecked f.2).map (fun c => (f.1, c)))

theorem uncheckedOf_cons (x : String × List Ev) (xs : Flows) :
    (uncheckedOf (x :: xs)).map (·.1) =
      (unchecked x.2).map (fun _ => x.1) ++ (uncheckedOf xs).map (·.1) := by
  simp [uncheckedOf, Function.comp_def]

/-- the functions with an unchecked call are those named in the list of unchecked calls -/
theorem notCoveredOf_eq_eraseDups {T : Flows} (hnd : (T.map (·.1)).Nodup) :
    notCoveredOf T = ((uncheckedOf T).map (·.1)).eraseDups := by
  induction T with
  | nil => rfl
  | cons x xs ih =>
    rw [List.map_cons, List.nodup_cons] at hnd
    -- the names listed for `xs` differ from `x.1`: erasing the duplicates of `x.1` leaves them alone
    have hxs : ((uncheckedOf xs).map (·.1)).filter (fun n => !n == x.1) = (uncheckedOf xs).map (·.1) := by
      refine List.filter_eq_self.2 fun n hn => ?_
      obtain ⟨_, hp, rfl⟩ := List.mem_map.1 hn
      obtain ⟨f, hf, hp⟩ := List.mem_flatMap.1 hp
      obtain ⟨_, _, rfl⟩ := List.mem_map.1 hp
      simpa using fun h => hnd.1 (List.mem_map.2 ⟨f, hf, h⟩)
    rw [uncheckedOf_cons]
    cases hu : unchecked x.2 with
    | nil => simpa [notCoveredOf, hu] using ih hnd.2
    | cons c cs =>
      have hcs : (cs.map fun _ => x.1).filter (fun n => !n == x.1) = [] := by simp
      simpa [notCoveredOf, hu, List.eraseDups_cons, hxs, hcs] using ih hnd.2

/-- What is checked by evaluation for an area: its functions are in the table, once each, the restricted
    table is well formed, the calls not checked at once and the discarded results are exactly `unch`
    and `drop` (function, callee), and the functions without an unchecked call are exactly `cov`.
    One statement, because the kernel then computes `restrict fl fns` (a string comparison per pair of a
    table entry and an area function) once. -/
structure AreaOK (fl : Flows) (fns : List String) (unch drop : List (String × String))
    (cov : List String) : Prop where
  present : ∀ n ∈ fns, n ∈ fl.map (·.1)
  length : (restrict fl fns).length = fns.length
  wf : WellFormed (restrict fl fns)
  unchecked_eq : uncheckedIn fl fns = unch
  dropped_eq : droppedIn fl fns = drop
  covered_eq : coveredIn fl fns = cov

instance (fl : Flows) (fns : List String) (unch drop : List (String × String)) (cov : List String) :
    Decidable (AreaOK fl fns unch drop cov) :=
  decidable_of_iff (_ ∧ _ ∧ _ ∧ _ ∧ _ ∧ _)
    ⟨fun ⟨a, b, c, d, e, f⟩ => ⟨a, b, c, d, e, f⟩, fun ⟨a, b, c, d, e, f⟩ => ⟨a, b, c, d, e, f⟩⟩

end Ice.ErrFlow
