import IceModel.Lemmas.CacheFaultDvLoad
/-
  (c) docValueReader: the states a reader can be in - its key tells the truth (`Holds`), no load
  has been cut short (`Clean`), or a failed load has overwritten part of the header but every visit
  still answers with the document's values or nothing (`Safe`) - and what loads and visits do to them.
-/
namespace Ice.Model.CacheFault

variable {chunkOf : Nat → Nat} {st : DvStore} {n : Nat} {c : DvChunk} {r r' : DvReader}

/-- nothing cached, or exactly the chunk the key names -/
def Holds (st : DvStore) (r : DvReader) : Prop :=
  r.curChunkNum = noChunk ∨ (r.header = entriesOf st r.curChunkNum ∧ DataOK st r.curChunkNum r)

/-- every cell of the backing array is a zero cell or entry `j` of some chunk, at its position `j` -/
def PosInv (st : DvStore) (buf : List Meta) : Prop :=
  ∀ (j : Nat) (m : Meta), buf[j]? = some m → m = default ∨ ∃ X, (entriesOf st X)[j]? = some m

/-- no load has failed half-way since the last complete one: the key names exactly what is cached -/
def Clean (st : DvStore) (r : DvReader) : Prop :=
  PosInv st r.hdrBuf ∧
  (r.curChunkNum = noChunk ∨ (r.header = entriesOf st r.curChunkNum ∧ DataOK st r.curChunkNum r))

/-- what a visit needs: see `visitDocValues_safe` -/
def Safe (chunkOf : Nat → Nat) (st : DvStore) (r : DvReader) : Prop :=
  r.curChunkNum = noChunk ∨ (SafeView chunkOf st r.curChunkNum r.header ∧ DataOK st r.curChunkNum r)

/-- what C19 allows a visit to return: the document's values, an error, or nothing -/
def DvAllowed (chunkOf : Nat → Nat) (st : DvStore) (out : Outcome (List Nat)) (d : Nat) : Prop :=
  out = specValues chunkOf st d ∨ out = .error ∨ out = .ok []

theorem Clean.holds (h : Clean st r) : Holds st r := h.2

theorem safeView_of_eq (chunkOf : Nat → Nat) (st : DvStore) (B : Nat) (v : List Meta)
    (h : v = entriesOf st B) : SafeView chunkOf st B v := by
  subst h
  intro j m hjm
  refine Or.inr ⟨hjm, ?_⟩
  by_cases hj0 : j = 0
  · exact Or.inl hj0
  · have hj : j - 1 < (entriesOf st B).length := by
      exact Nat.lt_of_le_of_lt (Nat.sub_le _ _) (List.getElem?_eq_some_iff.mp hjm).1
    exact Or.inr ⟨_, List.getElem?_eq_getElem hj, Or.inr (List.getElem?_eq_getElem hj)⟩

theorem Holds.safe (h : Holds st r) : Safe chunkOf st r :=
  h.imp id fun h => ⟨safeView_of_eq chunkOf st _ _ h.1, h.2⟩

theorem Clean.safe {chunkOf : Nat → Nat} {st : DvStore} {r : DvReader} (h : Clean st r) :
    Safe chunkOf st r :=
  h.holds.safe

/-- a visit keeps `Holds` (`P B v := v = entriesOf st B`) and `Safe` (`P := SafeView chunkOf st`) -/
theorem visitDocValues_keeps {P : Nat → List Meta → Prop} (d : Nat)
    (h : r.curChunkNum = noChunk ∨ (P r.curChunkNum r.header ∧ DataOK st r.curChunkNum r)) :
    (r.visitDocValues d).1.curChunkNum = noChunk ∨
      (P (r.visitDocValues d).1.curChunkNum (r.visitDocValues d).1.header ∧
        DataOK st (r.visitDocValues d).1.curChunkNum (r.visitDocValues d).1) := by
  obtain ⟨_, hh, hc, hd⟩ := visitDocValues_frame r d
  rw [hc, hh]
  exact h.imp id fun h => ⟨h.1, hd _ _ h.2⟩

theorem Holds.visitDocValues (h : Holds st r) (d : Nat) : Holds st (r.visitDocValues d).1 :=
  visitDocValues_keeps (P := fun B v => v = entriesOf st B) d h

theorem Safe.visitDocValues (h : Safe chunkOf st r) (d : Nat) : Safe chunkOf st (r.visitDocValues d).1 :=
  visitDocValues_keeps (P := SafeView chunkOf st) d h

/-- the reader after the shortcut for an empty chunk -/
theorem emptied_holds (r : DvReader) {n : Nat} (hc : st n = none) :
    Holds st { r with hdrLen := 0, data := none, curChunkNum := n, uncompressed := [] } :=
  Or.inr ⟨by simp [DvReader.header, entriesOf_none hc], by simp [DataOK, hc]⟩

theorem FullLoad.holds {r' : DvReader} {c : DvChunk} {n : Nat} (hc : st n = some c)
    (hf : FullLoad r c n r') : Holds st r' := by
  refine Or.inr ⟨?_, ?_⟩
  · rw [hf.cur, entriesOf_some hc, hf.header]
  · rw [hf.cur]
    unfold DataOK; rw [hc]
    exact ⟨hf.data, Or.inl hf.unc⟩

theorem FullLoad.posInv (hc : st n = some c)
    (hf : FullLoad r c n r') (h : PosInv st r.hdrBuf) : PosInv st r'.hdrBuf := by
  intro j m hjm
  rw [hf.cells j] at hjm
  split at hjm
  · exact Or.inr ⟨n, by rw [entriesOf_some hc]; exact hjm⟩
  · rcases resized_cells r c.entries.length with heq | hz
    · exact h j m (heq ▸ hjm)
    · exact Or.inl (hz j m hjm)

/-- **a load that failed half-way, moving UPWARDS, leaves a safe reader** -/
theorem partial_safe (wf : DvWF chunkOf st) (hcl : Clean st r) (hc : st n = some c) (hp : PartialLoad r c r')
    (hup : r.curChunkNum = noChunk ∨ r.curChunkNum < n) : Safe chunkOf st r' := by
  unfold Safe
  rw [hp.cur]
  by_cases hno : r.curChunkNum = noChunk
  · left; exact hno
  · right
    have hlt : r.curChunkNum < n := hup.resolve_left hno
    obtain ⟨hpos, hcur⟩ := hcl
    obtain ⟨hhdr, hdata⟩ := hcur.resolve_left hno
    have hnew : ∀ m : Meta, (∃ e ∈ c.entries, m.doc = e.doc) → chunkOf m.doc = n := by
      rintro m ⟨e, he, hme⟩
      rw [hme]; exact wf.own n c hc e he
    have own : ∀ {k : Nat} {m : Meta}, k < r.hdrLen → r.hdrBuf[k]? = some m → Own st r.curChunkNum k m := by
      intro k m hk h
      unfold Own
      rw [← hhdr, header_getElem?, if_pos hk]; exact h
    refine ⟨?_, DataOK.congr hp.data hp.unc hdata⟩
    intro j m hjm
    rw [header_getElem?] at hjm
    split at hjm
    · rename_i hjlen
      rcases hp.cells j m hjm with hold | hn
      · rcases resized_cells r c.entries.length with heq | hz
        · rw [heq] at hold
          by_cases hj : j < r.hdrLen
          · -- a surviving entry of the old header: so is its predecessor, unless this load wrote it
            refine Or.inr ⟨own hj hold, ?_⟩
            by_cases hj0 : j = 0
            · exact Or.inl hj0
            · have hj1 : j - 1 < r'.hdrBuf.length :=
                Nat.lt_of_le_of_lt (Nat.sub_le _ _) (List.getElem?_eq_some_iff.mp hjm).1
              refine Or.inr ⟨r'.hdrBuf[j - 1], ?_, ?_⟩
              · rw [header_getElem?, if_pos (Nat.lt_of_le_of_lt (Nat.sub_le _ _) hjlen)]
                exact List.getElem?_eq_getElem hj1
              · rcases hp.cells (j - 1) _ (List.getElem?_eq_getElem hj1) with hold' | hn'
                · exact Or.inr (own (Nat.lt_of_le_of_lt (Nat.sub_le _ _) hj) (heq ▸ hold'))
                · exact Or.inl (by unfold High; rw [hnew _ hn']; exact hlt)
          · -- a stale cell behind the old header: zero, or an entry of another chunk
            refine Or.inl ?_
            rcases hpos j m hold with hd | ⟨X, hX⟩
            · exact Or.inr hd
            · refine Or.inl fun hB => ?_
              obtain ⟨cx, hcx, hmem⟩ := entriesOf_getElem? hX
              obtain rfl : X = r.curChunkNum := hB ▸ (wf.own X cx hcx m (List.mem_of_getElem? hmem)).symm
              rw [← hhdr, header_getElem?, if_neg hj] at hX
              cases hX
        · exact Or.inl (Or.inr (hz j m hold))
      · exact Or.inl (Or.inl (by rw [hnew m hn]; exact Nat.ne_of_gt hlt))
    · cases hjm

end Ice.Model.CacheFault
