import IceModel.Model.Bits
namespace Ice.Model

theorem decode_encode1Hit (d n : Nat) (hd : d < 2 ^ 31) (hn : n < 2 ^ 31) :
    decode1Hit (encode1Hit d n) = (d, n) := by
  have e : encode1Hit d n = (2 ^ 32 + n) * 2 ^ 31 + d := by
    rw [encode1Hit, Nat.mod_eq_of_lt hn, Nat.mod_eq_of_lt hd, Nat.add_mul]
  rw [decode1Hit, e, Nat.mul_add_mod_self_right, Nat.mod_eq_of_lt hd,
    Nat.add_comm _ d, Nat.add_mul_div_right _ _ (by decide), Nat.div_eq_of_lt hd, Nat.zero_add,
    show (2 : Nat) ^ 32 = 2 * 2 ^ 31 by decide, Nat.mul_add_mod_self_right, Nat.mod_eq_of_lt hn]

/-- a 1-hit value is recognised as such … -/
theorem is1Hit_encode (d n : Nat) : is1Hit (encode1Hit d n) = true := by
  have h1 := Nat.mod_lt n (show 0 < 2 ^ 31 by decide)
  have h2 := Nat.mod_lt d (show 0 < 2 ^ 31 by decide)
  have hlt : encode1Hit d n < two64 := by unfold encode1Hit two64; omega
  have hdiv : encode1Hit d n / 2 ^ 62 = 2 :=
    Nat.div_eq_of_lt_le (by unfold encode1Hit; omega) (by unfold encode1Hit; omega)
  rw [is1Hit, Nat.mod_eq_of_lt hlt, hdiv]; rfl

/-- … and a file offset (below 2^62) never is -/
theorem is1Hit_offset (off : Nat) (h : off < 2 ^ 62) : is1Hit off = false := by
  rw [is1Hit, Nat.mod_eq_of_lt (show off < two64 by unfold two64; omega), Nat.div_eq_of_lt h]; rfl

/-- a 1-hit value is never 0 (the writer uses `postingsOffset > 0` as "has postings") -/
theorem encode1Hit_pos (d n : Nat) : 0 < encode1Hit d n :=
  Nat.add_pos_left (Nat.add_pos_left (Nat.two_pow_pos 63) _) _

theorem decode_encodeFreqHasLocs (f : Nat) (b : Bool) (h : f < 2 ^ 63) :
    decodeFreqHasLocs (encodeFreqHasLocs f b) = (f, b) := by
  rw [decodeFreqHasLocs, encodeFreqHasLocs, Nat.mod_eq_of_lt (show f * 2 < two64 by unfold two64; omega)]
  cases b
  · simp
  · simp; omega

theorem encodeFreqHasLocs_lt (f : Nat) (b : Bool) (h : f < 2 ^ 63) :
    encodeFreqHasLocs f b < two64 := by
  rw [encodeFreqHasLocs, Nat.mod_eq_of_lt (show f * 2 < two64 by unfold two64; omega)]
  unfold two64
  cases b
  · simp; omega
  · simp; omega

/-- the chunk size is positive whenever the mode is a valid one and the list is not longer than
    the segment (so `docNum / chunkSize` is defined) -/
theorem getChunkSize_pos (mode card maxDocs cs : Nat) (hm : 1 ≤ mode) (hc : card ≤ maxDocs)
    (hd : 1 ≤ maxDocs) (h : getChunkSize mode card maxDocs = .ok cs) : 1 ≤ cs := by
  unfold getChunkSize at h
  split at h
  · cases h; exact hm
  · split at h
    · cases h
      -- maxDocs / (card/1024 + 1) ≥ 1  because  card/1024 + 1 ≤ maxDocs
      apply (Nat.le_div_iff_mul_le (by omega)).mpr
      omega
    · cases h

/-- every document number of the segment falls into one of the `maxDoc/cs + 1` chunk slots -/
theorem chunk_index_lt (cs d maxDoc : Nat) (h : d ≤ maxDoc) :
    d / cs < maxDoc / cs + 1 := by
  have := Nat.div_le_div_right (c := cs) h
  omega

/-- valid modes never produce an error -/
theorem getChunkSize_ok (mode card maxDocs : Nat) (hm : mode ≤ 1025) :
    ∃ cs, getChunkSize mode card maxDocs = .ok cs := by
  unfold getChunkSize
  split
  · exact ⟨_, rfl⟩
  · split
    · exact ⟨_, rfl⟩
    · omega

end Ice.Model
