import IceModel.Lemmas.CacheFaultDv
/-
  (c) `loadDvChunk`: what the entry loop leaves in the backing array when it completes and when it
  is cut short by a failing read, and the three ways a load of a chunk can end - for the pre-repair
  loader `dV0`; the current one is `dV0` on a reader whose key was dropped (`loadDvChunk_fixed`).
-/
namespace Ice.Model.CacheFault

def setDoc (e : Meta) (m : Meta) : Meta := { m with doc := e.doc }
def setOff (e : Meta) (m : Meta) : Meta := { m with off := e.off }

theorem loadEntries_cons (o : Oracle) (e : Meta) (es : List Meta) (i clk : Nat) (buf : List Meta) :
    loadEntries o (e :: es) i clk buf =
      if o clk then (buf, clk + 1, false)
      else if o (clk + 1) then (buf.modify i (setDoc e), clk + 2, false)
      else loadEntries o es (i + 1) (clk + 2) ((buf.modify i (setDoc e)).modify i (setOff e)) := rfl

theorem getElem?_modify_modify (e : Meta) (i j : Nat) (buf : List Meta) :
    ((buf.modify i (setDoc e)).modify i (setOff e))[j]? = if i = j then buf[j]?.map (fun _ => e) else buf[j]? := by
  rw [List.getElem?_modify, List.getElem?_modify]
  split
  · cases buf[j]? <;> rfl
  · cases buf[j]? <;> rfl

theorem loadEntries_spec (o : Oracle) (es : List Meta) : ∀ (i clk : Nat) (buf : List Meta),
    clk ≤ (loadEntries o es i clk buf).2.1 ∧
    ((loadEntries o es i clk buf).2.2 = false →
      ∃ k, clk ≤ k ∧ k < (loadEntries o es i clk buf).2.1 ∧ o k = true) ∧
    (∀ (j : Nat) (m' : Meta), (loadEntries o es i clk buf).1[j]? = some m' →
      buf[j]? = some m' ∨ ∃ e ∈ es, m'.doc = e.doc) ∧
    ((loadEntries o es i clk buf).2.2 = true → i + es.length ≤ buf.length →
      (∀ k, k < es.length → (loadEntries o es i clk buf).1[i + k]? = es[k]?) ∧
      (∀ j, j < i ∨ i + es.length ≤ j → (loadEntries o es i clk buf).1[j]? = buf[j]?)) := by
  induction es with
  | nil =>
    exact fun i clk buf => ⟨Nat.le_refl _, nofun, fun _ _ h => Or.inl h, fun _ _ => ⟨nofun, fun _ _ => rfl⟩⟩
  | cons e es ih =>
    intro i clk buf
    rw [loadEntries_cons]
    cases h1 : o clk <;> simp only [Bool.false_eq_true, if_true, if_false]
    · cases h2 : o (clk + 1) <;> simp only [Bool.false_eq_true, if_true, if_false]
      · obtain ⟨hclk, hfail, hcells, hok⟩ := ih (i + 1) (clk + 2) ((buf.modify i (setDoc e)).modify i (setOff e))
        refine ⟨Nat.le_trans (Nat.le_add_right clk 2) hclk, fun hf => ?_, fun j m' h => ?_, fun ht hlen => ?_⟩
        · obtain ⟨k, hk1, hk⟩ := hfail hf
          exact ⟨k, Nat.le_trans (Nat.le_add_right clk 2) hk1, hk⟩
        · rcases hcells j m' h with h' | ⟨e', he', hd'⟩
          · rw [getElem?_modify_modify] at h'
            split at h'
            · obtain ⟨_, _, rfl⟩ := Option.map_eq_some_iff.mp h'
              exact Or.inr ⟨_, List.mem_cons_self, rfl⟩
            · exact Or.inl h'
          · exact Or.inr ⟨e', List.mem_cons_of_mem _ he', hd'⟩
        · rw [List.length_cons, ← Nat.add_assoc, Nat.add_right_comm] at hlen
          obtain ⟨ha, hb⟩ := hok ht (by rw [List.length_modify, List.length_modify]; exact hlen)
          constructor
          · intro k hk
            cases k with
            | zero =>
              have h0 := hb i (Or.inl (Nat.lt_succ_self i))
              rw [getElem?_modify_modify, if_pos rfl, List.getElem?_eq_getElem (Nat.lt_of_lt_of_le (Nat.lt_add_right _ (Nat.lt_succ_self i)) hlen)] at h0
              exact h0
            | succ k => rw [← Nat.add_assoc, Nat.add_right_comm]; exact ha k (Nat.lt_of_succ_lt_succ hk)
          · intro j hj
            rw [hb j (hj.imp (fun h => Nat.lt_succ_of_lt h) (fun h => by rwa [List.length_cons, ← Nat.add_assoc, Nat.add_right_comm] at h)),
              getElem?_modify_modify, if_neg (by rw [List.length_cons] at hj; omega)]
      · refine ⟨Nat.le_add_right clk 2, fun _ => ⟨clk + 1, Nat.le_succ clk, Nat.lt_succ_self _, h2⟩, fun j m' h => ?_, nofun⟩
        rw [List.getElem?_modify] at h
        obtain ⟨b, hb, rfl⟩ := Option.map_eq_some_iff.mp h
        split
        · exact Or.inr ⟨e, List.mem_cons_self, rfl⟩
        · exact Or.inl hb
    · exact ⟨Nat.le_succ clk, fun _ => ⟨clk, Nat.le_refl _, Nat.lt_succ_self _, h1⟩, fun j m' h => Or.inl h, nofun⟩

/-- the header array after `make` / reslice -/
def resized (r : DvReader) (numDocs : Nat) : DvReader :=
  if r.hdrBuf.length < numDocs
  then { r with hdrBuf := List.replicate numDocs default, hdrLen := numDocs }
  else { r with hdrLen := numDocs }

theorem resized_length (r : DvReader) (k : Nat) : k ≤ (resized r k).hdrBuf.length := by
  unfold resized; split
  · simp
  · simp only; omega

theorem resized_cells (r : DvReader) (k : Nat) :
    (resized r k).hdrBuf = r.hdrBuf ∨ ∀ (j : Nat) (m : Meta), (resized r k).hdrBuf[j]? = some m → m = default := by
  unfold resized; split
  · exact Or.inr fun j m h => List.eq_of_mem_replicate (List.mem_of_getElem? h)
  · left; rfl

theorem resized_frame (r : DvReader) (k : Nat) :
    (resized r k).curChunkNum = r.curChunkNum ∧ (resized r k).data = r.data ∧
    (resized r k).uncompressed = r.uncompressed ∧ (resized r k).hdrLen = k := by
  unfold resized; split <;> exact ⟨rfl, rfl, rfl, rfl⟩

variable {chunkOf : Nat → Nat} {st : DvStore} {n : Nat} {c : DvChunk} {r r' : DvReader}

theorem loadDvChunk_none (ver : DvVersion) (o : Oracle) (clk : Nat) (r : DvReader)
    (hc : st n = none) :
    r.loadDvChunk ver st o clk n =
      ({ r with hdrLen := 0, data := none, curChunkNum := n, uncompressed := [] }, clk, true) := by
  unfold DvReader.loadDvChunk; rw [hc]

theorem loadDvChunk_some (o : Oracle) (clk : Nat) (r : DvReader)
    (hc : st n = some c) :
    r.loadDvChunk dV0 st o clk n =
      if o clk then (r, clk + 1, false)
      else
        let le := loadEntries o c.entries 0 (clk + 1) (resized r c.entries.length).hdrBuf
        let r1 := { resized r c.entries.length with hdrBuf := le.1 }
        if !le.2.2 then (r1, le.2.1, false)
        else if o le.2.1 then (r1, le.2.1 + 1, false)
        else ({ r1 with data := some c.data, curChunkNum := n, uncompressed := [] }, le.2.1 + 1, true) := by
  unfold DvReader.loadDvChunk
  rw [hc]
  rfl

/-- state after a load that failed after its first read -/
structure PartialLoad (r : DvReader) (c : DvChunk) (r' : DvReader) : Prop where
  cur : r'.curChunkNum = r.curChunkNum
  data : r'.data = r.data
  unc : r'.uncompressed = r.uncompressed
  cells : ∀ (j : Nat) (m : Meta), r'.hdrBuf[j]? = some m →
    (resized r c.entries.length).hdrBuf[j]? = some m ∨ ∃ e ∈ c.entries, m.doc = e.doc

/-- state after a complete load of chunk `n` -/
structure FullLoad (r : DvReader) (c : DvChunk) (n : Nat) (r' : DvReader) : Prop where
  cur : r'.curChunkNum = n
  data : r'.data = some c.data
  unc : r'.uncompressed = []
  len : r'.hdrLen = c.entries.length
  cells : ∀ (j : Nat), r'.hdrBuf[j]? =
    if j < c.entries.length then c.entries[j]? else (resized r c.entries.length).hdrBuf[j]?

theorem loadDvChunk_result (o : Oracle) (clk : Nat) (r : DvReader)
    (hc : st n = some c) :
    (o clk = true ∧ r.loadDvChunk dV0 st o clk n = (r, clk + 1, false)) ∨
    (∃ r' clk', r.loadDvChunk dV0 st o clk n = (r', clk', false) ∧ o clk = false ∧
      PartialLoad r c r' ∧ ∃ k, clk ≤ k ∧ k < clk' ∧ o k = true) ∨
    (∃ r' clk', r.loadDvChunk dV0 st o clk n = (r', clk', true) ∧ clk < clk' ∧ FullLoad r c n r') := by
  rw [loadDvChunk_some o clk r hc]
  cases h1 : o clk
  · right
    obtain ⟨f1, f2, f3, f4⟩ := resized_frame r c.entries.length
    obtain ⟨hclk, hfail, hcells, hok⟩ :=
      loadEntries_spec o c.entries 0 (clk + 1) (resized r c.entries.length).hdrBuf
    dsimp only [Bool.false_eq_true, if_false]
    generalize loadEntries o c.entries 0 (clk + 1) (resized r c.entries.length).hdrBuf = le
      at hclk hfail hcells hok ⊢
    obtain ⟨buf, clk1, ok⟩ := le
    dsimp only at hclk hfail hcells hok ⊢
    cases ok
    · obtain ⟨k, hk1, hk2, hk3⟩ := hfail rfl
      exact Or.inl ⟨_, _, rfl, rfl, ⟨f1, f2, f3, hcells⟩, k, Nat.le_of_succ_le hk1, hk2, hk3⟩
    · cases h2 : o clk1
      · obtain ⟨ha, hb⟩ := hok rfl (by rw [Nat.zero_add]; exact resized_length r c.entries.length)
        simp only [Nat.zero_add] at ha hb
        refine Or.inr ⟨_, _, rfl, Nat.lt_succ_of_le (Nat.le_of_succ_le hclk), ⟨rfl, rfl, rfl, f4, fun j => ?_⟩⟩
        split
        · rename_i hj
          exact ha j hj
        · rename_i hj
          exact hb j (Or.inr (Nat.le_of_not_lt hj))
      · exact Or.inl ⟨_, _, rfl, rfl, ⟨f1, f2, f3, hcells⟩, clk1, Nat.le_of_succ_le hclk, Nat.lt_succ_self _, h2⟩
  · exact Or.inl ⟨rfl, rfl⟩

theorem header_getElem? (r : DvReader) (j : Nat) :
    r.header[j]? = if j < r.hdrLen then r.hdrBuf[j]? else none := by
  unfold DvReader.header; rw [List.getElem?_take]

theorem FullLoad.header (hf : FullLoad r c n r') :
    r'.header = c.entries := by
  apply List.ext_getElem?
  intro j
  rw [header_getElem?, hf.len, hf.cells j]
  split
  · rfl
  · rename_i hj
    exact (List.getElem?_eq_none (Nat.le_of_not_lt hj)).symm

theorem loadDvChunk_cur (st : DvStore) (o : Oracle) (clk : Nat) (r : DvReader) (n : Nat) :
    (r.loadDvChunk dV0 st o clk n).1.curChunkNum = r.curChunkNum ∨
    (r.loadDvChunk dV0 st o clk n).1.curChunkNum = n := by
  cases hc : st n with
  | none => rw [loadDvChunk_none dV0 o clk r hc]; exact Or.inr rfl
  | some c =>
    rcases loadDvChunk_result o clk r hc with ⟨_, hL⟩ | ⟨_, _, hL, _, hp, _⟩ | ⟨_, _, hL, _, hf⟩ <;> rw [hL]
    · exact Or.inl rfl
    · exact Or.inl hp.cur
    · exact Or.inr hf.cur

theorem loadDvChunk_fixed {n : Nat} {c : DvChunk} (o : Oracle) (clk : Nat) (r : DvReader) (hc : st n = some c) :
    r.loadDvChunk dfixed st o clk n =
      ({ r with curChunkNum := noChunk } : DvReader).loadDvChunk dV0 st o clk n := by
  unfold DvReader.loadDvChunk
  rw [hc]
  rfl

end Ice.Model.CacheFault
