import IceModel.Lemmas.Pool.Reuse
/-
  The pool over time (C14): after ANY history of earlier calls of `New` - other batches, other norm
  functions, other map orders, inside or outside the input contract, successful or not - the pool is
  empty or holds a clean object (`pool_after_ok`); hence the next call returns what a fresh builder
  returns.  The same for builders running concurrently on objects they own exclusively.
-/
namespace Ice.Model.Pool
open Ice Ice.Spec Ice.Model.Builder

def PoolOK (p : Pool) : Prop := ∀ o, p = some o → Clean o

theorem get_clean {p : Pool} (h : PoolOK p) : Clean p.get := by
  cases p with
  | none => exact clean_fresh
  | some o => exact h o rfl

theorem newWith_fst (p : Pool) (nc : Bytes → Nat → Nat) (π : Order) (b : Batch) (ret : Bool) :
    (newWith p nc π b ret).1 = (buildFrom p.get nc π b).map (·.1) := by
  unfold newWith
  cases buildFrom p.get nc π b with
  | error e => rfl
  | ok x => rfl

/-- one call of `New`, whatever its arguments and its fate, leaves the pool empty or clean -/
theorem newWith_ok {p : Pool} (h : PoolOK p) (nc : Bytes → Nat → Nat) (π : Order) (b : Batch)
    (ret : Bool) : PoolOK (newWith p nc π b ret).2 := by
  intro o ho
  unfold newWith at ho
  split at ho
  · cases ho
  · next r o' e =>
    cases ret with
    | false => cases ho
    | true =>
      simp only [if_true, Option.some.injEq] at ho
      rw [← ho]
      exact clean_recycle nc b (reset_clean (get_clean h) e)

theorem pool_after_ok (hist : List Attempt) : PoolOK (Pool.after hist) :=
  List.foldlRecOn hist Pool.step nofun
    (fun _ hp a _ => newWith_ok hp a.nc a.π a.b a.returned)

/-- the call after any history returns what a fresh builder returns -/
theorem history_invisible (hist : List Attempt) (nc : Bytes → Nat → Nat) (π : Order) (b : Batch)
    (hv : ValidBatch b) (hπ : PermOK π) (ret : Bool) :
    (newWith (Pool.after hist) nc π b ret).1 = run nc π b := by
  rw [newWith_fst]
  exact reuse_invisible (get_clean (pool_after_ok hist)) nc π b hv hπ

/-- every pooled and every held object is clean; every result recorded for a call inside the
    contract is the result of a fresh builder on that call's batch alone -/
structure SysOK (jobs : Nat → Job) (σ : Sys) : Prop where
  pool : ∀ o ∈ σ.pool, Clean o
  held : ∀ x ∈ σ.held, Clean x.2
  results : ∀ x ∈ σ.results, ValidBatch (jobs x.1).b → PermOK (jobs x.1).π →
    x.2 = run (jobs x.1).nc (jobs x.1).π (jobs x.1).b

theorem sysOK_init (jobs : Nat → Job) : SysOK jobs {} :=
  ⟨nofun, nofun, nofun⟩

theorem sysOK_get {jobs : Nat → Job} {σ : Sys} (h : SysOK jobs σ) (i k : Nat) :
    SysOK jobs (σ.step jobs (.get i k)) := by
  have hheld : ∀ o, Clean o → ∀ x ∈ (i, o) :: σ.held, Clean x.2 :=
    fun o ho => List.forall_mem_cons.2 ⟨ho, h.held⟩
  simp only [Sys.step]
  cases hk : σ.pool[k]? with
  | some o =>
    exact ⟨fun o' ho' => h.pool o' (List.mem_of_mem_eraseIdx ho'),
      hheld o (h.pool o (List.mem_of_getElem? hk)), h.results⟩
  | none => exact ⟨h.pool, hheld _ clean_fresh, h.results⟩

theorem sysOK_done {jobs : Nat → Job} {σ : Sys} (h : SysOK jobs σ) (i : Nat) (ret : Bool) :
    SysOK jobs (σ.step jobs (.done i ret)) := by
  simp only [Sys.step]
  cases hf : σ.held.find? (fun x => x.1 == i) with
  | none => exact h
  | some jo =>
    obtain ⟨j, o⟩ := jo
    have ho : Clean o := h.held (j, o) (List.mem_of_find?_eq_some hf)
    have hheld : ∀ x ∈ σ.held.filter (fun x => x.1 != i), Clean x.2 :=
      fun x hx => h.held x (List.mem_filter.1 hx).1
    have hres : ∀ x ∈ (i, (buildFrom o (jobs i).nc (jobs i).π (jobs i).b).map (·.1)) :: σ.results,
        ValidBatch (jobs x.1).b → PermOK (jobs x.1).π →
        x.2 = run (jobs x.1).nc (jobs x.1).π (jobs x.1).b :=
      List.forall_mem_cons.2 ⟨reuse_invisible ho _ _ _, h.results⟩
    simp only
    cases he : buildFrom o (jobs i).nc (jobs i).π (jobs i).b with
    | error e => rw [he] at hres; exact ⟨h.pool, hheld, hres⟩
    | ok ro =>
      obtain ⟨r, o'⟩ := ro
      rw [he] at hres
      refine ⟨?_, hheld, hres⟩
      cases ret with
      | false => exact h.pool
      | true => exact List.forall_mem_cons.2 ⟨clean_recycle _ _ (reset_clean ho he), h.pool⟩

theorem sysOK_step {jobs : Nat → Job} {σ : Sys} (h : SysOK jobs σ) (ev : Ev) :
    SysOK jobs (σ.step jobs ev) := by
  cases ev with
  | get i k => exact sysOK_get h i k
  | done i ret => exact sysOK_done h i ret

theorem sysOK_run (jobs : Nat → Job) (evs : List Ev) : SysOK jobs (Sys.run jobs evs) :=
  List.foldlRecOn evs (Sys.step jobs) (sysOK_init jobs) (fun _ h ev _ => sysOK_step h ev)

end Ice.Model.Pool
