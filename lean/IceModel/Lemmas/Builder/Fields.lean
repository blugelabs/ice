import IceModel.Lemmas.Builder.Base
import IceModel.Lemmas.Build
/-
  new.go:253-277 - the field table.  After `initFields` the field list is `Spec.fieldList` of the
  batch's field names and `FieldsMap` is its inverse (`FieldsOK`); from then on `getOrDefineField`
  of a known name is a pure lookup.
-/
namespace Ice.Model.Builder
open Ice Ice.Spec

/-- all field names of a batch, in input order -/
def names (b : Batch) : List Bytes := b.flatMap (fun d => d.map (·.name))

/-- the field list of the built segment -/
def FL (b : Batch) : List Bytes := fieldList (names b)

theorem build_fields_eq (nc : Bytes → Nat → Nat) (mode : Nat) (b : Batch) :
    (build nc mode b).fields = FL b := build_fields nc mode b

/-- the state while only `getOrDefineField` has run -/
def mk0 (m : AMap Bytes Nat) (inv : List Bytes) : St :=
  { fieldsMap := m, fieldsInv := inv,
    dicts := List.replicate inv.length [], dictKeys := List.replicate inv.length [] }

theorem getOrDefineField_mk0 (m : AMap Bytes Nat) (inv : List Bytes) (n : Bytes)
    (hm : ∀ x, (aget m x).isSome ↔ x ∈ inv) :
    ∃ m', (getOrDefineField (mk0 m inv) n).1 = mk0 m' (if n ∈ inv then inv else inv ++ [n]) ∧
      ∀ x, (aget m' x).isSome ↔ x ∈ (if n ∈ inv then inv else inv ++ [n]) := by
  unfold getOrDefineField
  cases hg : aget m n with
  | some v =>
    have : n ∈ inv := (hm n).1 (by simp [hg])
    refine ⟨m, ?_, ?_⟩
    · simp [mk0, hg, this]
    · simpa [this] using hm
  | none =>
    have : n ∉ inv := fun h => by have := (hm n).2 h; simp [hg] at this
    refine ⟨aset m n (u16 (inv.length + 1)), ?_, ?_⟩
    · simp [mk0, hg, this, List.replicate_succ']
    · intro x
      simp only [this, if_false, aget_aset, List.mem_append, List.mem_singleton]
      by_cases hx : x = n
      · simp [hx]
      · simp [hx, hm]

/-- new.go:259-265: `_id`, then the names in order of first occurrence -/
theorem getOrDefineField_names (l : List Bytes) :
    ∃ m r, l.foldl (fun s n => (getOrDefineField s n).1) (getOrDefineField {} idField).1 =
        mk0 m (idField :: r) ∧
      (∀ x, (aget m x).isSome ↔ x ∈ idField :: r) ∧ (idField :: r).Nodup ∧
      ∀ x, x ∈ idField :: r ↔ x = idField ∨ x ∈ l := by
  induction l using snoc_induction with
  | nil =>
    obtain ⟨m0, e0, hm0⟩ := getOrDefineField_mk0 [] [] idField (fun x => by simp [aget])
    exact ⟨m0, [], e0, hm0, by simp, by simp⟩
  | snoc l n ih =>
    obtain ⟨m, r, e, hm, hnd, hx⟩ := ih
    obtain ⟨m', e', hm'⟩ := getOrDefineField_mk0 m (idField :: r) n hm
    rw [foldl_snoc, e, e']
    by_cases hn : n ∈ idField :: r
    · rw [if_pos hn] at hm' ⊢
      refine ⟨m', r, rfl, hm', hnd, fun x => ?_⟩
      rw [hx, List.mem_append, List.mem_singleton, ← or_assoc, ← hx]
      exact ⟨Or.inl, fun h => h.elim id (· ▸ hn)⟩
    · rw [if_neg hn] at hm' ⊢
      exact ⟨m', r ++ [n], rfl, hm', nodup_snoc hnd hn, fun x => by
        rw [← List.cons_append, List.mem_append, hx, List.mem_append, or_assoc]⟩

theorem aget_rebuildMap (m : AMap Bytes Nat) (i : Nat) (l : List Bytes) (hn : l.Nodup) (n : Bytes) :
    aget (rebuildMap m i l) n = if n ∈ l then some (u16 (i + l.idxOf n + 1)) else aget m n := by
  induction l generalizing m i with
  | nil => simp [rebuildMap]
  | cons x r ih =>
    have hn' := List.nodup_cons.1 hn
    simp only [rebuildMap, ih _ _ hn'.2, List.mem_cons, List.idxOf_cons]
    by_cases h1 : n ∈ r
    · have : ¬ x = n := by intro e; exact hn'.1 (e ▸ h1)
      have hb : (x == n) = false := by simp [this]
      simp only [h1, if_true, or_true, hb, cond_false]
      congr 2; omega
    · by_cases h2 : n = x
      · subst h2; simp [h1, aget_aset]
      · have hb : (x == n) = false := by simp; exact fun e => h2 e.symm
        simp [h1, h2, aget_aset]

/-- the field table is `F` and `FieldsMap` its inverse -/
structure FieldsOK (F : List Bytes) (s : St) : Prop where
  inv : s.fieldsInv = F
  map : ∀ n, aget s.fieldsMap n = if n ∈ F then some (F.idxOf n + 1) else none
  len : F.length ≤ 65535

theorem FieldsOK.of_eq {F : List Bytes} {s0 s : St} (h : FieldsOK F s0)
    (h1 : s.fieldsMap = s0.fieldsMap) (h2 : s.fieldsInv = s0.fieldsInv) : FieldsOK F s :=
  ⟨h2 ▸ h.inv, h1 ▸ h.map, h.len⟩

theorem u16_lt (i : Nat) (h : i < 65536) : u16 i = i := Nat.mod_eq_of_lt h

theorem u16_idx {F : List Bytes} {s : St} (h : FieldsOK F s) {n : Bytes} (hn : n ∈ F) :
    u16 (F.idxOf n) = F.idxOf n :=
  u16_lt _ (Nat.lt_succ_of_le (Nat.le_trans (Nat.le_of_lt (List.idxOf_lt_length_of_mem hn)) h.len))

theorem getOrDefineField_known {F : List Bytes} {s : St} (h : FieldsOK F s) {n : Bytes} (hn : n ∈ F) :
    getOrDefineField s n = (s, F.idxOf n) := by
  have hm : aget s.fieldsMap n = some (F.idxOf n + 1) := by rw [h.map n, if_pos hn]
  have hu : u16 (F.idxOf n + 1 + 65535) = F.idxOf n := by
    rw [Nat.add_assoc, u16, Nat.add_mod_right]; exact u16_idx h hn
  unfold getOrDefineField
  rw [hm]
  simp only [hu]

theorem nodup_fieldList (l : List Bytes) : (fieldList l).Nodup := by
  simp only [fieldList, List.nodup_cons, List.mem_filter, mem_sortDedup]
  refine ⟨by simp, ?_⟩
  exact asc_nodup (List.Pairwise.filter _ (asc_sortDedup l))

theorem mem_FL (b : Batch) (n : Bytes) : n ∈ FL b ↔ n = idField ∨ n ∈ names b := mem_fieldList n _

theorem FL_nodup (b : Batch) : (FL b).Nodup := nodup_fieldList _

theorem FL_length_le {b : Batch} (h : (sortDedup (names b)).length < 65535) : (FL b).length ≤ 65535 := by
  simp only [FL, fieldList, List.length_cons]
  have := List.length_filter_le (fun n => n != idField) (sortDedup (names b))
  omega

theorem name_mem_FL {b : Batch} {d : Doc} (hd : d ∈ b) {f : FieldInst} (hf : f ∈ d) : f.name ∈ FL b := by
  rw [mem_FL]; right
  simp only [names, List.mem_flatMap, List.mem_map]
  exact ⟨d, hd, f, hf, rfl⟩

/-- the state after new.go:253-277 -/
def st0 (b : Batch) (m : AMap Bytes Nat) : St :=
  { fieldsMap := m, fieldsInv := FL b,
    dicts := List.replicate (FL b).length [], dictKeys := List.replicate (FL b).length [],
    includeDV := List.replicate (FL b).length false }

theorem initFields_ok (b : Batch) (hlen : (FL b).length ≤ 65535) :
    ∃ m, initFields b = .ok (st0 b m) ∧ FieldsOK (FL b) (st0 b m) := by
  obtain ⟨m1, r, hs', hm1, hnd, hmem⟩ := getOrDefineField_names (names b)
  have hs : b.foldl (fun s d => d.foldl (fun s f => (getOrDefineField s f.name).1) s)
      (getOrDefineField {} idField).1 = mk0 m1 (idField :: r) := by
    rw [← hs']; simp only [names, List.foldl_flatMap, List.foldl_map]
  have hsort : idField :: sortS r = FL b := by
    simp only [FL, fieldList]
    congr 1
    apply asc_ext (asc_sortS r (List.nodup_cons.1 hnd).2)
      (List.Pairwise.filter _ (asc_sortDedup _))
    intro x
    rw [mem_sortS, List.mem_filter, mem_sortDedup]
    have hx := hmem x
    simp only [List.mem_cons] at hx
    have hid : idField ∉ r := (List.nodup_cons.1 hnd).1
    constructor
    · intro h
      have hne : x ≠ idField := fun e => hid (e ▸ h)
      exact ⟨(hx.1 (Or.inr h)).resolve_left hne, by simpa using hne⟩
    · rintro ⟨h1, h2⟩
      have hne : x ≠ idField := by simpa using h2
      exact (hx.2 (Or.inr h1)).resolve_left hne
  have hlen' : (idField :: r).length = (FL b).length := by
    rw [← hsort]; simp [length_sortS]
  refine ⟨rebuildMap m1 0 (FL b), ?_, ?_⟩
  · unfold initFields
    simp only [hs]
    simp only [mk0, hsort, st0, hlen']
  · refine ⟨rfl, ?_, hlen⟩
    intro n
    show aget (rebuildMap m1 0 (FL b)) n = _
    rw [aget_rebuildMap _ _ _ (show (FL b).Nodup from nodup_fieldList _)]
    split
    · next hn =>
      rw [Nat.zero_add, u16_lt _ (Nat.succ_lt_succ (Nat.lt_of_lt_of_le (List.idxOf_lt_length_of_mem hn) hlen))]
    · next hn =>
      refine Option.not_isSome_iff_eq_none.1 (mt (hm1 n).1 fun hmm => hn ?_)
      rw [← hsort]
      exact (List.mem_cons.1 hmm).elim (· ▸ List.mem_cons_self) fun e =>
        List.mem_cons_of_mem _ ((mem_sortS _ _).2 e)

end Ice.Model.Builder
