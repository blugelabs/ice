import IceModel.Lemmas.Builder.View
import IceModel.Model.Pool
/-
  `convert` as a whole: for every batch inside the contract and every map order, the builder
  returns `builtOf nc b`, an explicit function of the batch in which the map order does not occur.
  Everything after pass 1 (`Pool.finish`) is proved from any pass-1 state over arrays of capacities
  `Cf`, `Cl` (`finish_ok`), so that the pooled builder of Lemmas/Pool gets the same result.
-/
namespace Ice.Model.Builder
open Ice Ice.Spec

/-! ### the stored-field loop

new.go:555-637 - stored values per document and the IncludeDocValues flags. -/

/-- `docStoredFields` after the instances `I` -/
def dsfOf (F : List Bytes) (I : List FieldInst) : AMap Nat (List Bytes) :=
  I.foldl (fun m f => if f.store then
      aset m (F.idxOf f.name) ((aget m (F.idxOf f.name)).getD [] ++ [f.value]) else m) []

/-- `IncludeDocValues` after the instances `I` -/
def dvFold (F : List Bytes) (I : List FieldInst) (dv : List Bool) : List Bool :=
  I.foldl (fun dv f => if f.dv then dv.set (F.idxOf f.name) true else dv) dv

theorem length_dvFold (F : List Bytes) (I : List FieldInst) (dv : List Bool) :
    (dvFold F I dv).length = dv.length := by
  unfold dvFold
  exact foldl_length_inv _ (by intro l x; split <;> simp) I dv

theorem dvFold_append (F : List Bytes) (I J : List FieldInst) (dv : List Bool) :
    dvFold F (I ++ J) dv = dvFold F J (dvFold F I dv) := by simp [dvFold]

theorem storeFields_ok {F : List Bytes} {s : St} (hF : FieldsOK F s) (hdv : s.includeDV.length = F.length)
    (d : Doc) (hd : ∀ f ∈ d, f.name ∈ F) :
    foldlE storeField (s, []) d =
      .ok ({ s with includeDV := dvFold F d s.includeDV }, dsfOf F d) := by
  refine foldlE_eq storeField
    (fun pre => ({ s with includeDV := dvFold F pre s.includeDV }, dsfOf F pre)) d ?_
  intro pre f post hdd
  have hf : f.name ∈ F := hd f (by simp [hdd])
  have hFs : FieldsOK F { s with includeDV := dvFold F pre s.includeDV } := hF.of_eq rfl rfl
  have hl : F.idxOf f.name < (dvFold F pre s.includeDV).length := by
    rw [length_dvFold, hdv]; exact List.idxOf_lt_length_of_mem hf
  simp only [storeField, getOrDefineField_known hFs hf, u16_idx hFs hf]
  by_cases hdvf : f.dv = true
  · simp only [hdvf, if_true, setE_eq_ok _ hl]
    simp [dvFold, dsfOf, hdvf]
  · simp [hdvf, dvFold, dsfOf]

theorem writeStoredFields_ok {F : List Bytes} {s : St} (hF : FieldsOK F s)
    (hdv : s.includeDV.length = F.length) (b : Batch) (hb : ∀ d ∈ b, ∀ f ∈ d, f.name ∈ F) :
    writeStoredFields s b =
      .ok ({ s with includeDV := dvFold F b.flatten s.includeDV },
           b.map (fun d => storedOut F.length (dsfOf F d))) := by
  refine foldlE_eq storeDoc
    (fun pre => ({ s with includeDV := dvFold F pre.flatten s.includeDV },
                 pre.map (fun d => storedOut F.length (dsfOf F d)))) b ?_
  intro pre d post hdd
  have hFs : FieldsOK F { s with includeDV := dvFold F pre.flatten s.includeDV } := hF.of_eq rfl rfl
  have := storeFields_ok hFs (by simp [length_dvFold, hdv]) d (hb d (by simp [hdd]))
  simp only [storeDoc, this]
  simp [dvFold_append, hF.inv]

theorem dsfOf_get (F : List Bytes) (I : List FieldInst) (i : Nat) :
    (aget (dsfOf F I) i).getD [] =
      ((I.filter (fun f => F.idxOf f.name == i)).filter (·.store)).map (·.value) := by
  induction I using snoc_induction with
  | nil => rfl
  | snoc I f ih =>
    rw [dsfOf, foldl_snoc, ← dsfOf, List.filter_append, List.filter_append, List.map_append, ← ih]
    by_cases hs : f.store = true
    · by_cases e : F.idxOf f.name = i
      · subst e; simp [hs, aget_aset]
      · have e' : ¬ i = F.idxOf f.name := fun e' => e e'.symm
        simp [hs, aget_aset, e, e']
    · by_cases e : F.idxOf f.name = i <;> simp [hs, e]

theorem dvFold_get (F : List Bytes) (I : List FieldInst) (dv : List Bool) (i : Nat) (hi : i < dv.length) :
    (dvFold F I dv).getD i false = (dv.getD i false || I.any (fun f => F.idxOf f.name == i && f.dv)) := by
  induction I generalizing dv with
  | nil => simp [dvFold]
  | cons f r ih =>
    have hcons : dvFold F (f :: r) dv = dvFold F r (if f.dv then dv.set (F.idxOf f.name) true else dv) := rfl
    rw [hcons, ih _ (by split <;> simpa using hi)]
    by_cases hd : f.dv = true
    · simp only [hd, if_true, getD_set, List.any_cons, Bool.and_true]
      by_cases e : F.idxOf f.name = i
      · subst e; simp [hi]
      · have : (F.idxOf f.name == i) = false := by simp [e]
        simp [e, this]
    · simp [hd]

/-! ### the result -/

/-- the input contract of `New`: every location names its own field (empty name) or a field of the
    batch; fewer than 65535 distinct field names (field ids are uint16) -/
def ValidBatch (b : Batch) : Prop :=
  (∀ d ∈ b, ∀ f ∈ d, ∀ o ∈ f.terms, ∀ l ∈ o.locs, l.field = [] ∨ l.field ∈ names b) ∧
  (sortDedup (names b)).length < 65535

instance (b : Batch) : Decidable (ValidBatch b) := by unfold ValidBatch; infer_instance

/-- the dictionary keys of field `i` -/
def keysOf (F : List Bytes) (b : Batch) (i : Nat) : List Bytes :=
  sortDedup (((evsI F b.flatten).filter (fun e => e.1 == i)).map (·.2.term))

def dvFlag (F : List Bytes) (b : Batch) (i : Nat) : Bool :=
  b.flatten.any (fun f => F.idxOf f.name == i && f.dv)

def viewOf (nc : Bytes → Nat → Nat) (F : List Bytes) (b : Batch) (i : Nat) : FieldView :=
  { entries := (keysOf F b i).map (fun t => (t, entriesOf nc F b i t)),
    dv := dvOut (dvFlag F b i)
            (dtmOf b.length (keysOf F b i) (fun t => (entriesOf nc F b i t).map (·.doc))) }

/-- what `New` builds -/
def builtOf (nc : Bytes → Nat → Nat) (b : Batch) : Built :=
  { fields := FL b,
    fieldDocs := (List.range (FL b).length).map (docCnt (FL b) b),
    fieldFreqs := (List.range (FL b).length).map (freqSum (FL b) b.flatten),
    stored := b.map (fun d => (storedOut (FL b).length (dsfOf (FL b) d)).map
                (fun p => ((FL b).getD p.1 [], p.2))),
    dicts := (List.range (FL b).length).map (viewOf nc (FL b) b) }

theorem mem_keysOf_iff (F : List Bytes) (b : Batch) (i : Nat) (t : Bytes) :
    t ∈ keysOf F b i ↔ ∃ d ∈ b, 0 < cnt (evsI F d) i t := by
  rw [keysOf, mem_sortDedup, ← cnt_pos_iff, cnt_flatten_pos]

theorem mem_keysOf {F : List Bytes} {b : Batch} {D : List (AMap Bytes Nat)} {K : List (List Bytes)}
    {nT nL : List Nat} {n : Nat} (h : DictInv F.length (evsI F b.flatten) D K nT nL n) {i : Nat}
    (hi : i < F.length) (t : Bytes) : t ∈ keysOf F b i ↔ (dget D i t).isSome := by
  rw [keysOf, mem_sortDedup, h.dom i t hi, cnt_pos_iff]

theorem keys_eq {F : List Bytes} {b : Batch} {D : List (AMap Bytes Nat)} {K : List (List Bytes)}
    {nT nL : List Nat} {n : Nat} (h : DictInv F.length (evsI F b.flatten) D K nT nL n) {i : Nat}
    (hi : i < F.length) : sortS (kget K i) = keysOf F b i :=
  asc_ext (asc_sortS _ (h.nodup i hi)) (asc_sortDedup _) fun t => by
    rw [mem_sortS, h.keys i hi t, mem_keysOf h hi]

def ESof (nc : Bytes → Nat → Nat) (π : Order) (F : List Bytes) (D : List (AMap Bytes Nat)) (b : Batch)
    (i : Nat) (t : Bytes) : List Emit :=
  esel (allEmits false nc π F D b) ((dget D i t).getD 0 - 1)

def fieldOutOf (nc : Bytes → Nat → Nat) (π : Order) (F : List Bytes) (D : List (AMap Bytes Nat))
    (b : Batch) (i : Nat) : FieldOut :=
  { entries := (keysOf F b i).map (fun t => (t, (ESof nc π F D b i t).map toRaw)),
    dv := dvOut (dvFlag F b i)
            (dtmOf b.length (keysOf F b i) (fun t => (ESof nc π F D b i t).map (·.doc))) }

section dicts
variable {Cf Cl : Nat} {F : List Bytes} {b : Batch} {s1 s : St} (nc : Bytes → Nat → Nat) (π : Order)
  (hD : DictInv F.length (evsI F b.flatten) s1.dicts s1.dictKeys s1.numTerms s1.numLocs s1.numTerms.length)
  (hπ : PermOK π)
  (hval : ∀ d ∈ b, ∀ f ∈ d, ∀ o ∈ f.terms, ∀ l ∈ o.locs, l.field = [] ∨ l.field ∈ F)
  (hS : Sim Cf Cl s1 s (applyAll (Abs.empty s1.numTerms.length) (allEmits false nc π F s1.dicts b)))

include hD hπ hval

theorem resolveField_ok {i : Nat} (hi : i < F.length) :
    resolveField F (fieldOutOf nc π F s1.dicts b i) = .ok (viewOf nc F b i) := by
  have htf := tfsOK_of_valid hD hval
  have hterm : ∀ t ∈ keysOf F b i,
      mapE (resolveEntry F) ((ESof nc π F s1.dicts b i t).map toRaw) = .ok (entriesOf nc F b i t) ∧
      (ESof nc π F s1.dicts b i t).map (·.doc) = (entriesOf nc F b i t).map (·.doc) := by
    intro t ht
    obtain ⟨v, hv⟩ := Option.isSome_iff_exists.1 ((mem_keysOf hD hi t).1 ht)
    have hsel := esel_allEmits nc π hD hπ hv htf
    have hES : ESof nc π F s1.dicts b i t = esel (allEmits false nc π F s1.dicts b) (v - 1) := by
      simp only [ESof, hv, Option.getD_some]
    rw [hsel] at hES
    refine ⟨?_, ?_⟩
    · rw [hES, map_flatMap_toList]
      simp only [Option.map_map, entriesOf, postingIn]
      refine mapE_flatMap_toList _ _ _ _ _ fun x hx tf hg => ?_
      have hr := rollTFs_ok F x.1 i hi
      exact resolveEntry_ok nc hi x.2 (rollLens F x.1) t tf
        (htf x.1 (List.fst_mem_of_mem_zipIdx hx) i t tf ((mem_iff_aget hr.nodup t tf).2 hg)).2
    · rw [hES, entriesOf, map_flatMap_toList, map_flatMap_toList]
      apply flatMap_congr'
      intro x _
      simp only [postingIn]
      cases aget (lget (rollTFs false F x.1) i) t <;> rfl
  unfold resolveField fieldOutOf viewOf
  rw [mapE_map_ok _ _ (fun t => (t, entriesOf nc F b i t))]
  · simp only [FieldView.mk.injEq, true_and, Except.ok.injEq]
    congr 1
    exact dtmOf_congr _ _ _ _ (fun t ht => (hterm t ht).2)
  · intro t ht
    simp only [(hterm t ht).1]

include hS

/-- new.go:639-685, from the state pass 2 left with the flags the stored-field loop set -/
theorem writeDicts_ok (hK : ∀ i, i < F.length → kget s1.dictKeys i = keysOf F b i) :
    writeDicts { s with includeDV := dvFold F b.flatten (List.replicate F.length false) } b.length =
      .ok ((List.range F.length).map (fieldOutOf nc π F s1.dicts b)) := by
  have hlenK : s.dictKeys.length = F.length := by rw [hS.core.dkeys, hD.lenK]
  have e := foldlE_eq
    (writeDictsStep { s with includeDV := dvFold F b.flatten (List.replicate F.length false) } b.length)
    (fun pre => pre.map (fun x => fieldOutOf nc π F s1.dicts b x.2)) s.dictKeys.zipIdx (by
      intro pre x post hdd
      obtain ⟨hi, hkx⟩ := getD_of_mem_zipIdx (show x ∈ s.dictKeys.zipIdx by rw [hdd]; simp) []
      rw [hlenK] at hi
      have hterms : x.1 = keysOf F b x.2 := by rw [← hK x.2 hi, ← hS.core.dkeys]; exact hkx.symm
      have hdict : s.dicts[x.2]? = some (s1.dicts.getD x.2 []) := by
        rw [hS.core.dicts]; exact getElem?_eq_some_getD (hD.lenD ▸ hi) []
      have hl : x.2 < (dvFold F b.flatten (List.replicate F.length false)).length := by
        rw [length_dvFold, List.length_replicate]; exact hi
      have hdvi : (dvFold F b.flatten (List.replicate F.length false))[x.2]? = some (dvFlag F b x.2) := by
        rw [getElem?_eq_some_getD hl false, dvFold_get _ _ _ _ (by simpa using hi)]
        simp [dvFlag, hi]
      have := writeDictsField_ok
        (s := { s with includeDV := dvFold F b.flatten (List.replicate F.length false) })
        (numDocs := b.length) (i := x.2) (terms := x.1) hdict (hterms ▸ asc_sortDedup _) (ESof nc π F s1.dicts b x.2)
        (by
          intro t ht
          rw [hterms] at ht
          obtain ⟨v, hv⟩ := Option.isSome_iff_exists.1 ((mem_keysOf hD hi t).1 ht)
          rw [ESof, hv]
          exact (termView_ok nc π hD hπ hval hS hv).setIncludeDV _)
        hdvi
      rw [writeDictsStep, this]
      simp only [List.map_append, List.map_cons, List.map_nil, fieldOutOf, hterms])
  rw [List.map_nil] at e
  rw [writeDicts, e, zipIdx_map_range, hlenK]

end dicts

theorem run_eq_finish (nc : Bytes → Nat → Nat) (π : Order) (b : Batch) :
    run nc π b =
      match initFields b with
      | .error e => .error e
      | .ok s =>
        match prepareDicts s b with
        | .error e => .error e
        | .ok s => (Pool.finish nc π b s).map (·.1) := by
  unfold run runV Pool.finish
  cases initFields b with
  | error e => rfl
  | ok s =>
    simp only
    cases prepareDicts s b with
    | error e => rfl
    | ok s =>
      simp only
      cases processDocuments false nc π (sortKeys s) b with
      | error e => rfl
      | ok s =>
        simp only
        cases writeStoredFields s b with
        | error e => rfl
        | ok x =>
          obtain ⟨s, stored⟩ := x
          simp only
          cases (if b.length > 0 then writeDicts s b.length
                 else .ok (List.replicate s.fieldsInv.length {})) with
          | error e => rfl
          | ok outs =>
            simp only
            cases mapE (resolveField s.fieldsInv) outs with
            | error e => rfl
            | ok views => rfl

/-- new.go:281-315 from a pass-1 state whose windows are carved into arrays of capacity `Cf`, `Cl` with
    arbitrary stale cells: `builtOf nc b` -/
theorem finish_ok {Cf Cl : Nat} (nc : Bytes → Nat → Nat) (π : Order) (b : Batch) (hv : ValidBatch b)
    (hπ : PermOK π) {m : AMap Bytes Nat} (hF0 : FieldsOK (FL b) (st0 b m)) {s1 : St}
    (hS1 : S1 Cf Cl (FL b) b (st0 b m) s1) :
    ∃ sF, Pool.finish nc π b s1 = .ok (builtOf nc b, sF) := by
  have hlen : (FL b).length ≤ 65535 := FL_length_le hv.2
  have hF1 : FieldsOK (FL b) (sortKeys s1) := hF0.of_eq hS1.fmap hS1.finv
  have hD1 : DictInv (FL b).length (evsI (FL b) b.flatten) (sortKeys s1).dicts (sortKeys s1).dictKeys
      (sortKeys s1).numTerms (sortKeys s1).numLocs (sortKeys s1).numTerms.length := hS1.dict.sortKeys
  have hSim0 : Sim Cf Cl (sortKeys s1) (sortKeys s1) (Abs.empty (sortKeys s1).numTerms.length) :=
    ⟨Core.refl _, hS1.post, List.length_replicate, hS1.fn, hS1.loc⟩
  have hval : ∀ d ∈ b, ∀ f ∈ d, ∀ o ∈ f.terms, ∀ l ∈ o.locs, l.field = [] ∨ l.field ∈ FL b :=
    fun d hd f hf o ho l hl => (hv.1 d hd f hf o ho l hl).imp id fun h => (mem_FL b _).2 (Or.inr h)
  have hbF : ∀ d ∈ b, ∀ f ∈ d, f.name ∈ FL b := fun d hd f hf => name_mem_FL hd hf
  obtain ⟨s2, e2, hS2⟩ := processDocuments_ok nc π hF1 hD1 hπ false b hbF
    (tfsOK_of_valid hD1 hval) _ [] hSim0 (fits_all nc π hD1 hπ hval)
  have hF2 : FieldsOK (FL b) s2 := hF1.of_eq hS2.core.fmap hS2.core.finv
  have hdv2 : s2.includeDV = List.replicate (FL b).length false := hS2.core.dv.trans hS1.dv
  have e3 := writeStoredFields_ok hF2 (by rw [hdv2, List.length_replicate]) b hbF
  rw [hdv2] at e3
  have hK : ∀ i, i < (FL b).length → kget (sortKeys s1).dictKeys i = keysOf (FL b) b i :=
    fun i hi => (kget_map_sortS _ i).trans (keys_eq hS1.dict hi)
  have e5 : mapE (resolveField (FL b)) ((List.range (FL b).length).map
      (fieldOutOf nc π (FL b) (sortKeys s1).dicts b)) =
      .ok ((List.range (FL b).length).map (viewOf nc (FL b) b)) :=
    mapE_map_ok _ _ _ _ fun i hi => resolveField_ok nc π hD1 hπ hval (List.mem_range.1 hi)
  have e4 : (if b.length > 0 then
        writeDicts { s2 with includeDV := dvFold (FL b) b.flatten (List.replicate (FL b).length false) }
          b.length
      else .ok (List.replicate s2.fieldsInv.length {})) =
      .ok ((List.range (FL b).length).map (fieldOutOf nc π (FL b) (sortKeys s1).dicts b)) := by
    rw [hF2.inv]
    split
    · exact writeDicts_ok nc π hD1 hπ hval hS2 hK
    · next hb0 =>
      -- no documents: every field's section is empty
      have : b = [] := List.eq_nil_of_length_eq_zero (Nat.eq_zero_of_not_pos hb0)
      subst this
      have hg : fieldOutOf nc π (FL []) (sortKeys s1).dicts [] = fun _ => {} := by
        funext i; simp [fieldOutOf, keysOf, evsI, dvFlag, dvOut, sortDedup]
      rw [hg]
      congr 1
  have hu : ∀ i ∈ List.range (FL b).length, u16 i = i := fun i hi =>
    u16_lt i (Nat.lt_succ_of_le (Nat.le_trans (Nat.le_of_lt (List.mem_range.1 hi)) hlen))
  refine ⟨{ s2 with includeDV := dvFold (FL b) b.flatten (List.replicate (FL b).length false) }, ?_⟩
  simp only [Pool.finish, e2, e3, e4]
  simp only [hF2.inv, e5]
  simp only [builtOf, Except.ok.injEq, Prod.mk.injEq, Built.mk.injEq, true_and, and_true]
  refine ⟨List.map_congr_left fun i hi => ?_, List.map_congr_left fun i hi => ?_, ?_⟩
  · rw [hu i hi, hS2.core.fdocs]; exact hS1.fd i
  · rw [hu i hi, hS2.core.ffreqs]; exact hS1.ff i
  · simp

/-- REFINEMENT: inside the contract, for EVERY map order, the builder returns `builtOf nc b` -/
theorem run_eq (nc : Bytes → Nat → Nat) (π : Order) (b : Batch) (hv : ValidBatch b) (hπ : PermOK π) :
    run nc π b = .ok (builtOf nc b) := by
  obtain ⟨m, e0, hF0⟩ := initFields_ok b (FL_length_le hv.2)
  obtain ⟨s1, Cf, Cl, e1, hS1⟩ := prepareDicts_ok hF0 rfl
  obtain ⟨sF, e2⟩ := finish_ok nc π b hv hπ hF0 hS1
  simp only [run_eq_finish, e0, e1, e2]
  rfl

end Ice.Model.Builder
