import IceModel.Lemmas.Builder.Pass2
/-
  new.go:639-858 - writing the dictionaries: what writeDictsTermField reads back from the windows
  (bitmap order, consecutive freq/norm cells, consecutive location cells), the vellum insertion
  order, and the per-document term lists of the doc-value column.
-/
namespace Ice.Model.Builder
open Ice Ice.Spec

def toRaw (e : Emit) : RawEntry := { doc := e.doc, freq := e.fn.freq, norm := e.fn.norm, locs := e.locs }

/-- `mapE` succeeds iff `f` succeeds on every element, and then with the results in order -/
theorem mapE_eq_ok {α β : Type} {f : α → M β} : ∀ {l : List α} {ys : List β},
    mapE f l = .ok ys ↔ l.map f = ys.map .ok
  | [], ys => by cases ys <;> simp [mapE]
  | x :: r, ys => by
    rw [mapE, List.map_cons]
    cases hx : f x with
    | error e => cases ys <;> simp
    | ok y =>
      cases ys with
      | nil => cases mapE f r <;> simp
      | cons z zs =>
        rw [List.map_cons, List.cons.injEq, ← mapE_eq_ok]
        cases mapE f r <;> simp

theorem mapE_map_ok {α β γ : Type} (f : β → M γ) (h : α → β) (g : α → γ) (l : List α)
    (hh : ∀ x ∈ l, f (h x) = .ok (g x)) : mapE f (l.map h) = .ok (l.map g) :=
  mapE_eq_ok.mpr (by rw [List.map_map, List.map_map]; exact List.map_congr_left hh)

theorem mapE_ok {α β : Type} (f : α → M β) (g : α → β) (l : List α) (h : ∀ x ∈ l, f x = .ok (g x)) :
    mapE f l = .ok (l.map g) := by
  rw [← mapE_map_ok f id g l h, List.map_id]

theorem mapE_get {α β : Type} (fn : α → M β) (l : List α) (ys : List β) (hm : mapE fn l = .ok ys) :
      ys.length = l.length ∧ ∀ (i : Nat) (x : α), l[i]? = some x → ∃ y, ys[i]? = some y ∧ fn x = .ok y := by
  have hm := mapE_eq_ok.mp hm
  refine ⟨by simpa using (congrArg List.length hm).symm, fun i x hx => ?_⟩
  have := congrArg (·[i]?) hm
  simp only [List.getElem?_map, hx, Option.map_some] at this
  cases hy : ys[i]? with
  | none => rw [hy] at this; cases this
  | some y => rw [hy] at this; exact ⟨y, rfl, Option.some.inj this⟩

theorem mapE_ok_map {α β γ : Type} (fn : α → M β) (g : β → γ) (h : α → γ)
    (hfg : ∀ x y, fn x = .ok y → g y = h x) (l : List α) (ys : List β) (hm : mapE fn l = .ok ys) :
    ys.map g = l.map h := by
  refine List.ext_getElem? fun i => ?_
  have := congrArg (·[i]?) (mapE_eq_ok.mp hm)
  simp only [List.getElem?_map] at this ⊢
  cases hx : l[i]? <;> cases hy : ys[i]? <;> rw [hx, hy] at this
  · rfl
  · cases this
  · cases this
  · exact congrArg some (hfg _ _ (Option.some.inj this))

theorem mapE_flatMap_toList {α β γ δ : Type} (f : γ → M δ) (a : α → Option β) (p : α → β → γ)
    (q : α → β → δ) (l : List α) (h : ∀ x ∈ l, ∀ y, a x = some y → f (p x y) = .ok (q x y)) :
    mapE f (l.flatMap fun x => ((a x).map (p x)).toList) =
      .ok (l.flatMap fun x => ((a x).map (q x)).toList) := by
  induction l with
  | nil => rfl
  | cons x r ih =>
    have ih := ih fun y hy => h y (List.mem_cons_of_mem _ hy)
    rw [List.flatMap_cons, List.flatMap_cons]
    cases hx : a x with
    | none => exact ih
    | some y => simp only [Option.map_some, Option.toList_some, List.singleton_append, mapE,
        h x List.mem_cons_self y hx, ih]

/-- the loop new.go:796-836 reads the postings back exactly as they were emitted -/
theorem readEntries_gen (fn : Slice FreqNorm) (fnB : List FreqNorm) (lw : Slice ILoc) (locB : List ILoc)
    (all : List Emit) (hget : ∀ k, fn.get? fnB k = (all.map (·.fn))[k]?)
    (hsub : ∀ lo m, lo + m ≤ (all.flatMap (·.locs)).length →
      lw.sub? locB lo (lo + m) = some (((all.flatMap (·.locs)).drop lo).take m))
    (hnl : ∀ e ∈ all, e.fn.numLocs = e.locs.length) :
    ∀ (Es pre : List Emit), all = pre ++ Es →
      readEntries fn fnB lw locB (Es.map (·.doc)) pre.length (pre.flatMap (·.locs)).length =
        .ok (Es.map toRaw) := by
  intro Es
  induction Es with
  | nil => intro pre _; rfl
  | cons e r ih =>
    intro pre hall
    have hmem : e ∈ all := by rw [hall]; simp
    have hg : fn.get? fnB pre.length = some e.fn := by
      rw [hget, hall]; simp
    have hrec := ih (pre ++ [e]) (by simp [hall])
    simp only [List.length_append, List.length_singleton, List.flatMap_append, List.flatMap_cons,
      List.flatMap_nil, List.append_nil] at hrec
    simp only [List.map_cons, readEntries, hg]
    by_cases h0 : e.fn.numLocs > 0
    · have hs : lw.sub? locB (pre.flatMap (·.locs)).length ((pre.flatMap (·.locs)).length + e.fn.numLocs) =
          some e.locs := by
        rw [hsub _ _ (by rw [hall, hnl e hmem]; simp), hall, hnl e hmem]
        simp [List.flatMap_append]
      rw [← hnl e hmem] at hrec
      simp only [h0, if_true, hs, hrec, toRaw]
    · have hl : e.locs = [] := by
        have := hnl e hmem
        have h1 : e.locs.length = 0 := by omega
        exact List.eq_nil_of_length_eq_zero h1
      rw [hl] at hrec
      simp only [List.length_nil, Nat.add_zero] at hrec
      simp only [h0, if_false, hrec, toRaw, hl]

/-- `docTermMap` after a term's postings -/
def addTerm (t : Bytes) (dtm : List (List Bytes)) (docs : List Nat) : List (List Bytes) :=
  docs.foldl (fun dtm n => dtm.set n (lget dtm n ++ [t])) dtm

theorem length_addTerm (t : Bytes) (dtm : List (List Bytes)) (docs : List Nat) :
    (addTerm t dtm docs).length = dtm.length :=
  foldl_length_inv _ (by intros; simp) docs dtm

theorem appendTerms_ok (t : Bytes) (es : List RawEntry) :
    ∀ (dtm : List (List Bytes)), (∀ r ∈ es, r.doc < dtm.length) →
      foldlE (appendTerm t) dtm es = .ok (addTerm t dtm (es.map (·.doc))) := by
  induction es with
  | nil => intro dtm _; rfl
  | cons r rest ih =>
    intro dtm h
    have hr : r.doc < dtm.length := h r (by simp)
    simp only [foldlE, appendTerm, getE_getD hr 833 [], List.map_cons]
    rw [ih _ (fun r' hr' => by simpa using h r' (by simp [hr']))]
    rfl

theorem addTerm_get (t : Bytes) (docs : List Nat) :
    ∀ (dtm : List (List Bytes)), docs.Nodup → (∀ d ∈ docs, d < dtm.length) → ∀ n,
      lget (addTerm t dtm docs) n = lget dtm n ++ if n ∈ docs then [t] else [] := by
  induction docs with
  | nil => intro dtm _ _ n; simp [addTerm]
  | cons d r ih =>
    intro dtm hn hlt n
    have hn' := List.nodup_cons.1 hn
    have hd : d < dtm.length := hlt d (by simp)
    have hcons : addTerm t dtm (d :: r) = addTerm t (dtm.set d (lget dtm d ++ [t])) r := rfl
    rw [hcons, ih _ hn'.2 (fun x hx => by simpa using hlt x (by simp [hx])), lget_set]
    by_cases e : d = n
    · subst e; simp [hd, hn'.1]
    · have e' : ¬ n = d := fun e' => e e'.symm
      simp [e, e']

theorem foldl_addDoc {docs : List Nat} (h : docs.Pairwise (· < ·)) :
    docs.foldl (fun l d => addDoc d l) [] = docs := by
  induction docs using snoc_induction with
  | nil => rfl
  | snoc l d ih =>
    obtain ⟨h1, _, h3⟩ := List.pairwise_append.1 h
    rw [foldl_snoc, ih h1, addDoc_append l d fun x hx => h3 x hx d (List.mem_singleton_self d)]

/-- what the state offers to writeDictsField for the terms of one field -/
structure TermView (s : St) (dict : AMap Bytes Nat) (numDocs : Nat) (t : Bytes) (Es : List Emit) : Prop where
  ne : Es ≠ []
  docs : (Es.map (·.doc)).Pairwise (· < ·)
  lt : ∀ e ∈ Es, e.doc < numDocs
  nl : ∀ e ∈ Es, e.fn.numLocs = e.locs.length
  read : ∃ v fn lw, aget dict t = some v ∧ v ≠ 0 ∧
    s.postings[v - 1]? = some (Es.map (·.doc)) ∧ s.fnWins[v - 1]? = some fn ∧
    s.locWins[v - 1]? = some lw ∧ v - 1 < s.numTerms.length ∧
    (∀ k, fn.get? s.fnBacking k = (Es.map (·.fn))[k]?) ∧
    (∀ lo m, lo + m ≤ (Es.flatMap (·.locs)).length →
      lw.sub? s.locBacking lo (lo + m) = some (((Es.flatMap (·.locs)).drop lo).take m))

theorem TermView.setIncludeDV {s : St} {dict : AMap Bytes Nat} {numDocs : Nat} {t : Bytes} {Es : List Emit}
    (h : TermView s dict numDocs t Es) (dv : List Bool) :
    TermView { s with includeDV := dv } dict numDocs t Es :=
  ⟨h.ne, h.docs, h.lt, h.nl, h.read⟩

theorem writeDictsTermField_ok {s : St} {dict : AMap Bytes Nat} {numDocs : Nat} {t : Bytes}
    {Es : List Emit} (h : TermView s dict numDocs t Es) (dtm : List (List Bytes))
    (hdtm : dtm.length = numDocs) (ents : List (Bytes × List RawEntry))
    (hord : ∀ l, ents.getLast? = some l → Bytes.cmp l.1 t = .lt) :
    writeDictsTermField s dict (dtm, ents) t =
      .ok (addTerm t dtm (Es.map (·.doc)), ents ++ [(t, Es.map toRaw)]) := by
  obtain ⟨v, fn, lw, hv, hv0, hbs, hfn, hlw, hnt, hget, hsub⟩ := h.read
  have hre : readEntries fn s.fnBacking lw s.locBacking (Es.map (·.doc)) 0 0 = _ :=
    readEntries_gen fn s.fnBacking lw s.locBacking Es hget hsub h.nl Es [] rfl
  have happ := appendTerms_ok t (Es.map toRaw) dtm (by
    intro r hr
    obtain ⟨e, he, rfl⟩ := List.mem_map.1 hr
    rw [hdtm]; exact h.lt e he)
  rw [List.map_map] at happ
  have hne : (Es.map (·.doc)).isEmpty = false := by
    cases hE : Es with
    | nil => exact absurd hE h.ne
    | cons a r => rfl
  have hvi : vellumInsert ents t (Es.map toRaw) = .ok (ents ++ [(t, Es.map toRaw)]) := by
    unfold vellumInsert
    cases hl : ents.getLast? with
    | none => rfl
    | some l => simp [hord l hl]
  simp only [writeDictsTermField, hv, Option.getD_some, pidOf, if_neg hv0, getE_eq_ok hbs, getE_eq_ok hfn,
    getE_eq_ok hlw, getE_eq_ok (List.getElem?_eq_getElem hnt), hre, happ, hne, hvi]
  rfl

/-- the doc-value column of a field: per document the terms whose postings contain it -/
def dtmOf (numDocs : Nat) (terms : List Bytes) (docsOf : Bytes → List Nat) : List (List Bytes) :=
  terms.foldl (fun dtm t => addTerm t dtm (docsOf t)) (List.replicate numDocs [])

def dvOut (dv : Bool) (dtm : List (List Bytes)) : Option (List (Nat × List Bytes)) :=
  if dv then some ((dtm.zipIdx.filter (fun p => !p.1.isEmpty)).map (fun p => (p.2, p.1))) else none

theorem getLast?_map_fst_asc {pre post : List Bytes} {t : Bytes} (h : Asc (pre ++ t :: post))
    {β : Type} (g : Bytes → β) (l : Bytes × β) (hl : (pre.map (fun t => (t, g t))).getLast? = some l) :
    Bytes.cmp l.1 t = .lt := by
  have hm : l ∈ pre.map (fun t => (t, g t)) := List.mem_of_getLast? hl
  simp only [List.mem_map] at hm
  obtain ⟨x, hx, rfl⟩ := hm
  exact (List.pairwise_append.1 h).2.2 x hx t (by simp)

/-- new.go:687-774 -/
theorem writeDictsField_ok {s : St} {numDocs i : Nat} {terms : List Bytes} {dict : AMap Bytes Nat}
    (hdict : s.dicts[i]? = some dict) (hasc : Asc terms) (ES : Bytes → List Emit)
    (hES : ∀ t ∈ terms, TermView s dict numDocs t (ES t)) {dv : Bool} (hdv : s.includeDV[i]? = some dv) :
    writeDictsField s numDocs i terms =
      .ok { entries := terms.map (fun t => (t, (ES t).map toRaw)),
            dv := dvOut dv (dtmOf numDocs terms (fun t => (ES t).map (·.doc))) } := by
  have e := foldlE_eq (writeDictsTermField s dict)
    (fun pre => (pre.foldl (fun dtm t => addTerm t dtm ((ES t).map (·.doc))) (List.replicate numDocs []),
                 pre.map (fun t => (t, (ES t).map toRaw))))
    terms (by
      intro pre t post hdd
      rw [writeDictsTermField_ok (hES t (by simp [hdd])) _ ?_ _ ?_]
      · simp
      · rw [foldl_length_inv _ (fun l x => length_addTerm x l _)]; simp
      · intro l hl
        exact getLast?_map_fst_asc (hdd ▸ hasc) _ l hl)
  simp only [List.foldl_nil, List.map_nil] at e
  simp only [writeDictsField, getE_eq_ok hdict, e, getE_eq_ok hdv]
  cases dv <;> simp [dvOut, dtmOf]

theorem length_dtmOf (n : Nat) (terms : List Bytes) (docsOf : Bytes → List Nat) :
    (dtmOf n terms docsOf).length = n := by
  rw [dtmOf, foldl_length_inv _ (fun l x => length_addTerm x l _), List.length_replicate]

theorem dtmOf_get (numDocs : Nat) (terms : List Bytes) (docsOf : Bytes → List Nat)
    (hn : ∀ t ∈ terms, (docsOf t).Nodup) (hlt : ∀ t ∈ terms, ∀ d ∈ docsOf t, d < numDocs) (n : Nat) :
    lget (dtmOf numDocs terms docsOf) n = terms.filter (fun t => decide (n ∈ docsOf t)) := by
  induction terms using snoc_induction with
  | nil => rw [dtmOf, List.foldl_nil, lget_replicate_nil]; rfl
  | snoc ts t ih =>
    have hl := length_dtmOf numDocs ts docsOf
    have ht : t ∈ ts ++ [t] := List.mem_append_right _ List.mem_cons_self
    rw [dtmOf, foldl_snoc, ← dtmOf, addTerm_get t _ _ (hn t ht) (fun d hd => hl.symm ▸ hlt t ht d hd),
      ih (fun t' h' => hn t' (List.mem_append_left _ h')) (fun t' h' => hlt t' (List.mem_append_left _ h')),
      List.filter_append]
    by_cases e : n ∈ docsOf t <;> simp [e]

theorem dtmOf_congr (numDocs : Nat) (terms : List Bytes) (f g : Bytes → List Nat)
    (h : ∀ t ∈ terms, f t = g t) : dtmOf numDocs terms f = dtmOf numDocs terms g := by
  unfold dtmOf
  generalize List.replicate numDocs ([] : List Bytes) = init
  induction terms generalizing init with
  | nil => rfl
  | cons t r ih =>
    rw [List.foldl_cons, List.foldl_cons, h t (by simp)]
    exact ih (fun t' h' => h t' (by simp [h'])) _

/-! ## a column is its rows -/

theorem zipIdx_eq_map_range {α : Type} (l : List α) (dflt : α) :
    l.zipIdx = (List.range l.length).map (fun d => (l.getD d dflt, d)) := by
  apply List.ext_getElem?
  intro i
  rw [List.getElem?_zipIdx, List.getElem?_map, Nat.zero_add]
  by_cases hi : i < l.length <;> simp [hi, List.getD_eq_getElem?_getD]

theorem filterMap_range_asc {α : Type} (g : Nat → Option (Nat × α))
    (hg : ∀ k q, g k = some q → q.1 = k) (n : Nat) :
    ((List.range n).filterMap g).Pairwise (fun a b => a.1 < b.1) := by
  rw [List.pairwise_filterMap]
  refine (List.pairwise_lt_range (n := n)).imp ?_
  intro a a' hlt q hq q' hq'
  rw [hg a q hq, hg a' q' hq']
  exact hlt

/-- the doc-value column with rows `row 0 … row (n-1)`: the documents whose row is not empty,
    ascending.  `dvOut` (the builder's `docTermMap`), `Format.dvOfTerms` and a stored document
    regrouped by field id (`E2E.storedDocOf`) all have this form, so each is known once its rows are. -/
def colOf (n : Nat) (row : Nat → List Bytes) : List (Nat × List Bytes) :=
  (List.range n).filterMap fun d => if (row d).isEmpty then none else some (d, row d)

theorem colOf_congr {n : Nat} {row row' : Nat → List Bytes} (h : ∀ d, d < n → row d = row' d) :
    colOf n row = colOf n row' :=
  filterMap_congr' fun d hd => by rw [h d (List.mem_range.1 hd)]

theorem mem_colOf {n : Nat} {row : Nat → List Bytes} {q : Nat × List Bytes} :
    q ∈ colOf n row ↔ q.1 < n ∧ row q.1 = q.2 ∧ q.2 ≠ [] := by
  simp only [colOf, List.mem_filterMap, List.mem_range]
  constructor
  · rintro ⟨d, hd, h⟩
    split at h
    · cases h
    · next hne =>
      cases h
      exact ⟨hd, rfl, fun e => hne (by rw [show row d = [] from e]; rfl)⟩
  · rintro ⟨h1, h2, h3⟩
    refine ⟨q.1, h1, ?_⟩
    rw [h2, if_neg (by simpa using h3)]

theorem colOf_asc (n : Nat) (row : Nat → List Bytes) :
    (colOf n row).Pairwise (fun a c => a.1 < c.1) :=
  filterMap_range_asc _ (fun d q hq => by split at hq <;> cases hq; rfl) n

theorem aget_of_mem {ν : Type} : ∀ {m : AMap Nat ν}, m.Pairwise (fun a c => a.1 < c.1) →
    ∀ {q : Nat × ν}, q ∈ m → aget m q.1 = some q.2
  | a :: r, hasc, q, hq => by
    rw [List.pairwise_cons] at hasc
    rcases List.mem_cons.1 hq with rfl | hq'
    · simp [aget]
    · rw [aget, if_neg (Nat.ne_of_gt (hasc.1 q hq'))]
      exact aget_of_mem hasc.2 hq'

/-- reading a column back gives its rows -/
theorem aget_colOf {n : Nat} {row : Nat → List Bytes} (hrow : ∀ d, n ≤ d → row d = []) (d : Nat) :
    (aget (colOf n row) d).getD [] = row d := by
  by_cases h : d < n ∧ row d ≠ []
  · rw [aget_of_mem (colOf_asc n row) (mem_colOf.2 ⟨h.1, rfl, h.2⟩ : (d, row d) ∈ _)]; rfl
  · have hnil : row d = [] := Decidable.by_contra fun hne =>
      h ⟨Nat.lt_of_not_le fun hle => hne (hrow d hle), hne⟩
    have : aget (colOf n row) d = none := by
      refine Option.not_isSome_iff_eq_none.1 (mt (aget_isSome_iff _ _).1 ?_)
      rintro hm
      obtain ⟨q, hq, rfl⟩ := List.mem_map.1 hm
      obtain ⟨_, h2, h3⟩ := mem_colOf.1 hq
      exact h3 (by rw [← h2, hnil])
    rw [this, hnil]; rfl

/-- `dvOut` on a `docTermMap`, as a function of its rows -/
theorem dvOut_rows (dtm : List (List Bytes)) : dvOut true dtm = some (colOf dtm.length (lget dtm)) := by
  rw [dvOut, if_pos rfl, zipIdx_eq_map_range dtm [], List.filter_map, List.map_map,
    ← List.filterMap_eq_map, List.filterMap_filter]
  congr 1
  apply filterMap_congr'
  intro d _
  simp [lget]

end Ice.Model.Builder
