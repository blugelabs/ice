import IceModel.Lemmas.Builder.Pass2
import IceModel.Lemmas.Merge
/-
  The emissions of pass 2, grouped by postings list (for EVERY map order `π`), and the counting
  argument behind the window lemma: pass 2 appends to window `pid(i,t)` once per document that has
  term `t` in field `i`, pass 1 reserved one cell per occurrence.
-/
namespace Ice.Model.Builder
open Ice Ice.Spec

theorem cnt_flatten (F : List Bytes) (b : Batch) (i : Nat) (t : Bytes) :
    (b.map (fun d => cnt (evsI F d) i t)).sum = cnt (evsI F b.flatten) i t := by
  induction b with
  | nil => simp [evsI, cnt]
  | cons d r ih => simp [evsI_append, cnt_append, ih]

theorem lsum_flatten (F : List Bytes) (b : Batch) (i : Nat) (t : Bytes) :
    (b.map (fun d => lsum (evsI F d) i t)).sum = lsum (evsI F b.flatten) i t := by
  induction b with
  | nil => simp [evsI, lsum]
  | cons d r ih => simp [evsI_append, lsum_append, ih]

theorem cnt_pos_iff (E : List (Nat × TermOcc)) (i : Nat) (t : Bytes) :
    0 < cnt E i t ↔ t ∈ ((E.filter (fun e => e.1 == i)).map (·.2.term)) := by
  simp only [cnt, List.countP_pos_iff, List.mem_map, List.mem_filter, Bool.and_eq_true, beq_iff_eq]
  constructor
  · rintro ⟨e, he, h1, h2⟩; exact ⟨e, ⟨he, h1⟩, h2⟩
  · rintro ⟨e, ⟨he, h1⟩, h2⟩; exact ⟨e, he, h1, h2⟩

theorem cnt_flatten_pos (F : List Bytes) (b : Batch) (i : Nat) (t : Bytes) :
    0 < cnt (evsI F b.flatten) i t ↔ ∃ d ∈ b, 0 < cnt (evsI F d) i t := by
  induction b with
  | nil => exact ⟨fun h => absurd h (Nat.lt_irrefl 0), fun ⟨_, h, _⟩ => nomatch h⟩
  | cons d r ih =>
    rw [List.flatten_cons, evsI_append, cnt_append, Nat.add_pos_iff_pos_or_pos, ih]
    simp only [List.mem_cons, exists_eq_or_imp]

theorem cnt_le_flatten (F : List Bytes) (b : Batch) (d : Doc) (hd : d ∈ b) (i : Nat) (t : Bytes) :
    cnt (evsI F d) i t ≤ cnt (evsI F b.flatten) i t := by
  obtain ⟨b1, b2, rfl⟩ := List.append_of_mem hd
  simp only [List.flatten_append, List.flatten_cons, evsI_append, cnt_append]
  omega

theorem esel_flatMap {α : Type} (l : List α) (g : α → List Emit) (p : Nat) :
    esel (l.flatMap g) p = l.flatMap (fun x => esel (g x) p) := List.filter_flatMap

section grouping
variable {F : List Bytes} {b : Batch} {D : List (AMap Bytes Nat)} {K : List (List Bytes)}
  {nT nL : List Nat} {n : Nat} (nc : Bytes → Nat → Nat) (π : Order)
  (hD : DictInv F.length (evsI F b.flatten) D K nT nL n) (hπ : PermOK π)
  (hval : ∀ d ∈ b, ∀ f ∈ d, ∀ o ∈ f.terms, ∀ l ∈ o.locs, l.field = [] ∨ l.field ∈ F)

include hD

theorem lt_of_dget {i : Nat} {t : Bytes} {v : Nat} (hv : dget D i t = some v) : i < F.length :=
  Nat.lt_of_not_le fun h' => by
    rw [dget, List.getD_eq_getElem?_getD, List.getElem?_eq_none (hD.lenD ▸ h')] at hv
    cases hv

include hval in
theorem tfsOK_of_valid (d : Doc) (hd : d ∈ b) : TFsOK F D (rollTFs false F d) := by
  intro i t tf hm
  have hi : i < F.length := by
    rw [← length_rollTFs false F d]
    refine Nat.lt_of_not_le (fun h => ?_)
    rw [lget, List.getD_eq_getElem?_getD, List.getElem?_eq_none h] at hm
    exact absurd hm List.not_mem_nil
  have hr := rollTFs_ok F d i hi
  have hg := (mem_iff_aget hr.nodup t tf).1 hm
  refine ⟨?_, ?_⟩
  · apply (hD.dom i t hi).2
    have h1 := (hr.isSome_iff t).1 (by rw [hg]; rfl)
    exact Nat.lt_of_lt_of_le h1 (cnt_le_flatten F b d hd i t)
  · intro l hl
    rw [hr.eq_tfOf hg] at hl
    simp only [tfOf, occs, evsI, List.mem_flatMap, List.mem_map, List.mem_filter] at hl
    obtain ⟨_, ⟨_, ⟨⟨f, hf, o, ho, rfl⟩, _⟩, rfl⟩, hlo⟩ := hl
    exact hval d hd f hf o ho l hlo

include hπ

theorem esel_fieldEmits {i : Nat} {t : Bytes} {v : Nat} (hv : dget D i t = some v) (dn : Nat)
    (lens : List Nat) (m : AMap Bytes TokFreq) (j : Nat)
    (hm : ∀ t' tf, (t', tf) ∈ m → (dget D j t').isSome) (hnd : (m.map (·.1)).Nodup) :
    esel (fieldEmits nc π F D dn lens (m, j)) (v - 1) =
      if j = i then ((aget m t).map (fun tf => mkEmit nc F D dn i lens (t, tf))).toList else [] := by
  have hpred : ∀ e ∈ π dn j m, (((fun e : Emit => e.pid == v - 1) ∘ mkEmit nc F D dn j lens) e) =
      (decide (j = i) && (e.1 == t)) := by
    intro e he
    obtain ⟨w, hw⟩ := Option.isSome_iff_exists.1 (hm e.1 e.2 ((hπ dn j m).mem_iff.1 he))
    rw [Bool.eq_iff_iff]
    simp only [Function.comp, mkEmit, hw, Option.getD_some, beq_iff_eq, Bool.and_eq_true,
      decide_eq_true_eq]
    exact hD.pid_eq_iff hv hw
  simp only [esel, fieldEmits, List.filter_map]
  rw [List.filter_congr hpred]
  by_cases e : j = i
  · subst e
    simp only [decide_true, Bool.true_and, if_true]
    -- a permutation of at most one element is that element
    have hperm := (hπ dn j m).filter (fun e => e.1 == t)
    rw [filter_key m hnd t] at hperm
    cases hg : aget m t with
    | none => rw [hg] at hperm; rw [List.perm_nil.1 hperm]; rfl
    | some tf => rw [hg] at hperm; rw [List.perm_singleton.1 hperm]; rfl
  · simp [e]

theorem esel_docEmits {i : Nat} {t : Bytes} {v : Nat} (hv : dget D i t = some v) (d : Doc) (dn : Nat)
    (htf : TFsOK F D (rollTFs false F d)) :
    esel (docEmits false nc π F D (d, dn)) (v - 1) =
      ((aget (lget (rollTFs false F d) i) t).map
        (fun tf => mkEmit nc F D dn i (rollLens F d) (t, tf))).toList := by
  have hi := lt_of_dget hD hv
  -- only the map of field `i` emits into this postings list
  rw [docEmits, esel_flatMap, flatMap_congr' (g := fun y => if y.2 = i then
      ((aget y.1 t).map (fun tf => mkEmit nc F D dn i (rollLens F d) (t, tf))).toList else [])]
  · have := flatMap_zipIdx_single (fun m => ((aget m t).map
        (fun tf => mkEmit nc F D dn i (rollLens F d) (t, tf))).toList) (rollTFs false F d) 0 i
    rw [Nat.zero_add] at this
    rw [this, getElem?_eq_some_getD (length_rollTFs false F d ▸ hi) []]
    rfl
  · intro y hy
    obtain ⟨hj, hlg⟩ := getD_of_mem_zipIdx hy []
    rw [length_rollTFs] at hj
    change lget (rollTFs false F d) y.2 = y.1 at hlg
    exact esel_fieldEmits nc π hD hπ hv dn (rollLens F d) y.1 y.2
      (fun t' tf hm => (htf y.2 t' tf (by rw [hlg]; exact hm)).1)
      (hlg ▸ (rollTFs_ok F d y.2 hj).nodup)

/-- the emissions into one postings list, for every map order: one per document that has the term,
    in document order -/
theorem esel_allEmits {i : Nat} {t : Bytes} {v : Nat} (hv : dget D i t = some v)
    (htf : ∀ d ∈ b, TFsOK F D (rollTFs false F d)) :
    esel (allEmits false nc π F D b) (v - 1) =
      b.zipIdx.flatMap (fun x => ((aget (lget (rollTFs false F x.1) i) t).map
        (fun tf => mkEmit nc F D x.2 i (rollLens F x.1) (t, tf))).toList) := by
  rw [allEmits, esel_flatMap]
  exact flatMap_congr' fun x hx =>
    esel_docEmits nc π hD hπ hv x.1 x.2 (htf x.1 (List.fst_mem_of_mem_zipIdx hx))

include hval

/-- THE WINDOW LEMMA, counting half: pass 2 never appends more than pass 1 reserved -/
theorem fits_all : Fits n nT nL (allEmits false nc π F D b) := by
  have htf := tfsOK_of_valid hD hval
  -- every emission goes to the postings list of a dictionary entry
  have hmem : ∀ e ∈ allEmits false nc π F D b, ∃ i t v, dget D i t = some v ∧ e.pid = v - 1 := by
    intro e he
    simp only [allEmits, docEmits, fieldEmits, List.mem_flatMap, List.mem_map] at he
    obtain ⟨x, hx, y, hy, z, hz, rfl⟩ := he
    have hlg : lget (rollTFs false F x.1) y.2 = y.1 := (getD_of_mem_zipIdx hy []).2
    have hzm : z ∈ y.1 := (hπ x.2 y.2 y.1).mem_iff.1 hz
    obtain ⟨w, hw⟩ := Option.isSome_iff_exists.1
      (htf x.1 (List.fst_mem_of_mem_zipIdx hx) y.2 z.1 z.2 (by rw [hlg]; exact hzm)).1
    exact ⟨y.2, z.1, w, hw, by simp [mkEmit, hw]⟩
  have hsel : ∀ p, esel (allEmits false nc π F D b) p = [] ∨ ∃ i t v, dget D i t = some v ∧ p = v - 1 := by
    intro p
    cases hs : esel (allEmits false nc π F D b) p with
    | nil => exact Or.inl rfl
    | cons e r =>
      obtain ⟨he1, he2⟩ := List.mem_filter.1 (hs ▸ List.mem_cons_self : e ∈ esel _ p)
      obtain ⟨i, t, v, hv, hp⟩ := hmem e he1
      exact Or.inr ⟨i, t, v, hv, by rw [← beq_iff_eq.1 he2, hp]⟩
  refine ⟨?_, ?_, ?_⟩
  · intro e he
    obtain ⟨i, t, v, hv, hp⟩ := hmem e he
    exact hp ▸ pid_lt (hD.rng i t v hv)
  · intro p
    rcases hsel p with h0 | ⟨i, t, v, hv, rfl⟩
    · rw [h0]; exact Nat.zero_le _
    · rw [esel_allEmits nc π hD hπ hv htf, hD.cntT i t v hv, ← cnt_flatten,
        ← sum_map_zipIdx_fst b (fun d => cnt (evsI F d) i t) 0]
      apply length_flatMap_le_sum
      intro x _
      cases hg : aget (lget (rollTFs false F x.1) i) t with
      | none => exact Nat.zero_le _
      | some tf => exact ((rollTFs_ok F x.1 i (lt_of_dget hD hv)).isSome_iff t).1 (by rw [hg]; rfl)
  · intro p
    rcases hsel p with h0 | ⟨i, t, v, hv, rfl⟩
    · rw [h0]; exact Nat.zero_le _
    · rw [esel_allEmits nc π hD hπ hv htf, hD.cntL i t v hv, ← lsum_flatten,
        ← sum_map_zipIdx_fst b (fun d => lsum (evsI F d) i t) 0, List.flatMap_assoc]
      apply Nat.le_of_eq
      apply length_flatMap_eq_sum
      intro x _
      have hr := rollTFs_ok F x.1 i (lt_of_dget hD hv)
      rw [lsum_eq_occs]
      cases hg : aget (lget (rollTFs false F x.1) i) t with
      | none => rw [hr.occs_nil hg]; rfl
      | some tf => simp [mkEmit, hr.eq_tfOf hg]

end grouping

end Ice.Model.Builder
