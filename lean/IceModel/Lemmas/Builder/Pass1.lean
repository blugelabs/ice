import IceModel.Lemmas.Builder.Fields
/-
  new.go:339-451 - pass 1.  `DictInv` describes the dictionaries, the key lists and the two
  counters per postings list in terms of the flat list of (field id, term occurrence) events.
-/
namespace Ice.Model.Builder
open Ice Ice.Spec

/-- `Dicts[i][t]` -/
def dget (D : List (AMap Bytes Nat)) (i : Nat) (t : Bytes) : Option Nat := aget (D.getD i []) t

theorem dget_set (D : List (AMap Bytes Nat)) (i j : Nat) (m : AMap Bytes Nat) (t : Bytes)
    (hi : i < D.length) : dget (D.set i m) j t = if j = i then aget m t else dget D j t := by
  simp only [dget, getD_set]
  by_cases h : i = j
  · subst h; simp [hi]
  · have : ¬ j = i := fun e => h e.symm
    simp [h, this]

/-- `numTermsPerPostingsList[k]` -/
def nget (l : List Nat) (k : Nat) : Nat := l.getD k 0
/-- `DictKeys[i]` -/
def kget (K : List (List Bytes)) (i : Nat) : List Bytes := K.getD i []

theorem nget_set (l : List Nat) (i j a : Nat) :
    nget (l.set i a) j = if i = j ∧ i < l.length then a else nget l j := getD_set l i j a 0

theorem kget_set (K : List (List Bytes)) (i j : Nat) (a : List Bytes) :
    kget (K.set i a) j = if i = j ∧ i < K.length then a else kget K j := getD_set K i j a []

theorem getD_append_lt {α : Type} (l r : List α) (j : Nat) (d : α) (h : j < l.length) :
    (l ++ r).getD j d = l.getD j d := by
  simp [List.getD_eq_getElem?_getD, List.getElem?_append_left h]

theorem nget_snoc (l : List Nat) (x k : Nat) :
    nget (l ++ [x]) k = if k = l.length then x else nget l k := by
  rcases Nat.lt_trichotomy k l.length with h | h | h
  · rw [nget, getD_append_lt _ _ _ _ h, if_neg (Nat.ne_of_lt h)]; rfl
  · rw [if_pos h, h, nget, List.getD_eq_getElem?_getD, List.getElem?_concat_length]; rfl
  · rw [if_neg (Nat.ne_of_gt h), nget, nget, List.getD_eq_getElem?_getD, List.getD_eq_getElem?_getD,
      List.getElem?_eq_none (Nat.le_of_lt h),
      List.getElem?_eq_none (by rw [List.length_append, List.length_singleton]; exact h)]

theorem sum_set_add (l : List Nat) (k c : Nat) (h : k < l.length) :
    (l.set k (nget l k + c)).sum = l.sum + c := by
  induction l generalizing k with
  | nil => simp at h
  | cons x r ih =>
    cases k with
    | zero => simp [nget]; omega
    | succ j =>
      have := ih j (by simpa using h)
      simp only [nget, List.set_cons_succ, List.sum_cons, List.getD_cons_succ] at this ⊢
      omega

theorem pid_lt {v n : Nat} (hv : 1 ≤ v ∧ v ≤ n) : v - 1 < n := Nat.sub_one_lt_of_le hv.1 hv.2

/-- the (field id, term occurrence) events of a list of field instances, in processing order -/
def evsI (F : List Bytes) (I : List FieldInst) : List (Nat × TermOcc) :=
  I.flatMap (fun f => f.terms.map (fun o => (F.idxOf f.name, o)))

/-- number of occurrences of term `t` in field `i` -/
def cnt (E : List (Nat × TermOcc)) (i : Nat) (t : Bytes) : Nat :=
  E.countP (fun e => e.1 == i && e.2.term == t)

/-- number of locations of term `t` in field `i` -/
def lsum (E : List (Nat × TermOcc)) (i : Nat) (t : Bytes) : Nat :=
  (E.map (fun e => if e.1 = i ∧ e.2.term = t then e.2.locs.length else 0)).sum

def lsumAll (E : List (Nat × TermOcc)) : Nat := (E.map (fun e => e.2.locs.length)).sum

theorem cnt_append (E E' : List (Nat × TermOcc)) (i : Nat) (t : Bytes) :
    cnt (E ++ E') i t = cnt E i t + cnt E' i t := by simp [cnt, List.countP_append]

theorem lsum_append (E E' : List (Nat × TermOcc)) (i : Nat) (t : Bytes) :
    lsum (E ++ E') i t = lsum E i t + lsum E' i t := by simp [lsum, List.sum_append]

theorem lsumAll_append (E E' : List (Nat × TermOcc)) :
    lsumAll (E ++ E') = lsumAll E + lsumAll E' := by simp [lsumAll, List.sum_append]

theorem cnt_single (i j : Nat) (o : TermOcc) (t : Bytes) :
    cnt [(i, o)] j t = if i = j ∧ o.term = t then 1 else 0 := by
  simp only [cnt, List.countP_cons, List.countP_nil, Bool.and_eq_true, beq_iff_eq, Nat.zero_add]

theorem lsum_single (i j : Nat) (o : TermOcc) (t : Bytes) :
    lsum [(i, o)] j t = if i = j ∧ o.term = t then o.locs.length else 0 := by
  simp [lsum]

theorem lsum_eq_zero {E : List (Nat × TermOcc)} {i : Nat} {t : Bytes} (h : cnt E i t = 0) :
    lsum E i t = 0 := by
  simp only [cnt, List.countP_eq_zero, Bool.and_eq_true, beq_iff_eq] at h
  simp only [lsum, List.sum_eq_zero_iff_forall_eq_nat, List.mem_map]
  rintro x ⟨e, he, rfl⟩
  rw [if_neg (h e he)]

theorem evsI_append (F : List Bytes) (I J : List FieldInst) :
    evsI F (I ++ J) = evsI F I ++ evsI F J := by simp [evsI]

structure DictInv (nF : Nat) (E : List (Nat × TermOcc)) (D : List (AMap Bytes Nat))
    (K : List (List Bytes)) (nT nL : List Nat) (pn : Nat) : Prop where
  lenD : D.length = nF
  lenK : K.length = nF
  lenT : nT.length = pn
  lenL : nL.length = pn
  rng : ∀ i t v, dget D i t = some v → 1 ≤ v ∧ v ≤ pn
  cntT : ∀ i t v, dget D i t = some v → nget nT (v - 1) = cnt E i t
  cntL : ∀ i t v, dget D i t = some v → nget nL (v - 1) = lsum E i t
  inj : ∀ i j t u v, dget D i t = some v → dget D j u = some v → i = j ∧ t = u
  dom : ∀ i t, i < nF → ((dget D i t).isSome ↔ 0 < cnt E i t)
  keys : ∀ i, i < nF → ∀ t, t ∈ kget K i ↔ (dget D i t).isSome
  nodup : ∀ i, i < nF → (kget K i).Nodup
  sumT : nT.sum = E.length
  sumL : nL.sum = lsumAll E

namespace DictInv

theorem init (nF : Nat) :
    DictInv nF [] (List.replicate nF []) (List.replicate nF []) [] [] 0 := by
  have hd : ∀ i t, dget (List.replicate nF []) i t = none := fun i t => by
    rw [dget, getD_replicate]; rfl
  have hk : ∀ i, kget (List.replicate nF ([] : List Bytes)) i = [] := fun i => getD_replicate nF i []
  constructor <;> simp [hd, hk, cnt, lsumAll]

end DictInv

section step
variable {nF : Nat} {E : List (Nat × TermOcc)} {D : List (AMap Bytes Nat)} {K : List (List Bytes)}
  {nT nL : List Nat} {pn : Nat} (h : DictInv nF E D K nT nL pn) {i : Nat} (hi : i < nF) (o : TermOcc)
include h
namespace DictInv

theorem pid_eq_iff {j : Nat} {t u : Bytes} {v w : Nat} (hv : dget D i t = some v)
    (hw : dget D j u = some w) : w - 1 = v - 1 ↔ j = i ∧ u = t := by
  constructor
  · intro e
    have := Nat.sub_one_cancel (h.rng j u w hw).1 (h.rng i t v hv).1 e
    exact h.inj j i u t w hw (this ▸ hv)
  · rintro ⟨rfl, rfl⟩
    rw [Option.some.inj (hw.symm.trans hv)]

/-- an occurrence of a term that has its postings list already: two counters go up -/
theorem seen {v : Nat} (hg : dget D i o.term = some v) :
    DictInv nF (E ++ [(i, o)]) D K (nT.set (v - 1) (nget nT (v - 1) + 1))
      (nL.set (v - 1) (nget nL (v - 1) + o.locs.length)) pn := by
  have hv := h.rng i o.term v hg
  have hvT : v - 1 < nT.length := h.lenT ▸ pid_lt hv
  have hvL : v - 1 < nL.length := h.lenL ▸ pid_lt hv
  -- the entry whose counter goes up is the one of `(i, o.term)`
  have hkey : ∀ j u w, dget D j u = some w → ∀ (l : List Nat) (c : Nat), l.length = pn →
      nget (l.set (v - 1) (nget l (v - 1) + c)) (w - 1) =
        nget l (w - 1) + if i = j ∧ o.term = u then c else 0 := by
    intro j u w hw l c hl
    rw [nget_set, hl]
    by_cases e : i = j ∧ o.term = u
    · rw [if_pos e, if_pos ⟨(h.pid_eq_iff hw hg).2 e, pid_lt hv⟩, (h.pid_eq_iff hw hg).2 e]
    · rw [if_neg e, if_neg fun e' => e ((h.pid_eq_iff hw hg).1 e'.1)]; rfl
  refine ⟨h.lenD, h.lenK, by rw [List.length_set, h.lenT], by rw [List.length_set, h.lenL], h.rng,
    ?_, ?_, h.inj, ?_, h.keys, h.nodup, ?_, ?_⟩
  · intro j u w hw
    rw [hkey j u w hw nT 1 h.lenT, cnt_append, cnt_single, h.cntT j u w hw]
  · intro j u w hw
    rw [hkey j u w hw nL _ h.lenL, lsum_append, lsum_single, h.cntL j u w hw]
  · intro j u hj
    rw [cnt_append, cnt_single, h.dom j u hj]
    split
    · next e =>
      obtain ⟨rfl, rfl⟩ := e
      have : 0 < cnt E i o.term := (h.dom i o.term hj).1 (by rw [hg]; rfl)
      exact ⟨fun _ => Nat.succ_pos _, fun _ => this⟩
    · rfl
  · rw [sum_set_add _ _ _ hvT, h.sumT, List.length_append, List.length_singleton]
  · rw [sum_set_add _ _ _ hvL, h.sumL, lsumAll_append]; rfl

include hi

/-- the first occurrence of a term: it gets the next postings list, with counters 1 and the
    number of its locations -/
theorem fresh (hg : dget D i o.term = none) :
    DictInv nF (E ++ [(i, o)]) (D.set i (aset (D.getD i []) o.term (pn + 1)))
      (K.set i (kget K i ++ [o.term])) (nT ++ [1]) (nL ++ [o.locs.length]) (pn + 1) := by
  have hiD : i < D.length := by rw [h.lenD]; exact hi
  have hiK : i < K.length := by rw [h.lenK]; exact hi
  have hc0 : cnt E i o.term = 0 := by
    have := h.dom i o.term hi
    rw [hg] at this
    simpa using this
  have hD' : ∀ j u, dget (D.set i (aset (D.getD i []) o.term (pn + 1))) j u =
      if j = i ∧ u = o.term then some (pn + 1) else dget D j u := by
    intro j u
    rw [dget_set _ _ _ _ _ hiD, aget_aset]
    by_cases e1 : j = i
    · subst e1; simp only [true_and]; rfl
    · simp only [e1, false_and, if_false]
  have hK' : ∀ j, kget (K.set i (kget K i ++ [o.term])) j =
      if i = j then kget K i ++ [o.term] else kget K j := by
    intro j; rw [kget_set]; simp only [hiK, and_true]
  -- an entry of the new dictionaries is the new one or an old one, which is at most `pn`
  have hcase : ∀ {j u w}, dget (D.set i (aset (D.getD i []) o.term (pn + 1))) j u = some w →
      (i = j ∧ o.term = u) ∧ w = pn + 1 ∨ ¬ (i = j ∧ o.term = u) ∧ dget D j u = some w ∧ w - 1 ≠ pn := by
    intro j u w hw
    rw [hD'] at hw
    split at hw
    · next e => injection hw with hw; exact Or.inl ⟨⟨e.1.symm, e.2.symm⟩, hw.symm⟩
    · next e => exact Or.inr ⟨fun e' => e ⟨e'.1.symm, e'.2.symm⟩, hw, Nat.ne_of_lt (pid_lt (h.rng j u w hw))⟩
  refine ⟨by rw [List.length_set, h.lenD], by rw [List.length_set, h.lenK],
    by rw [List.length_append, h.lenT]; rfl, by rw [List.length_append, h.lenL]; rfl,
    ?_, ?_, ?_, ?_, ?_, ?_, ?_, ?_, ?_⟩
  · intro j u w hw
    rcases hcase hw with ⟨_, rfl⟩ | ⟨_, hw, _⟩
    · exact ⟨Nat.succ_pos _, Nat.le_refl _⟩
    · exact ⟨(h.rng j u w hw).1, Nat.le_succ_of_le (h.rng j u w hw).2⟩
  · intro j u w hw
    rw [nget_snoc, cnt_append, cnt_single, h.lenT]
    rcases hcase hw with ⟨⟨rfl, rfl⟩, rfl⟩ | ⟨e, hw, hne⟩
    · simp [hc0]
    · rw [if_neg hne, if_neg e, h.cntT j u w hw]; rfl
  · intro j u w hw
    rw [nget_snoc, lsum_append, lsum_single, h.lenL]
    rcases hcase hw with ⟨⟨rfl, rfl⟩, rfl⟩ | ⟨e, hw, hne⟩
    · simp [lsum_eq_zero hc0]
    · rw [if_neg hne, if_neg e, h.cntL j u w hw]; rfl
  · intro j j' u u' w hw hw'
    rcases hcase hw with ⟨e, rfl⟩ | ⟨_, hw, hne⟩ <;> rcases hcase hw' with ⟨e', hw'⟩ | ⟨_, hw', hne'⟩
    · exact ⟨e.1.symm.trans e'.1, e.2.symm.trans e'.2⟩
    · exact absurd rfl hne'
    · subst hw'; exact absurd rfl hne
    · exact h.inj j j' u u' w hw hw'
  · intro j u hj
    rw [hD', cnt_append, cnt_single]
    by_cases e : j = i ∧ u = o.term
    · obtain ⟨rfl, rfl⟩ := e; simp
    · rw [if_neg e, if_neg (fun e' => e ⟨e'.1.symm, e'.2.symm⟩)]
      exact h.dom j u hj
  · intro j hj u
    rw [hK', hD']
    by_cases e : i = j
    · subst e
      simp only [if_true, List.mem_append, List.mem_singleton, true_and, h.keys i hi u]
      by_cases e2 : u = o.term <;> simp [e2]
    · rw [if_neg e, if_neg (fun e' => e e'.1.symm)]
      exact h.keys j hj u
  · intro j hj
    rw [hK']
    split
    · refine nodup_snoc (h.nodup i hi) (fun hx => ?_)
      have := (h.keys i hi _).1 hx
      rw [hg] at this; exact absurd this (by simp)
    · exact h.nodup j hj
  · rw [List.sum_append, h.sumT, List.length_append]; rfl
  · rw [List.sum_append, h.sumL, lsumAll_append]; rfl

end DictInv
end step

theorem prepTerm_some {a : TermAcc} {o : TermOcc} {v : Nat} (h : aget a.dict o.term = some v)
    (hv : 1 ≤ v) (hT : v ≤ a.numTerms.length) (hL : v ≤ a.numLocs.length) :
    prepTerm a o = .ok { a with
      numTermsLocal := a.numTermsLocal + 1, totLocs := a.totLocs + o.locs.length,
      numTerms := a.numTerms.set (v - 1) (nget a.numTerms (v - 1) + 1),
      numLocs := a.numLocs.set (v - 1) (nget a.numLocs (v - 1) + o.locs.length) } := by
  simp only [prepTerm, h, pidOf, Nat.ne_of_gt hv, if_false, getE_getD (pid_lt ⟨hv, hT⟩) 431 0,
    getE_getD (pid_lt ⟨hv, hL⟩) 437 0, nget]

theorem prepTerm_none {a : TermAcc} {o : TermOcc} (h : aget a.dict o.term = none)
    (hT : a.numTerms.length = a.pidNext) (hL : a.numLocs.length = a.pidNext) :
    prepTerm a o = .ok { a with
      numTermsLocal := a.numTermsLocal + 1, totLocs := a.totLocs + o.locs.length,
      pidNext := a.pidNext + 1, dict := aset a.dict o.term (a.pidNext + 1), keys := a.keys ++ [o.term],
      numTerms := a.numTerms ++ [1], numLocs := a.numLocs ++ [o.locs.length] } := by
  have set_snoc : ∀ (l : List Nat) (y : Nat), (l ++ [0]).set l.length (0 + y) = l ++ [y] := by
    intro l y
    rw [List.set_append_right _ _ (Nat.le_refl _), Nat.sub_self, Nat.zero_add]; rfl
  have g1 : getE (a.numTerms ++ [0]) a.pidNext 431 = .ok 0 := hT ▸ getE_eq_ok List.getElem?_concat_length
  have g2 : getE (a.numLocs ++ [0]) a.pidNext 437 = .ok 0 := hL ▸ getE_eq_ok List.getElem?_concat_length
  have s1 : (a.numTerms ++ [0]).set a.pidNext (0 + 1) = a.numTerms ++ [1] := hT ▸ set_snoc _ _
  have s2 : (a.numLocs ++ [0]).set a.pidNext (0 + o.locs.length) = a.numLocs ++ [o.locs.length] :=
    hL ▸ set_snoc _ _
  simp only [prepTerm, h, pidOf, Nat.add_sub_cancel, Nat.succ_ne_zero, if_false, g1, g2, s1, s2]

/-- one term occurrence, new.go:414-440; the accumulator holds row `i` of the two tables -/
theorem prepTerm_step {nF : Nat} {E : List (Nat × TermOcc)} {D : List (AMap Bytes Nat)}
    {K : List (List Bytes)} {a : TermAcc} {i : Nat}
    (h : DictInv nF E (D.set i a.dict) (K.set i a.keys) a.numTerms a.numLocs a.pidNext) (hi : i < nF)
    (o : TermOcc) :
    ∃ a', prepTerm a o = .ok a' ∧
      DictInv nF (E ++ [(i, o)]) (D.set i a'.dict) (K.set i a'.keys) a'.numTerms a'.numLocs a'.pidNext ∧
      a'.numTermsLocal = a.numTermsLocal + 1 ∧ a'.totLocs = a.totLocs + o.locs.length := by
  have hiD : i < D.length := by have := h.lenD; rw [List.length_set] at this; omega
  have hiK : i < K.length := by have := h.lenK; rw [List.length_set] at this; omega
  have hd : dget (D.set i a.dict) i o.term = aget a.dict o.term := by
    rw [dget_set _ _ _ _ _ hiD, if_pos rfl]
  cases hg : aget a.dict o.term with
  | some v =>
    rw [hg] at hd
    obtain ⟨hv1, hv2⟩ := h.rng i o.term v hd
    exact ⟨_, prepTerm_some hg hv1 (by rw [h.lenT]; exact hv2) (by rw [h.lenL]; exact hv2),
      h.seen o hd, rfl, rfl⟩
  | none =>
    rw [hg] at hd
    refine ⟨_, prepTerm_none hg h.lenT h.lenL, ?_, rfl, rfl⟩
    have := h.fresh hi o hd
    rwa [List.set_set, List.set_set, getD_set_self _ _ _ _ hiD, kget, getD_set_self _ _ _ _ hiK] at this

theorem getD_addAt (m : AMap Nat Nat) (k n i : Nat) :
    (aget (addAt m k n) i).getD 0 = (aget m i).getD 0 + if i = k then n else 0 := by
  simp only [addAt, aget_aset]
  by_cases h : i = k <;> simp [h]

/-- Σ Length() of the instances of field `i` -/
def freqSum (F : List Bytes) (I : List FieldInst) (i : Nat) : Nat :=
  (I.map (fun f => if F.idxOf f.name = i then f.length else 0)).sum

/-- the state of pass 1 after the field instances `I` -/
structure P1 (F : List Bytes) (s0 : St) (I : List FieldInst) (s : St) (t : Tot) : Prop where
  fmap : s.fieldsMap = s0.fieldsMap
  finv : s.fieldsInv = s0.fieldsInv
  dv : s.includeDV = s0.includeDV
  dict : DictInv F.length (evsI F I) s.dicts s.dictKeys s.numTerms s.numLocs t.pidNext
  tfs : t.totTFs = (evsI F I).length
  tl : t.totLocs = lsumAll (evsI F I)
  ff : ∀ i, (aget s.fieldFreqs i).getD 0 = freqSum F I i

/-- the `EachField` callback, new.go:404-445 -/
theorem prepField_step {F : List Bytes} {s0 s : St} {I : List FieldInst} {t : Tot}
    (hF : FieldsOK F s0) (h : P1 F s0 I s t) (seen : List Nat) (f : FieldInst) (hf : f.name ∈ F) :
    ∃ s' t', prepField (s, t, seen) f = .ok (s', t', seeField seen (F.idxOf f.name)) ∧
      P1 F s0 (I ++ [f]) s' t' ∧ s'.fieldDocs = s.fieldDocs := by
  have hFs : FieldsOK F s := hF.of_eq h.fmap h.finv
  have hi : F.idxOf f.name < F.length := List.idxOf_lt_length_of_mem hf
  have hu : u16 (F.idxOf f.name) = F.idxOf f.name := u16_idx hFs hf
  generalize hidef : F.idxOf f.name = i at hi hu
  have hiD : i < s.dicts.length := by rw [h.dict.lenD]; exact hi
  have hiK : i < s.dictKeys.length := by rw [h.dict.lenK]; exact hi
  obtain ⟨a, ha, hda, hna, hla⟩ := foldlE_inv prepTerm
    (fun pre a => DictInv F.length (evsI F I ++ pre.map (fun o => (i, o))) (s.dicts.set i a.dict)
        (s.dictKeys.set i a.keys) a.numTerms a.numLocs a.pidNext ∧
      a.numTermsLocal = pre.length ∧
      a.totLocs = t.totLocs + lsumAll (pre.map (fun o => (i, o))))
    f.terms
    { dict := s.dicts.getD i [], keys := s.dictKeys.getD i [], numTermsLocal := 0, pidNext := t.pidNext,
      totLocs := t.totLocs, numTerms := s.numTerms, numLocs := s.numLocs }
    ⟨by simpa only [List.map_nil, List.append_nil, set_getD_self] using h.dict, rfl, rfl⟩
    (by
      intro pre o post a _ ⟨hd, hn, hl⟩
      obtain ⟨a', ha', hd', hn', hl'⟩ := prepTerm_step hd hi o
      refine ⟨a', ha', ?_, ?_, ?_⟩
      · simpa only [List.map_append, List.map_cons, List.map_nil, List.append_assoc] using hd'
      · rw [hn', hn, List.length_append, List.length_singleton]
      · rw [hl', hl, List.map_append, lsumAll_append, Nat.add_assoc]; rfl)
  have hev : evsI F (I ++ [f]) = evsI F I ++ f.terms.map (fun o => (i, o)) := by
    simp [evsI, hidef]
  refine ⟨{ s with fieldFreqs := addAt s.fieldFreqs i f.length, dicts := s.dicts.set i a.dict,
                   dictKeys := s.dictKeys.set i a.keys, numTerms := a.numTerms, numLocs := a.numLocs },
    { pidNext := a.pidNext, totLocs := a.totLocs, totTFs := t.totTFs + a.numTermsLocal }, ?_,
    ⟨h.fmap, h.finv, h.dv, hev ▸ hda, ?_, ?_, ?_⟩, rfl⟩
  · simp only [prepField, getOrDefineField_known hFs hf, hidef, hu, getE_getD hiD 410 [], getE_getD hiK 411 [], ha,
      setE_eq_ok _ hiK]
  · rw [hev, List.length_append, List.length_map, ← hna, ← h.tfs]
  · rw [hev, lsumAll_append, ← h.tl]; exact hla
  · intro j
    show (aget (addAt s.fieldFreqs i f.length) j).getD 0 = _
    rw [getD_addAt, h.ff j, ← hidef]
    simp only [freqSum, List.map_append, List.sum_append, List.map_cons, List.map_nil,
      List.sum_cons, List.sum_nil, Nat.add_zero, eq_comm]

theorem mem_seeField (seen : List Nat) (k i : Nat) : i ∈ seeField seen k ↔ i ∈ seen ∨ k = i := by
  unfold seeField
  split
  · next hk => exact ⟨Or.inl, fun h => h.elim id (fun e => e ▸ hk)⟩
  · rw [List.mem_append, List.mem_singleton, eq_comm]

theorem nodup_seeField {seen : List Nat} (h : seen.Nodup) (k : Nat) : (seeField seen k).Nodup := by
  unfold seeField
  split
  · exact h
  · next hk => exact nodup_snoc h hk

/-- the set `fieldsSeen` of a document -/
def seenOf (F : List Bytes) (I : List FieldInst) : List Nat :=
  I.foldl (fun acc f => seeField acc (F.idxOf f.name)) []

theorem seenOf_snoc (F : List Bytes) (I : List FieldInst) (f : FieldInst) :
    seenOf F (I ++ [f]) = seeField (seenOf F I) (F.idxOf f.name) := foldl_snoc _ _ I f

theorem seenOf_spec (F : List Bytes) (I : List FieldInst) :
    (seenOf F I).Nodup ∧ ∀ i, i ∈ seenOf F I ↔ ∃ f ∈ I, F.idxOf f.name = i := by
  induction I using snoc_induction with
  | nil => exact ⟨List.nodup_nil, fun i => by simp [seenOf]⟩
  | snoc I f ih =>
    rw [seenOf_snoc]
    refine ⟨nodup_seeField ih.1 _, fun i => ?_⟩
    rw [mem_seeField, ih.2]
    simp only [List.mem_append, List.mem_singleton, or_and_right, exists_or, exists_eq_left]

theorem getD_incrAll (seen : List Nat) (hn : seen.Nodup) (m : AMap Nat Nat) (i : Nat) :
    (aget (seen.foldl (fun m k => addAt m k 1) m) i).getD 0 =
      (aget m i).getD 0 + if i ∈ seen then 1 else 0 := by
  induction seen generalizing m with
  | nil => simp
  | cons k r ih =>
    have hn' := List.nodup_cons.1 hn
    rw [List.foldl_cons, ih hn'.2, getD_addAt]
    by_cases e : i = k
    · subst e; simp [hn'.1]
    · by_cases e2 : i ∈ r <;> simp [e, e2]

/-- number of documents with an instance of field `i` -/
def docCnt (F : List Bytes) (ds : List Doc) (i : Nat) : Nat :=
  ds.countP (fun d => d.any (fun f => F.idxOf f.name == i))

/-- the state of pass 1 after the documents `ds` -/
structure P1D (F : List Bytes) (s0 : St) (ds : List Doc) (s : St) (t : Tot) : Prop where
  p1 : P1 F s0 ds.flatten s t
  fd : ∀ i, (aget s.fieldDocs i).getD 0 = docCnt F ds i

/-- new.go:401-451 -/
theorem prepDoc_step {F : List Bytes} {s0 s : St} {ds : List Doc} {t : Tot}
    (hF : FieldsOK F s0) (h : P1D F s0 ds s t) (d : Doc) (hd : ∀ f ∈ d, f.name ∈ F) :
    ∃ s' t', prepDoc (s, t) d = .ok (s', t') ∧ P1D F s0 (ds ++ [d]) s' t' := by
  have hloop := foldlE_inv prepField
    (fun pre x => P1 F s0 (ds.flatten ++ pre) x.1 x.2.1 ∧ x.1.fieldDocs = s.fieldDocs ∧
      x.2.2 = seenOf F pre)
    d (s, t, [])
    (by simpa [seenOf] using h.p1)
    (by
      intro pre f post x hdd ⟨hp, hfd, hs⟩
      obtain ⟨s1, t1, seen⟩ := x
      obtain ⟨s', t', e, hp', hfd'⟩ := prepField_step hF hp seen f (hd f (by simp [hdd]))
      refine ⟨(s', t', seeField seen (F.idxOf f.name)), e, ?_, ?_, ?_⟩
      · simpa [List.append_assoc] using hp'
      · exact hfd'.trans hfd
      · simp only at hs; rw [seenOf_snoc, ← hs])
  obtain ⟨⟨s1, t1, seen⟩, e, hp, hfd, hs⟩ := hloop
  simp only at hp hfd hs
  refine ⟨{ s1 with fieldDocs := seen.foldl (fun m k => addAt m k 1) s1.fieldDocs }, t1, ?_, ?_, ?_⟩
  · simp only [prepDoc, e]
  · rw [List.flatten_append, List.flatten_singleton]
    exact ⟨hp.fmap, hp.finv, hp.dv, hp.dict, hp.tfs, hp.tl, hp.ff⟩
  · intro i
    show (aget (seen.foldl (fun m k => addAt m k 1) s1.fieldDocs) i).getD 0 = _
    have hsp := seenOf_spec F d
    rw [hs, getD_incrAll _ hsp.1, hfd, h.fd i]
    simp only [docCnt, List.countP_append, List.countP_singleton, hsp.2 i, List.any_eq_true, beq_iff_eq]

end Ice.Model.Builder
