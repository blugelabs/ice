import IceModel.Lemmas.Builder.Run
import IceModel.Lemmas.Builder.OfSpec
import IceModel.Lemmas.Build
/-
  What `New` builds is the specification's segment laid out by field number:
  `builtOf_eq : builtOf nc b = Built.ofSpec (dvFlagOf b) (Spec.build nc mode b)`, part by part.

  First the two vocabularies: `Spec.build` speaks of field names and filters over the document,
  `builtOf` of field numbers in `FL b` and the event list `evsI`.  `rollDoc` and `rollTerms` are looked
  up in closed form (`field?_rollDoc`, `find?_rollTerms`); in a document of the batch, number `i` and
  name `fname (FL b) i` select the same instances (`idx_beq`), hence the same occurrences, counts and
  lengths (`occs_eq`, `cnt_pos_iff_mem`, `freqSum_eq`).
-/
namespace Ice.Model.Builder
open Ice Ice.Spec

theorem field?_rollDoc (nc : Bytes → Nat → Nat) (g : Bytes → Bool) (d : Doc) (f : Bytes) :
    (rollDoc nc g d).field? f =
      if f ∈ d.map (·.name) then some (rollField nc g d f) else none := by
  unfold ADoc.field? rollDoc
  rw [List.find?_map]
  have : ((fun af : AField => af.name == f) ∘ rollField nc g d) = (fun n => n == f) := by
    funext n; simp [rollField]
  rw [this, find?_beq]
  simp only [List.mem_eraseDups]
  split <;> simp

theorem find?_rollTerms (fname : Bytes) (occs : List TermOcc) (t : Bytes) :
    (rollTerms fname occs).find? (fun x => x.term == t) =
      if t ∈ occs.map (·.term) then
        some { term := t, freq := ((occs.filter (fun o => o.term == t)).map (·.freq)).sum,
               locs := (occs.filter (fun o => o.term == t)).flatMap
                         (fun o => o.locs.map (resolveLoc fname)) }
      else none := by
  unfold rollTerms
  rw [List.find?_map]
  have : ((fun x : ATerm => x.term == t) ∘ fun t' =>
      ({ term := t', freq := ((occs.filter (fun o => o.term == t')).map (·.freq)).sum,
         locs := (occs.filter (fun o => o.term == t')).flatMap (fun o => o.locs.map (resolveLoc fname)) } : ATerm))
      = (fun n => n == t) := by
    funext n; rfl
  simp only [this, find?_beq, mem_sortDedup]
  split <;> simp

theorem map_term_rollTerms (fname : Bytes) (occs : List TermOcc) :
    (rollTerms fname occs).map (·.term) = sortDedup (occs.map (·.term)) := by
  unfold rollTerms; rw [List.map_map]; simp [Function.comp_def]

theorem sortDedup_congr {l₁ l₂ : List Bytes} (h : ∀ x, x ∈ l₁ ↔ x ∈ l₂) :
    sortDedup l₁ = sortDedup l₂ :=
  asc_ext (asc_sortDedup _) (asc_sortDedup _) (fun x => by rw [mem_sortDedup, mem_sortDedup, h])

theorem fname_idxOf {F : List Bytes} {n : Bytes} (hm : n ∈ F) : fname F (F.idxOf n) = n := by
  rw [fname_eq (List.idxOf_lt_length_of_mem hm)]; exact List.getElem_idxOf _

theorem idx_eq_iff {F : List Bytes} (hn : F.Nodup) {n : Bytes} (hm : n ∈ F) {i : Nat} (hi : i < F.length) :
    F.idxOf n = i ↔ n = fname F i :=
  ⟨fun e => e ▸ (fname_idxOf hm).symm, fun e => by rw [e, fname_eq hi]; exact idxOf_getElem_nodup hn i hi⟩

theorem range_map_fname (F : List Bytes) : (List.range F.length).map (fname F) = F := by
  apply List.ext_getElem?
  intro i
  by_cases h : i < F.length
  · simp [h, fname_eq h]
  · simp [h]

theorem idx_beq {b : Batch} {d : Doc} (hd : d ∈ b) {i : Nat} (hi : i < (FL b).length) {f : FieldInst}
    (hf : f ∈ d) : ((FL b).idxOf f.name == i) = (f.name == fname (FL b) i) := by
  rw [Bool.eq_iff_iff, beq_iff_eq, beq_iff_eq]
  exact idx_eq_iff (FL_nodup b) (name_mem_FL hd hf) hi

theorem filter_name_nil {d : Doc} {n : Bytes} (h : n ∉ d.map (·.name)) :
    d.filter (fun f => f.name == n) = [] :=
  List.filter_eq_nil_iff.2 fun f hf e => h (List.mem_map.2 ⟨f, hf, beq_iff_eq.1 e⟩)

theorem occs_eq {b : Batch} {d : Doc} (hd : d ∈ b) {i : Nat} (hi : i < (FL b).length) (t : Bytes) :
    occs (evsI (FL b) d) i t =
      ((d.filter (fun f => f.name == fname (FL b) i)).flatMap (·.terms)).filter (fun o => o.term == t) := by
  rw [occs_evsI, List.filter_congr (fun f hf => idx_beq hd hi hf)]

theorem filter_term_nil_iff (os : List TermOcc) (t : Bytes) :
    os.filter (fun o => o.term == t) = [] ↔ t ∉ os.map (·.term) := by
  rw [List.filter_eq_nil_iff, List.mem_map]
  exact ⟨fun h ⟨o, ho, e⟩ => h o ho (beq_iff_eq.2 e), fun h o ho e => h ⟨o, ho, beq_iff_eq.1 e⟩⟩

theorem cnt_pos_iff_mem {b : Batch} {d : Doc} (hd : d ∈ b) {i : Nat} (hi : i < (FL b).length) (t : Bytes) :
    0 < cnt (evsI (FL b) d) i t ↔
      t ∈ ((d.filter (fun f => f.name == fname (FL b) i)).flatMap (·.terms)).map (·.term) := by
  rw [cnt_eq_occs, occs_eq hd hi, List.length_pos_iff, Ne, filter_term_nil_iff, Decidable.not_not]

theorem freqSum_eq {b : Batch} {d : Doc} (hd : d ∈ b) {i : Nat} (hi : i < (FL b).length) :
    freqSum (FL b) d i = ((d.filter (fun f => f.name == fname (FL b) i)).map (·.length)).sum := by
  rw [← List.filter_congr (fun f hf => idx_beq hd hi hf)]
  unfold freqSum
  generalize d = I
  induction I with
  | nil => rfl
  | cons f r ih =>
    rw [List.map_cons, List.sum_cons, ih, List.filter_cons]
    cases h : (FL b).idxOf f.name == i <;> simp_all

theorem any_idx_eq {b : Batch} {d : Doc} (hd : d ∈ b) {i : Nat} (hi : i < (FL b).length) (p : FieldInst → Bool) :
    d.any (fun f => (FL b).idxOf f.name == i && p f) = d.any (fun f => f.name == fname (FL b) i && p f) := by
  rw [Bool.eq_iff_iff, List.any_eq_true, List.any_eq_true]
  exact exists_congr fun f => and_congr_right fun hf => by rw [idx_beq hd hi hf]

/-! ### dictionary keys and postings

The heart is one posting of one document (`postingIn_eq`). -/

/-- one document: the posting the builder emits is the posting the specification prescribes -/
theorem postingIn_eq (nc : Bytes → Nat → Nat) (g : Bytes → Bool) {b : Batch} {d : Doc} (hd : d ∈ b)
    {i : Nat} (hi : i < (FL b).length) (t : Bytes) (n : Nat) :
    postingIn nc (FL b) i t (d, n) = postingOf (rollDoc nc g d) n (fname (FL b) i) t := by
  unfold postingIn postingOf
  rw [field?_rollDoc, (rollTFs_ok (FL b) d i hi).get t, occs_eq hd hi t]
  by_cases hf : fname (FL b) i ∈ d.map (·.name)
  · rw [if_pos hf]
    simp only [rollField]
    rw [find?_rollTerms]
    by_cases ht : t ∈ ((d.filter (fun f => f.name == fname (FL b) i)).flatMap (·.terms)).map (·.term)
    · rw [if_pos ht, if_neg (mt (filter_term_nil_iff _ t).1 (not_not_intro ht))]
      simp only [Option.map_some, tfOf, rollLens_eq _ _ _ hi, freqSum_eq hd hi, List.map_flatMap]
    · rw [if_neg ht, if_pos ((filter_term_nil_iff _ t).2 ht)]; rfl
  · rw [if_neg hf, filter_name_nil hf]; rfl

theorem docs_zipIdx (nc : Bytes → Nat → Nat) (mode : Nat) (b : Batch) :
    (build nc mode b).docs.zipIdx = b.zipIdx.map (fun x => (rollDoc nc (dvFlagOf b) x.1, x.2)) := by
  rw [build_docs, List.zipIdx_map]
  apply List.map_congr_left
  intro x _; rfl

theorem entriesOf_eq (nc : Bytes → Nat → Nat) (mode : Nat) (b : Batch) {i : Nat} (hi : i < (FL b).length)
    (t : Bytes) : entriesOf nc (FL b) b i t = postings (build nc mode b) (fname (FL b) i) t := by
  unfold postings entriesOf
  rw [docs_zipIdx, List.filterMap_map, filterMap_eq_flatMap_toList]
  apply flatMap_congr'
  intro x hx
  have hxb : x.1 ∈ b := List.fst_mem_of_mem_zipIdx hx
  simp only [Function.comp]
  rw [← postingIn_eq nc (dvFlagOf b) hxb hi t x.2]

theorem keysOf_eq_terms (nc : Bytes → Nat → Nat) (mode : Nat) (b : Batch) {i : Nat} (hi : i < (FL b).length) :
    keysOf (FL b) b i = terms (build nc mode b) (fname (FL b) i) := by
  have hmem : ∀ t, ∀ d ∈ b, (0 < cnt (evsI (FL b) d) i t ↔
      t ∈ ((rollField nc (dvFlagOf b) d (fname (FL b) i)).terms).map (·.term)) := by
    intro t d hd
    rw [cnt_pos_iff_mem hd hi]
    simp only [rollField, map_term_rollTerms, mem_sortDedup]
  refine asc_ext (asc_sortDedup _) (asc_terms _ _) fun t => ?_
  rw [mem_keysOf_iff, mem_terms]
  constructor
  · rintro ⟨d, hd, hc⟩
    have hm := (hmem t d hd).1 hc
    refine ⟨_, List.mem_map_of_mem hd, _, ?_, hm⟩
    rw [field?_rollDoc, if_pos]
    refine Decidable.by_contra fun hn => ?_
    simp [rollField, filter_name_nil hn, rollTerms, sortDedup] at hm
  · rintro ⟨_, had, af, hq, ht⟩
    obtain ⟨d, hd, rfl⟩ := List.mem_map.1 had
    rw [field?_rollDoc] at hq
    split at hq
    · exact ⟨d, hd, (hmem t d hd).2 (Option.some.inj hq ▸ ht)⟩
    · exact absurd hq (by simp)

/-! ### statistics and stored values -/

theorem freqSum_flatten (F : List Bytes) (b : Batch) (i : Nat) :
    freqSum F b.flatten i = (b.map (fun d => freqSum F d i)).sum := by
  induction b with
  | nil => simp [freqSum]
  | cons d r ih =>
    simp only [List.flatten_cons, List.map_cons, List.sum_cons, ← ih]
    simp [freqSum, List.sum_append]

theorem isSome_field? (nc : Bytes → Nat → Nat) (g : Bytes → Bool) {b : Batch} {d : Doc} (hd : d ∈ b)
    {i : Nat} (hi : i < (FL b).length) :
    ((rollDoc nc g d).field? (fname (FL b) i)).isSome = d.any (fun f => (FL b).idxOf f.name == i) := by
  have h2 := any_idx_eq hd hi (fun _ => true)
  simp only [Bool.and_true] at h2
  rw [h2, field?_rollDoc, Bool.eq_iff_iff, List.any_eq_true]
  simp only [List.mem_map, beq_iff_eq]
  split <;> simp_all

theorem fieldDocs_builtOf (nc : Bytes → Nat → Nat) (mode : Nat) (b : Batch) :
    (builtOf nc b).fieldDocs = (build nc mode b).fieldDocs := by
  show (List.range (FL b).length).map (docCnt (FL b) b) =
    (FL b).map (fun f => (b.map (rollDoc nc (dvFlagOf b))).countP (fun d => (d.field? f).isSome))
  conv => rhs; rw [← range_map_fname (FL b)]
  rw [List.map_map]
  apply List.map_congr_left
  intro i hi
  have hi' := List.mem_range.1 hi
  simp only [Function.comp, docCnt, List.countP_map]
  apply List.countP_congr
  intro d hd
  simp only [Function.comp]
  rw [isSome_field? nc _ hd hi']

theorem fieldFreqs_builtOf (nc : Bytes → Nat → Nat) (mode : Nat) (b : Batch) :
    (builtOf nc b).fieldFreqs = (build nc mode b).fieldFreqs := by
  show (List.range (FL b).length).map (freqSum (FL b) b.flatten) =
    (FL b).map (fun f => ((b.map (rollDoc nc (dvFlagOf b))).map (fun d => match d.field? f with
                                                         | some af => af.length | none => 0)).sum)
  conv => rhs; rw [← range_map_fname (FL b)]
  rw [List.map_map]
  apply List.map_congr_left
  intro i hi
  have hi' := List.mem_range.1 hi
  simp only [Function.comp, freqSum_flatten, List.map_map]
  congr 1
  apply List.map_congr_left
  intro d hd
  simp only [Function.comp]
  rw [freqSum_eq hd hi', field?_rollDoc]
  by_cases hf : fname (FL b) i ∈ d.map (·.name)
  · rw [if_pos hf]; rfl
  · rw [if_neg hf, filter_name_nil hf]; rfl

theorem stored_doc (nc : Bytes → Nat → Nat) (g : Bytes → Bool) {b : Batch} (hlen : (FL b).length ≤ 65535)
    {d : Doc} (hd : d ∈ b) :
    (storedOut (FL b).length (dsfOf (FL b) d)).map (fun p => ((FL b).getD p.1 [], p.2)) =
      (FL b).flatMap (fun f => match (rollDoc nc g d).field? f with
                               | some af => af.stored.map (fun v => (f, v))
                               | none => []) := by
  conv => rhs; rw [← range_map_fname (FL b)]
  rw [List.flatMap_map]
  unfold storedOut
  rw [List.map_flatMap]
  apply flatMap_congr'
  intro i hi
  have hi' := List.mem_range.1 hi
  have hget := dsfOf_get (FL b) d i
  rw [List.filter_congr (fun f hf => idx_beq hd hi' hf)] at hget
  have hst : (rollField nc g d (fname (FL b) i)).stored = (aget (dsfOf (FL b) d) i).getD [] :=
    hget.symm
  rw [u16_lt i (by omega), field?_rollDoc]
  by_cases hf : fname (FL b) i ∈ d.map (·.name)
  · simp only [if_pos hf, hst]
    cases aget (dsfOf (FL b) d) i <;> simp [fname, Function.comp_def]
  · rw [filter_name_nil hf] at hget
    rw [if_neg hf]
    cases hg : aget (dsfOf (FL b) d) i with
    | none => rfl
    | some vals => simp_all

theorem stored_builtOf (nc : Bytes → Nat → Nat) (mode : Nat) (b : Batch) (hlen : (FL b).length ≤ 65535) :
    (builtOf nc b).stored = (List.range b.length).map (stored (build nc mode b)) := by
  apply List.ext_getElem?
  intro n
  simp only [builtOf, List.getElem?_map]
  by_cases hn : n < b.length
  · simp only [List.getElem?_range hn, List.getElem?_eq_getElem hn, Option.map_some, stored, build_docs,
      build_fields_eq, List.getElem?_map]
    exact congrArg some (stored_doc nc (dvFlagOf b) hlen (List.getElem_mem hn))
  · simp [hn]

/-! ### the doc-value column, and the whole

For a field with the flag set both sides deliver `docTerms`, the ascending terms of the field in the
document (`dtm_row`, `spec_dvOf`). -/

theorem dvFlag_eq {b : Batch} {i : Nat} (hi : i < (FL b).length) :
    dvFlag (FL b) b i = dvFlagOf b (fname (FL b) i) := by
  unfold dvFlag dvFlagOf
  rw [List.any_flatten, Bool.eq_iff_iff, List.any_eq_true, List.any_eq_true]
  exact exists_congr fun d => and_congr_right fun hd => by rw [any_idx_eq hd hi]

theorem mem_docs_entriesOf (nc : Bytes → Nat → Nat) (F : List Bytes) (b : Batch) (i : Nat) (t : Bytes)
    (n : Nat) : n ∈ (entriesOf nc F b i t).map (·.doc) ↔
      ∃ d, b[n]? = some d ∧ (aget (lget (rollTFs false F d) i) t).isSome := by
  unfold entriesOf
  simp only [List.mem_map, List.mem_flatMap, Option.mem_toList, postingIn, Option.map_eq_some_iff]
  constructor
  · rintro ⟨p, ⟨x, hx, tf, htf, rfl⟩, rfl⟩
    exact ⟨x.1, List.mem_zipIdx_iff_getElem?.1 hx, by rw [htf]; rfl⟩
  · rintro ⟨d, hd, hs⟩
    obtain ⟨tf, htf⟩ := Option.isSome_iff_exists.1 hs
    exact ⟨_, ⟨(d, n), List.mem_zipIdx_iff_getElem?.2 hd, tf, htf, rfl⟩, rfl⟩

theorem docs_entriesOf_asc (nc : Bytes → Nat → Nat) (F : List Bytes) (b : Batch) (i : Nat) (t : Bytes) :
    ((entriesOf nc F b i t).map (·.doc)).Pairwise (· < ·) ∧
    ∀ d ∈ (entriesOf nc F b i t).map (·.doc), d < b.length := by
  unfold entriesOf
  rw [map_flatMap_toList]
  have := docs_nat_asc (fun x : Doc × Nat => (postingIn nc F i t x).map (·.doc))
    (by
      intro x d hd
      simp only [postingIn, Option.map_map, Option.map_eq_some_iff] at hd
      obtain ⟨tf, _, rfl⟩ := hd
      rfl) b 0
  exact ⟨this.1, fun d hd => by have := this.2 d hd; omega⟩

/-- the terms of field number `i` in document `d`, ascending -/
def docTerms (F : List Bytes) (d : Doc) (i : Nat) : List Bytes :=
  sortDedup (((d.filter (fun f => f.name == fname F i)).flatMap (·.terms)).map (·.term))

theorem dtm_row (nc : Bytes → Nat → Nat) (b : Batch) {i : Nat} (hi : i < (FL b).length) (n : Nat) :
    lget (dtmOf b.length (keysOf (FL b) b i) (fun t => (entriesOf nc (FL b) b i t).map (·.doc))) n =
      match b[n]? with
      | some d => docTerms (FL b) d i
      | none => [] := by
  rw [dtmOf_get _ _ _ (fun t _ => pairwise_lt_nodup (docs_entriesOf_asc nc (FL b) b i t).1)
    (fun t _ => (docs_entriesOf_asc nc (FL b) b i t).2)]
  cases hn : b[n]? with
  | none =>
    rw [List.filter_eq_nil_iff]
    intro t _
    simp only [decide_eq_true_eq, mem_docs_entriesOf, hn]
    simp
  | some d =>
    have hd : d ∈ b := List.mem_of_getElem? hn
    refine asc_ext (List.Pairwise.filter _ (asc_sortDedup _)) (asc_sortDedup _) fun t => ?_
    simp only [List.mem_filter, decide_eq_true_eq, mem_docs_entriesOf, hn, Option.some.injEq,
      exists_eq_left', docTerms, mem_sortDedup]
    rw [(rollTFs_ok (FL b) d i hi).isSome_iff t, ← cnt_pos_iff_mem hd hi, mem_keysOf_iff]
    exact ⟨fun h => h.2, fun h => ⟨⟨d, hd, h⟩, h⟩⟩

theorem spec_dvOf (nc : Bytes → Nat → Nat) (mode : Nat) (b : Batch) (i n : Nat) :
    dvOf (build nc mode b) n (fname (FL b) i) =
      if dvFlagOf b (fname (FL b) i) then
        (match b[n]? with
         | some d => docTerms (FL b) d i
         | none => [])
      else [] := by
  unfold dvOf
  rw [build_docs, List.getElem?_map]
  cases hn : b[n]? with
  | none => simp
  | some d =>
    simp only [Option.map_some]
    rw [field?_rollDoc]
    by_cases hf : fname (FL b) i ∈ d.map (·.name)
    · rw [if_pos hf]
      -- an empty term list has no terms to deliver either way
      have hne : ∀ l : List ATerm, (if (!l.isEmpty) = true then l.map (·.term) else []) = l.map (·.term) :=
        fun l => by cases l <;> rfl
      by_cases hflag : dvFlagOf b (fname (FL b) i) = true
      · simp only [rollField, hflag, Bool.true_and, hne, if_true, docTerms]
        exact map_term_rollTerms _ _
      · simp [rollField, hflag]
    · rw [if_neg hf]
      simp [docTerms, filter_name_nil hf, sortDedup]

theorem build_closed (nc : Bytes → Nat → Nat) (mode : Nat) (b : Batch) :
    Closed (dvFlagOf b) (build nc mode b) where
  names := fun d' hd' af haf => by
    obtain ⟨d, hd, rfl⟩ := List.mem_map.1 hd'
    obtain ⟨n, hn, rfl⟩ := List.mem_map.1 haf
    obtain ⟨f, hf, rfl⟩ := List.mem_map.1 (List.mem_eraseDups.1 hn)
    exact name_mem_FL hd hf
  dv := fun n f hf => by
    unfold dvOf
    rw [build_docs, List.getElem?_map]
    cases b[n]? with
    | none => rfl
    | some d =>
      simp only [Option.map_some, field?_rollDoc]
      by_cases hm : f ∈ d.map (·.name)
      · rw [if_pos hm]; simp [rollField, hf]
      · rw [if_neg hm]

theorem viewOf_eq (nc : Bytes → Nat → Nat) (mode : Nat) (b : Batch) {i : Nat} (hi : i < (FL b).length) :
    viewOf nc (FL b) b i = FieldView.ofSpec (dvFlagOf b) (build nc mode b) (fname (FL b) i) := by
  simp only [viewOf, FieldView.ofSpec, FieldView.mk.injEq]
  refine ⟨?_, ?_⟩
  · rw [keysOf_eq_terms nc mode b hi]
    exact List.map_congr_left fun t _ => by rw [entriesOf_eq nc mode b hi t]
  · rw [dvFlag_eq hi]
    cases hflag : dvFlagOf b (fname (FL b) i) with
    | false => rfl
    | true =>
      rw [dvOut_rows, length_dtmOf, build_docs, List.length_map]
      exact congrArg some (colOf_congr fun n _ => by rw [dtm_row nc b hi n, spec_dvOf, if_pos hflag])

/-- what `New` builds is the specification's segment, laid out by field number -/
theorem builtOf_eq (nc : Bytes → Nat → Nat) (mode : Nat) (b : Batch) (hlen : (FL b).length ≤ 65535) :
    builtOf nc b = Built.ofSpec (dvFlagOf b) (build nc mode b) := by
  simp only [builtOf, Built.ofSpec, Built.mk.injEq]
  refine ⟨rfl, fieldDocs_builtOf nc mode b, fieldFreqs_builtOf nc mode b, ?_, ?_⟩
  · rw [build_docs, List.length_map]; exact stored_builtOf nc mode b hlen
  · rw [List.map_congr_left fun i hi => viewOf_eq nc mode b (List.mem_range.1 hi)]
    conv => rhs; rw [build_fields_eq, ← range_map_fname (FL b), List.map_map]
    rfl

end Ice.Model.Builder
