import IceModel.Model.Builder
import IceModel.Lemmas.Sort
/-
  Generic facts used by the builder refinement: the Hoare rule for `foldlE`, induction from the right
  for `foldl`, association lists, `sort.Strings`, bitmap insertion, index lookups.
-/
namespace Ice.Model.Builder
open Ice Ice.Spec

/-- total-correctness rule for a fold whose body may fail: an invariant indexed by the processed
    prefix -/
theorem foldlE_inv {σ α : Type} (f : σ → α → M σ) (P : List α → σ → Prop) (l : List α) (s0 : σ)
    (h0 : P [] s0)
    (hstep : ∀ pre x post s, l = pre ++ x :: post → P pre s → ∃ s', f s x = .ok s' ∧ P (pre ++ [x]) s') :
    ∃ s', foldlE f s0 l = .ok s' ∧ P l s' := by
  suffices h : ∀ rest pre s, l = pre ++ rest → P pre s → ∃ s', foldlE f s rest = .ok s' ∧ P l s' from
    h l [] s0 rfl h0
  intro rest
  induction rest with
  | nil =>
    intro pre s hl hp
    refine ⟨s, rfl, ?_⟩
    simpa [hl] using hp
  | cons x r ih =>
    intro pre s hl hp
    obtain ⟨s', hf, hp'⟩ := hstep pre x r s hl hp
    obtain ⟨s'', hr, hp''⟩ := ih (pre ++ [x]) s' (by simp [hl]) hp'
    exact ⟨s'', by simp [foldlE, hf, hr], hp''⟩

theorem foldlE_eq {σ α : Type} (f : σ → α → M σ) (G : List α → σ) (l : List α)
    (hstep : ∀ pre x post, l = pre ++ x :: post → f (G pre) x = .ok (G (pre ++ [x]))) :
    foldlE f (G []) l = .ok (G l) := by
  obtain ⟨s, e, hs⟩ := foldlE_inv f (fun pre s => s = G pre) l (G []) rfl
    (fun pre x post s hl hs => ⟨_, hs ▸ hstep pre x post hl, rfl⟩)
  rw [e, hs]

theorem foldlE_ok_eq {σ α : Type} (f : σ → α → M σ) (g : σ → α → σ) (l : List α) (s0 : σ)
    (h : ∀ s x, x ∈ l → f s x = .ok (g s x)) : foldlE f s0 l = .ok (l.foldl g s0) :=
  foldlE_eq f (fun pre => pre.foldl g s0) l fun pre x post hl => by
    rw [List.foldl_append]; exact h _ x (hl ▸ by simp)

theorem foldl_snoc {σ α : Type} (f : σ → α → σ) (s : σ) (l : List α) (x : α) :
    (l ++ [x]).foldl f s = f (l.foldl f s) x := by rw [List.foldl_append]; rfl

theorem getE_ok_iff {α : Type} {l : List α} {i site : Nat} {a : α} :
    getE l i site = .ok a ↔ l[i]? = some a := by
  unfold getE; split <;> simp_all

theorem getE_eq_ok {α : Type} {l : List α} {i site : Nat} {a : α} (h : l[i]? = some a) :
    getE l i site = .ok a := getE_ok_iff.2 h

theorem getElem?_eq_some_getD {α : Type} {l : List α} {i : Nat} (h : i < l.length) (d : α) :
    l[i]? = some (l.getD i d) := by
  rw [List.getD_eq_getElem?_getD, List.getElem?_eq_getElem h]; rfl

theorem getE_getD {α : Type} {l : List α} {i : Nat} (h : i < l.length) (site : Nat) (d : α) :
    getE l i site = .ok (l.getD i d) := getE_eq_ok (getElem?_eq_some_getD h d)

theorem setE_eq_ok {α : Type} {l : List α} {i site : Nat} (a : α) (h : i < l.length) :
    setE l i a site = .ok (l.set i a) := by simp [setE, h]

theorem getD_of_mem_zipIdx {α : Type} {l : List α} {x : α × Nat} (h : x ∈ l.zipIdx) (d : α) :
    x.2 < l.length ∧ l.getD x.2 d = x.1 := by
  have h2 := List.mem_zipIdx_iff_getElem?.1 h
  obtain ⟨hl, _⟩ := List.getElem?_eq_some_iff.1 h2
  exact ⟨hl, by rw [List.getD_eq_getElem?_getD, h2]; rfl⟩

theorem zipIdx_map_range {α β : Type} (K : List α) (g : Nat → β) :
    K.zipIdx.map (fun x => g x.2) = (List.range K.length).map g := by
  have : K.zipIdx.map (fun x => g x.2) = (K.zipIdx.map Prod.snd).map g := by
    rw [List.map_map]; rfl
  rw [this, List.zipIdx_map_snd, List.range_eq_range']

theorem getD_set {α : Type} (l : List α) (i j : Nat) (a d : α) :
    (l.set i a).getD j d = if i = j ∧ i < l.length then a else l.getD j d := by
  simp only [List.getD_eq_getElem?_getD, List.getElem?_set]
  by_cases h : i = j
  · subst h
    by_cases h2 : i < l.length
    · simp [h2]
    · simp [h2]
  · simp [h]

theorem getD_set_self {α : Type} (l : List α) (i : Nat) (a d : α) (h : i < l.length) :
    (l.set i a).getD i d = a := by rw [getD_set, if_pos ⟨rfl, h⟩]

theorem set_getD_self {α : Type} (l : List α) (i : Nat) (d : α) : l.set i (l.getD i d) = l := by
  apply List.ext_getElem?; intro j
  rw [List.getElem?_set, List.getD_eq_getElem?_getD]
  split
  · next e => subst e; split <;> simp_all
  · rfl

theorem getD_replicate {α : Type} (n i : Nat) (a : α) : (List.replicate n a).getD i a = a := by
  rw [List.getD_eq_getElem?_getD, List.getElem?_replicate]
  split <;> rfl

theorem set_of_getElem? {α : Type} {l : List α} {i : Nat} {a : α} (h : l[i]? = some a) :
    l.set i a = l := by
  have e : l.getD i a = a := by rw [List.getD_eq_getElem?_getD, h]; rfl
  exact (congrArg (l.set i) e).symm.trans (set_getD_self l i a)

theorem foldl_length_inv {α β : Type} (g : List α → β → List α) (hg : ∀ l x, (g l x).length = l.length)
    (I : List β) (init : List α) : (I.foldl g init).length = init.length := by
  induction I generalizing init with
  | nil => rfl
  | cons x r ih => rw [List.foldl_cons, ih, hg]

theorem flatMap_zipIdx_single {α β : Type} (g : α → List β) (l : List α) :
    ∀ k j, (l.zipIdx k).flatMap (fun y => if y.2 = k + j then g y.1 else []) = ((l[j]?).map g).getD [] := by
  induction l with
  | nil => intro k j; rfl
  | cons a r ih =>
    intro k j
    rw [List.zipIdx_cons, List.flatMap_cons]
    cases j with
    | zero =>
      have : (r.zipIdx (k + 1)).flatMap (fun y => if y.2 = k + 0 then g y.1 else []) = [] :=
        List.flatMap_eq_nil_iff.2 fun y hy => if_neg (Nat.ne_of_gt (List.le_snd_of_mem_zipIdx hy))
      rw [this, List.append_nil]; exact if_pos rfl
    | succ j =>
      rw [if_neg (Nat.ne_of_lt (Nat.lt_add_of_pos_right (Nat.succ_pos j))), List.nil_append,
        show k + (j + 1) = k + 1 + j from (Nat.add_right_comm k 1 j).symm, ih]
      rfl

theorem length_flatMap_eq_sum {α β : Type} (L : List α) (g : α → List β) (c : α → Nat)
    (h : ∀ x ∈ L, (g x).length = c x) : (L.flatMap g).length = (L.map c).sum := by
  rw [List.length_flatMap]
  exact congrArg List.sum (List.map_congr_left h)

theorem sum_map_zipIdx_fst {α : Type} (l : List α) (c : α → Nat) (k : Nat) :
    ((l.zipIdx k).map (fun x => c x.1)).sum = (l.map c).sum := by
  induction l generalizing k with
  | nil => rfl
  | cons a r ih => simp [ih]

theorem map_flatMap_toList {α β γ : Type} (l : List α) (o : α → Option β) (g : β → γ) :
    (l.flatMap (fun x => (o x).toList)).map g = l.flatMap (fun x => ((o x).map g).toList) := by
  induction l with
  | nil => rfl
  | cons a r ih => cases h : o a <;> simp [h, ih]

theorem filterMap_eq_flatMap_toList {α β : Type} (h : α → Option β) (l : List α) :
    l.filterMap h = l.flatMap (fun x => (h x).toList) := by
  induction l with
  | nil => rfl
  | cons a r ih => cases e : h a <;> simp [e, ih]

theorem nodup_snoc {α : Type} {l : List α} {x : α} (h : l.Nodup) (hx : x ∉ l) : (l ++ [x]).Nodup := by
  refine List.nodup_append.2 ⟨h, List.pairwise_singleton _ _, ?_⟩
  intro a ha b hb
  rw [List.mem_singleton.1 hb]
  rintro rfl
  exact hx ha

section amap
variable {κ ν : Type} [DecidableEq κ]

theorem aget_aset (m : AMap κ ν) (k k' : κ) (v : ν) :
    aget (aset m k v) k' = if k' = k then some v else aget m k' := by
  induction m with
  | nil => simp [aset, aget]
  | cons p r ih =>
    obtain ⟨a, b⟩ := p
    simp only [aset]
    split
    · next h => subst h; simp only [aget]; split <;> simp_all
    · next h =>
      simp only [aget, ih]
      by_cases h1 : k' = a
      · have : ¬ a = k := by intro e; exact h e.symm
        simp [h1, this]
      · simp [h1]

theorem aget_aset_self (m : AMap κ ν) (k : κ) (v : ν) : aget (aset m k v) k = some v := by
  simp [aget_aset]

theorem aget_aset_ne (m : AMap κ ν) {k k' : κ} (v : ν) (h : k' ≠ k) :
    aget (aset m k v) k' = aget m k' := by simp [aget_aset, h]

theorem aget_isSome_iff (m : AMap κ ν) (k : κ) : (aget m k).isSome ↔ k ∈ m.map (·.1) := by
  induction m with
  | nil => exact ⟨fun h => (nomatch h), fun h => (nomatch h)⟩
  | cons p r ih =>
    rw [aget, List.map_cons, List.mem_cons]
    split
    · next h => exact ⟨fun _ => Or.inl h, fun _ => rfl⟩
    · next h => rw [ih]; exact ⟨Or.inr, fun h' => h'.resolve_left h⟩

theorem map_fst_aset (m : AMap κ ν) (k : κ) (v : ν) :
    (aset m k v).map (·.1) = if k ∈ m.map (·.1) then m.map (·.1) else m.map (·.1) ++ [k] := by
  induction m with
  | nil => simp [aset]
  | cons p r ih =>
    obtain ⟨a, b⟩ := p
    simp only [aset]
    split
    · next h => subst h; simp
    · next h =>
      simp only [List.map_cons, ih, List.mem_cons, h, false_or]
      split <;> simp

theorem mem_iff_aget {m : AMap κ ν} (hn : (m.map (·.1)).Nodup) (k : κ) (v : ν) :
    (k, v) ∈ m ↔ aget m k = some v := by
  induction m with
  | nil => simp [aget]
  | cons p r ih =>
    obtain ⟨a, b⟩ := p
    simp only [List.map_cons, List.nodup_cons] at hn
    simp only [aget, List.mem_cons, Prod.mk.injEq]
    split
    · next h =>
      subst h
      constructor
      · rintro (⟨-, rfl⟩ | h)
        · rfl
        · exact absurd (List.mem_map_of_mem (f := (·.1)) h) hn.1
      · intro h; left; simp_all
    · next h => simp [h, ih hn.2]

theorem filter_key {ν : Type} (m : AMap Bytes ν) (hn : (m.map (·.1)).Nodup) (t : Bytes) :
    m.filter (fun e => e.1 == t) = ((aget m t).map (fun v => (t, v))).toList := by
  induction m with
  | nil => simp [aget]
  | cons p r ih =>
    obtain ⟨a, b⟩ := p
    simp only [List.map_cons, List.nodup_cons] at hn
    simp only [List.filter_cons, aget]
    by_cases e : t = a
    · subst e
      have : r.filter (fun e => e.1 == t) = [] := by
        rw [List.filter_eq_nil_iff]
        intro x hx
        simp only [beq_iff_eq]
        intro e; exact hn.1 (e ▸ List.mem_map_of_mem (f := (·.1)) hx)
      simp [this]
    · have e' : ¬ a = t := fun e' => e e'.symm
      simp [e, e', ih hn.2]

theorem aget_map_self {ν : Type} (l : List Bytes) (g : Bytes → ν) (t : Bytes) :
    aget (l.map (fun t => (t, g t))) t = if t ∈ l then some (g t) else none := by
  induction l with
  | nil => simp [aget]
  | cons a r ih =>
    simp only [List.map_cons, aget, List.mem_cons, ih]
    by_cases e : t = a
    · subst e; simp
    · simp [e]

end amap

theorem mem_insertS (x y : Bytes) (l : List Bytes) : y ∈ insertS x l ↔ y = x ∨ y ∈ l := by
  induction l with
  | nil => simp [insertS]
  | cons z r ih =>
    simp only [insertS]
    split
    · simp [ih]; grind
    · simp

theorem mem_sortS (x : Bytes) (l : List Bytes) : x ∈ sortS l ↔ x ∈ l := by
  induction l with
  | nil => simp [sortS]
  | cons a r ih =>
    have : sortS (a :: r) = insertS a (sortS r) := rfl
    rw [this, mem_insertS, ih]; simp

theorem length_insertS (x : Bytes) (l : List Bytes) : (insertS x l).length = l.length + 1 := by
  induction l with
  | nil => simp [insertS]
  | cons z r ih => simp only [insertS]; split <;> simp [ih]

theorem length_sortS (l : List Bytes) : (sortS l).length = l.length := by
  induction l with
  | nil => simp [sortS]
  | cons a r ih =>
    have : sortS (a :: r) = insertS a (sortS r) := rfl
    rw [this, length_insertS, ih]; simp

theorem insertS_eq_insertU (x : Bytes) (l : List Bytes) (hx : x ∉ l) : insertS x l = insertU x l := by
  induction l with
  | nil => rfl
  | cons y r ih =>
    have hy : x ≠ y := fun e => hx (e ▸ List.mem_cons_self)
    rw [insertS, insertU]
    cases hc : Bytes.cmp x y with
    | lt => rfl
    | eq => exact absurd ((Bytes.cmp_eq_iff x y).1 hc) hy
    | gt => simp only [ih (fun h => hx (List.mem_cons_of_mem _ h))]

theorem sortS_eq_sortDedup (l : List Bytes) (h : l.Nodup) : sortS l = sortDedup l := by
  induction l with
  | nil => rfl
  | cons a r ih =>
    have hn := List.nodup_cons.1 h
    show insertS a (sortS r) = insertU a (sortDedup r)
    rw [ih hn.2, insertS_eq_insertU _ _ (mt (mem_sortDedup a r).1 hn.1)]

theorem asc_sortS (l : List Bytes) (h : l.Nodup) : Asc (sortS l) :=
  sortS_eq_sortDedup l h ▸ asc_sortDedup l

theorem find?_beq (l : List Bytes) (f : Bytes) :
    l.find? (fun n => n == f) = if f ∈ l then some f else none := by
  induction l with
  | nil => simp
  | cons a r ih =>
    simp only [List.find?_cons, List.mem_cons]
    by_cases h : a = f
    · subst h; simp
    · have h' : ¬ f = a := fun e => h e.symm
      have : (a == f) = false := by simp [h]
      simp [this, ih, h']

theorem idxOf?_eq_ite (l : List Bytes) (a : Bytes) :
    l.idxOf? a = if a ∈ l then some (l.idxOf a) else none := by
  induction l with
  | nil => simp
  | cons x r ih =>
    simp only [List.idxOf?_cons, List.idxOf_cons, ih, List.mem_cons]
    by_cases h : x = a
    · simp [h]
    · have h' : ¬ a = x := fun e => h e.symm
      have hb : (x == a) = false := by simp [h]
      simp only [hb, h', false_or, cond_false]
      split <;> simp_all

theorem idxOf_getElem_nodup {l : List Bytes} (hn : l.Nodup) (i : Nat) (h : i < l.length) :
    l.idxOf l[i] = i := hn.idxOf_getElem i h

theorem addDoc_append (l : List Nat) (d : Nat) (h : ∀ x ∈ l, x < d) : addDoc d l = l ++ [d] := by
  induction l with
  | nil => rfl
  | cons x r ih =>
    have hx : x < d := h x (by simp)
    have h1 : ¬ d < x := by omega
    have h2 : ¬ d = x := by omega
    simp [addDoc, h1, h2, ih (fun y hy => h y (by simp [hy]))]

end Ice.Model.Builder
