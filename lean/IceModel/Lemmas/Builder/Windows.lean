import IceModel.Lemmas.Builder.Pass1
/-
  The window lemma in refinement form.  `Refines res W B A`: the windows `W` carved into the backing
  array `B` with reservations `res` represent the lists `A`, each inside its reservation.  An append
  to a window that is still *strictly* inside its reservation is an append to the represented list
  and leaves every other list alone (`Refines.append`).  The carving loops of prepareDicts establish it
  (`carve_refinesC`); with them pass 1 is complete, and the file ends with the state it leaves (`S1`).
-/
namespace Ice.Model.Builder
open Ice Ice.Spec

/-- where the window of postings list `p` starts -/
def offs (res : List Nat) (p : Nat) : Nat := (res.take p).sum

/-- the list represented by window `p` -/
def lget {α : Type} (A : List (List α)) (p : Nat) : List α := A.getD p []

theorem lget_set {α : Type} (A : List (List α)) (i j : Nat) (a : List α) :
    lget (A.set i a) j = if i = j ∧ i < A.length then a else lget A j := getD_set A i j a []

theorem lget_replicate_nil {α : Type} (n p : Nat) : lget (List.replicate n ([] : List α)) p = [] :=
  getD_replicate n p []

theorem offs_succ (res : List Nat) (p : Nat) : offs res (p + 1) = offs res p + nget res p := by
  induction res generalizing p with
  | nil => simp [offs, nget]
  | cons x r ih =>
    cases p with
    | zero => simp [offs, nget]
    | succ q =>
      have := ih q
      simp only [offs, nget, List.take_succ_cons, List.sum_cons, List.getD_cons_succ] at this ⊢
      omega

theorem offs_mono (res : List Nat) {p q : Nat} (h : p ≤ q) : offs res p ≤ offs res q := by
  induction h with
  | refl => exact Nat.le_refl _
  | step _ ih => rw [offs_succ]; exact Nat.le_trans ih (Nat.le_add_right _ _)

theorem offs_le_sum (res : List Nat) (p : Nat) : offs res p ≤ res.sum := by
  have h1 : offs res (max p res.length) = res.sum := by
    simp [offs, List.take_of_length_le (Nat.le_max_right p res.length)]
  rw [← h1]; exact offs_mono res (Nat.le_max_left _ _)

theorem offs_end (res : List Nat) (p : Nat) : offs res p + nget res p ≤ res.sum := by
  rw [← offs_succ]; exact offs_le_sum res _

theorem offs_lt (res : List Nat) {p q k : Nat} (h : p < q) (hk : k < nget res p) :
    offs res p + k < offs res q :=
  Nat.lt_of_lt_of_le (Nat.add_lt_add_left hk _) (offs_succ res p ▸ offs_mono res h)

theorem offs_disjoint (res : List Nat) {p q k k' : Nat} (hne : p ≠ q) (hk : k < nget res p)
    (hk' : k' < nget res q) : offs res p + k ≠ offs res q + k' := by
  rcases Nat.lt_or_gt_of_ne hne with h | h
  · exact Nat.ne_of_lt (Nat.lt_of_lt_of_le (offs_lt res h hk) (Nat.le_add_right _ _))
  · exact Nat.ne_of_gt (Nat.lt_of_lt_of_le (offs_lt res h hk') (Nat.le_add_right _ _))

structure Refines {α : Type} (res : List Nat) (W : List (Slice α)) (B : List α)
    (A : List (List α)) : Prop where
  lenW : W.length = res.length
  lenA : A.length = res.length
  lenB : B.length = res.sum
  win : ∀ p, p < res.length →
    W[p]? = some (.shared (offs res p) (lget A p).length (res.sum - offs res p))
  bound : ∀ p, p < res.length → (lget A p).length ≤ nget res p
  cell : ∀ p k, p < res.length → k < (lget A p).length → B[offs res p + k]? = (lget A p)[k]?

end Ice.Model.Builder

/-
  A pooled builder (Model/Pool.lean) carves its windows into an array of capacity `C ≥ res.sum` that it
  re-sliced to length `res.sum` (new.go:370-380): the windows have capacity `C - offs res p` and the cells
  nobody wrote yet are STALE.  `RefinesC C` is `Refines` for such an array; nothing is said about unwritten
  cells.  The lemmas are proved for `RefinesC`; the fresh array is `C = res.sum`.
-/
namespace Ice.Model.Pool
open Ice Ice.Spec Ice.Model.Builder

structure RefinesC {α : Type} (C : Nat) (res : List Nat) (W : List (Slice α)) (B : List α)
    (A : List (List α)) : Prop where
  lenW : W.length = res.length
  lenA : A.length = res.length
  lenB : B.length = C
  room : res.sum ≤ C
  win : ∀ p, p < res.length →
    W[p]? = some (.shared (offs res p) (lget A p).length (C - offs res p))
  bound : ∀ p, p < res.length → (lget A p).length ≤ nget res p
  cell : ∀ p k, p < res.length → k < (lget A p).length → B[offs res p + k]? = (lget A p)[k]?

theorem RefinesC.of_refines {α : Type} {res : List Nat} {W : List (Slice α)} {B : List α}
    {A : List (List α)} (h : Refines res W B A) : RefinesC res.sum res W B A :=
  ⟨h.lenW, h.lenA, h.lenB, Nat.le_refl _, h.win, h.bound, h.cell⟩

theorem refines_iff {α : Type} {res : List Nat} {W : List (Slice α)} {B : List α} {A : List (List α)} :
    Refines res W B A ↔ RefinesC res.sum res W B A :=
  ⟨RefinesC.of_refines, fun h => ⟨h.lenW, h.lenA, h.lenB, h.win, h.bound, h.cell⟩⟩

/-- THE WINDOW LEMMA: an append that stays strictly inside the reservation touches nothing else -
    whatever the capacity of the array and its stale cells -/
theorem RefinesC.append {α : Type} {C : Nat} {res : List Nat} {W : List (Slice α)} {B : List α}
    {A : List (List α)} (h : RefinesC C res W B A) {p : Nat} (hp : p < res.length)
    (hlt : (lget A p).length < nget res p) (x : α) :
    ∃ w, W[p]? = some w ∧
      RefinesC C res (W.set p (w.append B x).1) (w.append B x).2 (A.set p (lget A p ++ [x])) := by
  refine ⟨_, h.win p hp, ?_⟩
  have hcell : offs res p + (lget A p).length < C :=
    Nat.lt_of_lt_of_le (Nat.add_lt_add_left hlt _) (Nat.le_trans (offs_end res p) h.room)
  have hcap : (lget A p).length < C - offs res p :=
    Nat.lt_sub_of_add_lt (Nat.add_comm _ _ ▸ hcell)
  simp only [Slice.append, hcap, if_true]
  have hpA : p < A.length := by rw [h.lenA]; exact hp
  have hA' : ∀ q, lget (A.set p (lget A p ++ [x])) q = if p = q then lget A p ++ [x] else lget A q := by
    intro q; rw [lget_set]; simp only [hpA, and_true]
  refine ⟨by rw [List.length_set, h.lenW], by rw [List.length_set, h.lenA],
    by rw [List.length_set, h.lenB], h.room, ?_, ?_, ?_⟩
  · intro q hq
    rw [hA', List.getElem?_set]
    by_cases e : p = q
    · subst e; simp [h.lenW, hp]
    · simp only [e, if_false]; exact h.win q hq
  · intro q hq
    rw [hA']
    split
    · next e => subst e; rw [List.length_append, List.length_singleton]; exact hlt
    · exact h.bound q hq
  · intro q k hq hk
    rw [hA'] at hk ⊢
    rw [List.getElem?_set]
    by_cases e : p = q
    · subst e
      rw [if_pos rfl] at hk ⊢
      rw [List.length_append, List.length_singleton] at hk
      by_cases e2 : k = (lget A p).length
      · subst e2
        rw [if_pos rfl, if_pos (h.lenB ▸ hcell), List.getElem?_concat_length]
      · have hk2 : k < (lget A p).length := Nat.lt_of_le_of_ne (Nat.le_of_lt_succ hk) e2
        rw [if_neg (fun e' => e2 (Nat.add_left_cancel e').symm), h.cell p k hp hk2,
          List.getElem?_append_left hk2]
    · rw [if_neg e] at hk ⊢
      rw [if_neg (offs_disjoint res e hlt (Nat.lt_of_lt_of_le hk (h.bound q hq)))]
      exact h.cell q k hq hk

namespace RefinesC

theorem get? {α : Type} {C : Nat} {res : List Nat} {W : List (Slice α)} {B : List α}
    {A : List (List α)} (h : RefinesC C res W B A) {p : Nat} (hp : p < res.length) {w : Slice α}
    (hw : W[p]? = some w) (k : Nat) : w.get? B k = (lget A p)[k]? := by
  rw [h.win p hp] at hw
  injection hw with hw
  subst hw
  simp only [Slice.get?]
  split
  · next hk => exact h.cell p k hp hk
  · next hk => simp at hk; simp [hk]

theorem sub? {α : Type} {C : Nat} {res : List Nat} {W : List (Slice α)} {B : List α}
    {A : List (List α)} (h : RefinesC C res W B A) {p : Nat} (hp : p < res.length) {w : Slice α}
    (hw : W[p]? = some w) (lo m : Nat) (hm : lo + m ≤ (lget A p).length) :
    w.sub? B lo (lo + m) = some (((lget A p).drop lo).take m) := by
  rw [h.win p hp] at hw
  injection hw with hw
  subst hw
  have hc : lo ≤ lo + m ∧ lo + m ≤ C - offs res p :=
    ⟨Nat.le_add_right _ _, Nat.le_trans hm (Nat.le_trans (h.bound p hp)
      (Nat.le_sub_of_add_le (Nat.add_comm _ _ ▸ Nat.le_trans (offs_end res p) h.room)))⟩
  simp only [Slice.sub?, hc, and_self, if_true, Nat.add_sub_cancel_left, Option.some.injEq]
  apply List.ext_getElem?
  intro j
  simp only [List.getElem?_take, List.getElem?_drop]
  split
  · next hj =>
    rw [← h.cell p (lo + j) hp (Nat.lt_of_lt_of_le (Nat.add_lt_add_left hj _) hm), Nat.add_assoc]
  · rfl

end RefinesC

end Ice.Model.Pool

namespace Ice.Model.Builder
open Ice.Model.Pool

/-- the window lemma on a freshly made array -/
theorem Refines.append {α : Type} {res : List Nat} {W : List (Slice α)} {B : List α}
    {A : List (List α)} (h : Refines res W B A) {p : Nat} (hp : p < res.length)
    (hlt : (lget A p).length < nget res p) (x : α) :
    ∃ w, W[p]? = some w ∧
      Refines res (W.set p (w.append B x).1) (w.append B x).2 (A.set p (lget A p ++ [x])) := by
  obtain ⟨w, hw, h'⟩ := (refines_iff.1 h).append hp hlt x
  exact ⟨w, hw, refines_iff.2 h'⟩

/-- the carving loops new.go:376-380 / 394-398 -/
theorem carve_spec {α : Type} (site : Nat) (r : List Nat) :
    ∀ (wins : List (Slice α)) (off len cap pid : Nat), len = r.sum → pid + r.length = wins.length →
    ∃ W, carve site wins off len cap pid r = .ok W ∧ W.length = wins.length ∧
      (∀ q, q < pid → W[q]? = wins[q]?) ∧
      (∀ j, j < r.length → W[pid + j]? = some (.shared (off + (r.take j).sum) 0 (cap - (r.take j).sum))) := by
  induction r with
  | nil => intro wins off len cap pid _ _; exact ⟨wins, rfl, rfl, fun _ _ => rfl, fun _ h => nomatch h⟩
  | cons n r ih =>
    intro wins off len cap pid hlen hpid
    rw [List.sum_cons] at hlen
    rw [List.length_cons, ← Nat.add_assoc, Nat.add_right_comm] at hpid
    have hp : pid < wins.length := hpid ▸ Nat.lt_of_lt_of_le (Nat.lt_succ_self pid) (Nat.le_add_right _ _)
    have hn : n ≤ len := hlen ▸ Nat.le_add_right _ _
    obtain ⟨W, hW, hl, hq, hj⟩ := ih (wins.set pid (.shared off 0 cap)) (off + n) (len - n) (cap - n)
      (pid + 1) (by rw [hlen, Nat.add_sub_cancel_left]) (by rw [List.length_set]; exact hpid)
    rw [List.length_set] at hl
    refine ⟨W, ?_, hl, ?_, ?_⟩
    · simp only [carve, setE_eq_ok _ hp, hn, if_true, hW]
    · intro q hqp
      rw [hq q (Nat.lt_succ_of_lt hqp), List.getElem?_set_ne (Nat.ne_of_gt hqp)]
    · intro j hjl
      cases j with
      | zero =>
        rw [Nat.add_zero, hq pid (Nat.lt_succ_self _), List.getElem?_set_self hp]; rfl
      | succ k =>
        rw [← Nat.add_assoc, Nat.add_right_comm, hj k (Nat.lt_of_succ_lt_succ hjl), List.take_succ_cons,
          List.sum_cons, Nat.add_assoc, Nat.sub_add_eq]

/-- the carving loops new.go:376-380 / 394-398 over a re-sliced array of capacity `C`: whatever
    slice headers (`wins`) and cells (`B`) earlier builds left behind -/
theorem carve_refinesC {α : Type} (site : Nat) (res : List Nat) (C : Nat) (hC : res.sum ≤ C)
    (wins : List (Slice α)) (hw : wins.length = res.length) (B : List α) (hB : B.length = C) :
    ∃ W, carve site wins 0 res.sum C 0 res = .ok W ∧
      RefinesC C res W B (List.replicate res.length []) := by
  obtain ⟨W, hW, hl, _, hj⟩ := carve_spec (α := α) site res wins 0 res.sum C 0 rfl (by simp [hw])
  refine ⟨W, hW, by rw [hl, hw], List.length_replicate, hB, hC, ?_, ?_, ?_⟩
  · intro p hp
    simpa only [lget_replicate_nil, List.length_nil, offs, Nat.zero_add, Nat.add_zero] using hj p hp
  · intro p _; rw [lget_replicate_nil]; exact Nat.zero_le _
  · intro p k _ hk; rw [lget_replicate_nil] at hk; exact absurd hk (Nat.not_lt_zero k)

end Ice.Model.Builder

namespace Ice.Model.Builder
open Ice Ice.Spec

/-! ### the state after pass 1

new.go:339-399 - prepareDicts succeeds and leaves the state `S1`: the dictionaries and counters of
`DictInv` for the whole batch, the statistics, and empty windows carved to the counted sizes.
Sorting the key lists (new.go:281-283) keeps `DictInv`. -/

/-- everything later phases need to know about the state after pass 1; the windows are carved into
    arrays of capacity `Cf`, `Cl` (a fresh builder: exactly the sums of the reservations) -/
structure S1 (Cf Cl : Nat) (F : List Bytes) (b : Batch) (s0 s : St) : Prop where
  fmap : s.fieldsMap = s0.fieldsMap
  finv : s.fieldsInv = s0.fieldsInv
  dv : s.includeDV = s0.includeDV
  dict : DictInv F.length (evsI F b.flatten) s.dicts s.dictKeys s.numTerms s.numLocs s.numTerms.length
  ff : ∀ i, (aget s.fieldFreqs i).getD 0 = freqSum F b.flatten i
  fd : ∀ i, (aget s.fieldDocs i).getD 0 = docCnt F b i
  post : s.postings = List.replicate s.numTerms.length []
  fn : Pool.RefinesC Cf s.numTerms s.fnWins s.fnBacking (List.replicate s.numTerms.length [])
  loc : Pool.RefinesC Cl s.numLocs s.locWins s.locBacking (List.replicate s.numTerms.length [])

/-- pass 1 (new.go:339-399) from the state `convert` set up: the loop over the documents succeeds, and
    then the two carving loops succeed over ANY slice of window headers of the right length and ANY
    backing arrays with room for the reservations - made or re-sliced from a pooled object -/
theorem pass1_ok {F : List Bytes} {b : Batch} {m : AMap Bytes Nat}
    (hF : FieldsOK F (st0 b m)) (hFL : F = FL b) :
    ∃ s t, foldlE prepDoc (st0 b m, {}) b = .ok (s, t) ∧
      ∀ (P : List (List Nat)) (wf : List (Slice FreqNorm)) (Bf : List FreqNorm)
        (wl : List (Slice ILoc)) (Bl : List ILoc),
        P = List.replicate t.pidNext [] → wf.length = t.pidNext → wl.length = t.pidNext →
        t.totTFs ≤ Bf.length → t.totLocs ≤ Bl.length →
        ∃ fw lw, carve 378 wf 0 t.totTFs Bf.length 0 s.numTerms = .ok fw ∧
          carve 396 wl 0 t.totLocs Bl.length 0 s.numLocs = .ok lw ∧
          S1 Bf.length Bl.length F b (st0 b m)
            { s with postings := P, fnWins := fw, fnBacking := Bf, locWins := lw, locBacking := Bl } := by
  have hb : ∀ d ∈ b, ∀ f ∈ d, f.name ∈ F := fun d hd f hf => hFL ▸ name_mem_FL hd hf
  have h0 : P1D F (st0 b m) [] (st0 b m) {} := by
    refine ⟨⟨rfl, rfl, rfl, ?_, rfl, rfl, ?_⟩, ?_⟩
    · have := DictInv.init F.length
      simpa [st0, hFL, evsI] using this
    · intro i; simp [st0, aget, freqSum]
    · intro i; simp [st0, aget, docCnt]
  obtain ⟨⟨s, t⟩, e, hp⟩ := foldlE_inv prepDoc (fun pre x => P1D F (st0 b m) pre x.1 x.2) b
    (st0 b m, {}) h0 fun pre d post x hdd hp => by
      obtain ⟨s', t', e, hp'⟩ := prepDoc_step hF hp d (hb d (by simp [hdd]))
      exact ⟨(s', t'), e, hp'⟩
  refine ⟨s, t, e, ?_⟩
  intro P wf Bf wl Bl hP hwf hwl hBf hBl
  have hd := hp.p1.dict
  have hT : t.totTFs = s.numTerms.sum := by rw [hp.p1.tfs, hd.sumT]
  have hL : t.totLocs = s.numLocs.sum := by rw [hp.p1.tl, hd.sumL]
  have hn : t.pidNext = s.numTerms.length := hd.lenT.symm
  rw [hT] at hBf ⊢
  rw [hL] at hBl ⊢
  obtain ⟨fw, hfw, hfr⟩ := carve_refinesC 378 s.numTerms _ hBf wf (hwf.trans hn) Bf rfl
  obtain ⟨lw, hlw, hlr⟩ := carve_refinesC 396 s.numLocs _ hBl wl (hwl.trans hd.lenL.symm) Bl rfl
  refine ⟨fw, lw, hfw, hlw, hp.p1.fmap, hp.p1.finv, hp.p1.dv, hn ▸ hd, hp.p1.ff,
    hp.fd, hn ▸ hP, hfr, ?_⟩
  rw [hd.lenL, hn] at hlr
  exact hlr

theorem prepareDicts_ok {F : List Bytes} {b : Batch} {m : AMap Bytes Nat}
    (hF : FieldsOK F (st0 b m)) (hFL : F = FL b) :
    ∃ s Cf Cl, prepareDicts (st0 b m) b = .ok s ∧ S1 Cf Cl F b (st0 b m) s := by
  obtain ⟨s, t, e, h⟩ := pass1_ok hF hFL
  obtain ⟨fw, lw, hfw, hlw, hS⟩ := h _ (List.replicate t.pidNext (.own []))
    (List.replicate t.totTFs default) (List.replicate t.pidNext (.own []))
    (List.replicate t.totLocs default) rfl List.length_replicate List.length_replicate
    (Nat.le_of_eq List.length_replicate.symm) (Nat.le_of_eq List.length_replicate.symm)
  rw [List.length_replicate] at hfw hlw
  exact ⟨_, _, _, by simp only [prepareDicts, e, hfw, hlw], hS⟩

theorem kget_map_sortS (K : List (List Bytes)) (i : Nat) : kget (K.map sortS) i = sortS (kget K i) := by
  simp only [kget, List.getD_eq_getElem?_getD, List.getElem?_map]
  cases K[i]? <;> simp [sortS]

/-- new.go:281-283: sorting the key lists keeps `DictInv` -/
theorem DictInv.sortKeys {nF : Nat} {E : List (Nat × TermOcc)} {D : List (AMap Bytes Nat)}
    {K : List (List Bytes)} {nT nL : List Nat} {n : Nat} (h : DictInv nF E D K nT nL n) :
    DictInv nF E D (K.map sortS) nT nL n :=
  ⟨h.lenD, by simp [h.lenK], h.lenT, h.lenL, h.rng, h.cntT, h.cntL, h.inj, h.dom,
    fun i hi t => by rw [kget_map_sortS, mem_sortS]; exact h.keys i hi t,
    fun i hi => by rw [kget_map_sortS]; exact asc_nodup (asc_sortS _ (h.nodup i hi)),
    h.sumT, h.sumL⟩

end Ice.Model.Builder
