import IceModel.Lemmas.Builder.Write
import IceModel.Lemmas.Builder.Emits
/-
  The postings list of one (field, term) as it sits in the windows after pass 2 (`termView_ok`),
  and its resolution back to field names.
-/
namespace Ice.Model.Builder
open Ice Ice.Spec

/-- the posting of term `t` in field `i` of document `x.1` (number `x.2`), if any -/
def postingIn (nc : Bytes → Nat → Nat) (F : List Bytes) (i : Nat) (t : Bytes) (x : Doc × Nat) :
    Option Posting :=
  (aget (lget (rollTFs false F x.1) i) t).map fun tf =>
    { doc := x.2, freq := tf.freq, norm := nc (fname F i) (nget (rollLens F x.1) i),
      locs := tf.locs.map (resolveLoc (fname F i)) }

/-- the postings of term `t` in field `i`: independent of the map order -/
def entriesOf (nc : Bytes → Nat → Nat) (F : List Bytes) (b : Batch) (i : Nat) (t : Bytes) : List Posting :=
  b.zipIdx.flatMap (fun x => (postingIn nc F i t x).toList)

theorem docs_nat_asc {α : Type} (o : α × Nat → Option Nat) (hdoc : ∀ x d, o x = some d → d = x.2)
    (l : List α) : ∀ k, ((l.zipIdx k).flatMap (fun x => (o x).toList)).Pairwise (· < ·) ∧
      ∀ d ∈ (l.zipIdx k).flatMap (fun x => (o x).toList), k ≤ d ∧ d < k + l.length := by
  induction l with
  | nil => intro k; simp
  | cons a r ih =>
    intro k
    obtain ⟨h1, h2⟩ := ih (k + 1)
    simp only [List.zipIdx_cons, List.flatMap_cons, List.length_cons]
    cases ho : o (a, k) with
    | none =>
      simp only [Option.toList_none, List.nil_append]
      exact ⟨h1, fun d hd => by have := h2 d hd; omega⟩
    | some e =>
      have he := hdoc _ _ ho
      simp only at he
      simp only [Option.toList_some, List.singleton_append, List.pairwise_cons, List.mem_cons]
      refine ⟨⟨fun d hd => by have := h2 d hd; omega, h1⟩, ?_⟩
      rintro d (rfl | hd)
      · omega
      · have := h2 d hd; omega

section view
variable {Cf Cl : Nat} {F : List Bytes} {b : Batch} {s1 s : St} (nc : Bytes → Nat → Nat) (π : Order)
  (hD : DictInv F.length (evsI F b.flatten) s1.dicts s1.dictKeys s1.numTerms s1.numLocs s1.numTerms.length)
  (hπ : PermOK π)
  (hval : ∀ d ∈ b, ∀ f ∈ d, ∀ o ∈ f.terms, ∀ l ∈ o.locs, l.field = [] ∨ l.field ∈ F)
  (hS : Sim Cf Cl s1 s (applyAll (Abs.empty s1.numTerms.length) (allEmits false nc π F s1.dicts b)))

include hD hπ hval hS

theorem termView_ok {i : Nat} {t : Bytes} {v : Nat} (hv : dget s1.dicts i t = some v) :
    TermView s (s1.dicts.getD i []) b.length t
      (esel (allEmits false nc π F s1.dicts b) (v - 1)) := by
  have htf := tfsOK_of_valid hD hval
  have hsel := esel_allEmits nc π hD hπ hv htf
  obtain ⟨hv1, hv2⟩ := hD.rng i t v hv
  have hp : v - 1 < s1.numTerms.length := pid_lt ⟨hv1, hv2⟩
  have hpL : v - 1 < s1.numLocs.length := by rw [hD.lenL]; exact hp
  have hdocs := docs_nat_asc
    (fun x : Doc × Nat => ((aget (lget (rollTFs false F x.1) i) t).map
      (fun tf => mkEmit nc F s1.dicts x.2 i (rollLens F x.1) (t, tf))).map (·.doc))
    (by
      intro x d hd
      simp only [Option.map_map, Option.map_eq_some_iff] at hd
      obtain ⟨tf, _, rfl⟩ := hd
      rfl) b 0
  rw [← map_flatMap_toList, ← hsel] at hdocs
  obtain ⟨haf, hal, hpost⟩ := (applyAll_empty (fits_all nc π hD hπ hval).pid).2 (v - 1)
  refine ⟨?_, ?_, ?_, ?_, ?_⟩
  · rw [hsel]
    -- pass 1 counted an occurrence, so some document has the term
    have hi := lt_of_dget hD hv
    obtain ⟨d, hd, hc⟩ := (cnt_flatten_pos F b i t).1 ((hD.dom i t hi).1 (by rw [hv]; rfl))
    obtain ⟨k, hk⟩ := List.getElem?_of_mem hd
    obtain ⟨tf, htf'⟩ := Option.isSome_iff_exists.1 (((rollTFs_ok F d i hi).isSome_iff t).2 hc)
    intro hnil
    have hmem : (d, k) ∈ b.zipIdx := List.mem_zipIdx_iff_getElem?.2 hk
    have := List.flatMap_eq_nil_iff.1 hnil (d, k) hmem
    simp [htf'] at this
  · exact hdocs.1
  · intro e he
    have := hdocs.2 e.doc (List.mem_map_of_mem he)
    omega
  · intro e he
    rw [hsel] at he
    simp only [List.mem_flatMap, Option.mem_toList, Option.map_eq_some_iff] at he
    obtain ⟨x, _, tf, _, rfl⟩ := he
    simp [mkEmit]
  · have hpP : v - 1 < s.postings.length := by rw [hS.post, hS.lenP]; exact hp
    have hwf := hS.fn.win (v - 1) hp
    have hwl := hS.loc.win (v - 1) hpL
    refine ⟨v, _, _, hv, Nat.ne_of_gt hv1, ?_, hwf, hwl, by rw [hS.core.nT]; exact hp, ?_, ?_⟩
    · rw [getElem?_eq_some_getD hpP []]
      change some (lget s.postings (v - 1)) = _
      rw [hS.post, hpost, foldl_addDoc hdocs.1]
    · intro k
      rw [hS.fn.get? hp hwf k, haf]
    · intro lo m hm
      rw [hS.loc.sub? hpL hwl lo m (by rw [hal]; exact hm), hal]

end view

theorem resolveILoc_ok {F : List Bytes} {i : Nat} (hi : i < F.length) (l : Loc)
    (hl : l.field = [] ∨ l.field ∈ F) :
    resolveILoc F (toILoc F i l) = .ok (resolveLoc (fname F i) l) := by
  unfold resolveILoc toILoc resolveLoc
  by_cases h : l.field = []
  · simp [h, fname_eq hi, List.getElem?_eq_getElem hi]
  · have hm : l.field ∈ F := hl.resolve_left h
    have hlt := List.idxOf_lt_length_of_mem hm
    have : F[F.idxOf l.field]? = some l.field := by
      rw [List.getElem?_eq_getElem hlt]; simp
    simp [h, this]

theorem resolveEntry_ok {F : List Bytes} {D : List (AMap Bytes Nat)} (nc : Bytes → Nat → Nat) {i : Nat}
    (hi : i < F.length) (n : Nat) (lens : List Nat) (t : Bytes) (tf : TokFreq)
    (hl : ∀ l ∈ tf.locs, l.field = [] ∨ l.field ∈ F) :
    resolveEntry F (toRaw (mkEmit nc F D n i lens (t, tf))) =
      .ok { doc := n, freq := tf.freq, norm := nc (fname F i) (nget lens i),
            locs := tf.locs.map (resolveLoc (fname F i)) } := by
  unfold resolveEntry
  have : mapE (resolveILoc F) (toRaw (mkEmit nc F D n i lens (t, tf))).locs =
      .ok (tf.locs.map (resolveLoc (fname F i))) :=
    mapE_map_ok _ _ _ _ (fun l hlm => resolveILoc_ok hi l (hl l hlm))
  rw [this]
  simp [toRaw, mkEmit]

end Ice.Model.Builder
