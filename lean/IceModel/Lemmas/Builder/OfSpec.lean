import IceModel.Lemmas.Builder.Write
import IceModel.Lemmas.Build
/-
  `Built.ofSpec dvf S`: the abstract segment `S` laid out the way the builder returns its result - the
  tables of `S` by field number, per field the terms with their postings and, for the fields `dvf`
  selects, the doc-value column.  Every observation of it is the observation of `S` (`ofSpec_*`), so
  a builder is correct once its result is shown to BE `Built.ofSpec dvf S`.
-/
namespace Ice.Model.Builder
open Ice Ice.Spec

def FieldView.ofSpec (dvf : Bytes → Bool) (S : AbsSeg) (f : Bytes) : FieldView :=
  { entries := (terms S f).map fun t => (t, postings S f t),
    dv := if dvf f then some (colOf S.docs.length fun n => dvOf S n f) else none }

def Built.ofSpec (dvf : Bytes → Bool) (S : AbsSeg) : Built :=
  { fields := S.fields, fieldDocs := S.fieldDocs, fieldFreqs := S.fieldFreqs,
    stored := (List.range S.docs.length).map (Spec.stored S),
    dicts := S.fields.map (FieldView.ofSpec dvf S) }

/-- the documents of `S` know only listed fields; a field outside `dvf` has no doc values -/
structure Closed (dvf : Bytes → Bool) (S : AbsSeg) : Prop where
  names : ∀ d ∈ S.docs, ∀ af ∈ d, af.name ∈ S.fields
  dv : ∀ n f, dvf f = false → dvOf S n f = []

section
variable {dvf : Bytes → Bool} {S : AbsSeg}

theorem Closed.field (h : Closed dvf S) {d : ADoc} (hd : d ∈ S.docs) {f : Bytes} (hf : f ∉ S.fields) :
    d.field? f = none :=
  List.find?_eq_none.2 fun af haf e => hf (beq_iff_eq.1 e ▸ h.names d hd af haf)

theorem Closed.terms_nil (h : Closed dvf S) {f : Bytes} (hf : f ∉ S.fields) : terms S f = [] := by
  refine List.eq_nil_iff_forall_not_mem.2 fun t ht => ?_
  obtain ⟨d, hd, af, hq, _⟩ := (mem_terms _ _ _).1 ht
  rw [h.field hd hf] at hq
  cases hq

theorem Closed.dvOf_nil (h : Closed dvf S) {f : Bytes} (hf : f ∉ S.fields) (n : Nat) : dvOf S n f = [] := by
  unfold dvOf
  cases hn : S.docs[n]? with
  | none => rfl
  | some d => simp only [h.field (List.mem_of_getElem? hn) hf]

variable (dvf S)

theorem ofSpec_view (f : Bytes) :
    (Built.ofSpec dvf S).view f = if f ∈ S.fields then some (FieldView.ofSpec dvf S f) else none := by
  unfold Built.view
  simp only [Built.ofSpec, idxOf?_eq_ite]
  by_cases h : f ∈ S.fields
  · simp [h, List.idxOf_lt_length_of_mem h]
  · simp [h]

theorem ofSpec_storedOf (n : Nat) : (Built.ofSpec dvf S).storedOf n = Spec.stored S n := by
  unfold Built.storedOf
  simp only [Built.ofSpec, List.getD_eq_getElem?_getD, List.getElem?_map]
  by_cases hn : n < S.docs.length
  · simp [hn]
  · simp [hn, Spec.stored]

theorem ofSpec_stats (f : Bytes) : (Built.ofSpec dvf S).stats S.docs.length f = stats S f := rfl

variable {dvf S} (h : Closed dvf S)
include h

theorem ofSpec_terms (f : Bytes) : (Built.ofSpec dvf S).terms f = terms S f := by
  unfold Built.terms
  rw [ofSpec_view]
  by_cases hf : f ∈ S.fields
  · simp [if_pos hf, FieldView.ofSpec, Function.comp_def]
  · rw [if_neg hf, h.terms_nil hf]

theorem ofSpec_postings (f t : Bytes) : (Built.ofSpec dvf S).postings f t = postings S f t := by
  unfold Built.postings
  rw [ofSpec_view]
  by_cases hf : f ∈ S.fields
  · simp only [if_pos hf, FieldView.ofSpec, aget_map_self]
    by_cases ht : t ∈ terms S f
    · rw [if_pos ht]; rfl
    · rw [if_neg ht, postings_eq_nil ht]; rfl
  · rw [if_neg hf, postings_eq_nil (by rw [h.terms_nil hf]; exact List.not_mem_nil)]

/-- reading the doc-value column of a field back -/
theorem ofSpec_dv_get (n : Nat) (f : Bytes) :
    (match (FieldView.ofSpec dvf S f).dv with
     | none => []
     | some vals => (aget vals n).getD []) = dvOf S n f := by
  cases hdv : dvf f with
  | false => simp [FieldView.ofSpec, hdv, h.dv n f hdv]
  | true =>
    simp only [FieldView.ofSpec, hdv, if_true]
    exact aget_colOf (fun d hd => dvOf_of_length_le hd f) n

theorem ofSpec_dvOf (n : Nat) (f : Bytes) : (Built.ofSpec dvf S).dvOf n f = dvOf S n f := by
  unfold Built.dvOf
  rw [ofSpec_view]
  by_cases hf : f ∈ S.fields
  · rw [if_pos hf]; exact ofSpec_dv_get h n f
  · rw [if_neg hf, h.dvOf_nil hf n]

end

end Ice.Model.Builder
