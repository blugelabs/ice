import IceModel.Lemmas.Builder.Roll
/-
  new.go:453-553 - pass 2 as a simulation: the concrete state (windows into shared backing arrays)
  represents an abstract state (one list per postings list); each `emitTerm` is one `applyEmit`,
  provided the window still has room (`Fits`).  The backing arrays have capacities `Cf`, `Cl` at least
  the sums of the reservations (`RefinesC`): equal for a fresh builder, larger with stale cells for a
  pooled one (Lemmas/Pool) - both emit into the same abstract lists.
-/
namespace Ice.Model.Builder
open Ice Ice.Spec

structure Abs where
  post : List (List Nat)
  af : List (List FreqNorm)
  al : List (List ILoc)

/-- one execution of the body of `for term, tf := range tfs` -/
structure Emit where
  pid : Nat
  doc : Nat
  fn : FreqNorm
  locs : List ILoc

def applyEmit (A : Abs) (e : Emit) : Abs :=
  { post := A.post.set e.pid (addDoc e.doc (lget A.post e.pid)),
    af := A.af.set e.pid (lget A.af e.pid ++ [e.fn]),
    al := A.al.set e.pid (lget A.al e.pid ++ e.locs) }

def applyAll (A : Abs) (E : List Emit) : Abs := E.foldl applyEmit A

def Abs.empty (n : Nat) : Abs :=
  { post := List.replicate n [], af := List.replicate n [], al := List.replicate n [] }

/-- what later phases use of the parts of the state pass 2 does not touch -/
structure Core (s1 s : St) : Prop where
  fmap : s.fieldsMap = s1.fieldsMap
  finv : s.fieldsInv = s1.fieldsInv
  fdocs : s.fieldDocs = s1.fieldDocs
  ffreqs : s.fieldFreqs = s1.fieldFreqs
  dicts : s.dicts = s1.dicts
  dkeys : s.dictKeys = s1.dictKeys
  dv : s.includeDV = s1.includeDV
  nT : s.numTerms = s1.numTerms

theorem Core.refl (s : St) : Core s s := ⟨rfl, rfl, rfl, rfl, rfl, rfl, rfl, rfl⟩

theorem Core.update {s1 s : St} (h : Core s1 s) (P : List (List Nat)) (fw : List (Slice FreqNorm))
    (fb : List FreqNorm) (lw : List (Slice ILoc)) (lb : List ILoc) :
    Core s1 { s with postings := P, fnWins := fw, fnBacking := fb, locWins := lw, locBacking := lb } :=
  ⟨h.fmap, h.finv, h.fdocs, h.ffreqs, h.dicts, h.dkeys, h.dv, h.nT⟩

structure Sim (Cf Cl : Nat) (s1 s : St) (A : Abs) : Prop where
  core : Core s1 s
  post : s.postings = A.post
  lenP : A.post.length = s1.numTerms.length
  fn : Pool.RefinesC Cf s1.numTerms s.fnWins s.fnBacking A.af
  loc : Pool.RefinesC Cl s1.numLocs s.locWins s.locBacking A.al

/-- the interimLoc of a tokenLocation of field `i` -/
def toILoc (F : List Bytes) (i : Nat) (l : Loc) : ILoc :=
  { fieldID := if l.field ≠ [] then F.idxOf l.field else i, pos := l.pos, start := l.start,
    stop := l.stop }

theorem lget_set_self {α : Type} (A : List (List α)) (p : Nat) : A.set p (lget A p) = A :=
  set_getD_self A p []

/-- new.go:536-547 -/
theorem emitLocs_ok {C : Nat} {F : List Bytes} {i : Nat} (hi : i < F.length) {res : List Nat} {p : Nat}
    (hp : p < res.length) (locs : List Loc) :
    ∀ (s : St) (W : List (Slice ILoc)) (AL : List (List ILoc)) (lw : Slice ILoc),
    FieldsOK F s → Pool.RefinesC C res W s.locBacking AL → W[p]? = some lw →
    (∀ l ∈ locs, l.field = [] ∨ l.field ∈ F) → (lget AL p).length + locs.length ≤ nget res p →
    ∃ B' lw', locs.foldl (emitLoc i) (s, lw) = ({ s with locBacking := B' }, lw') ∧
      Pool.RefinesC C res (W.set p lw') B' (AL.set p (lget AL p ++ locs.map (toILoc F i))) := by
  induction locs with
  | nil =>
    intro s W AL lw _ hR hw _ _
    refine ⟨s.locBacking, lw, rfl, ?_⟩
    rw [set_of_getElem? hw, List.map_nil, List.append_nil, lget_set_self]
    exact hR
  | cons l r ih =>
    intro s W AL lw hF hR hw hv hfit
    have hpW : p < W.length := by rw [hR.lenW]; exact hp
    have hpA : p < AL.length := by rw [hR.lenA]; exact hp
    rw [List.length_cons] at hfit
    have hstep : emitLoc i (s, lw) l =
        ({ s with locBacking := (lw.append s.locBacking (toILoc F i l)).2 },
         (lw.append s.locBacking (toILoc F i l)).1) := by
      have hui : u16 i = i := u16_lt i (Nat.lt_succ_of_le (Nat.le_trans (Nat.le_of_lt hi) hF.len))
      unfold emitLoc toILoc
      by_cases hl : l.field = []
      · simp only [hl, ne_eq, not_true_eq_false, if_false, hui]
      · have hm : l.field ∈ F := (hv l List.mem_cons_self).resolve_left hl
        simp only [ne_eq, hl, not_false_eq_true, if_true, getOrDefineField_known hF hm, u16_idx hF hm]
    obtain ⟨w0, hw0, hR'⟩ := hR.append hp (by omega) (toILoc F i l)
    rw [hw] at hw0; injection hw0 with hw0; subst hw0
    obtain ⟨B', lw', e, hR''⟩ := ih { s with locBacking := (lw.append s.locBacking (toILoc F i l)).2 }
      _ _ (lw.append s.locBacking (toILoc F i l)).1 (hF.of_eq rfl rfl) hR'
      (List.getElem?_set_self hpW) (fun l' hl' => hv l' (List.mem_cons_of_mem _ hl'))
      (by rw [lget_set, if_pos ⟨rfl, hpA⟩, List.length_append, List.length_singleton]; omega)
    refine ⟨B', lw', by rw [List.foldl_cons, hstep, e], ?_⟩
    rw [lget_set, if_pos ⟨rfl, hpA⟩, List.set_set, List.set_set, List.append_assoc] at hR''
    exact hR''

/-- the body of `for term, tf := range tfs`, new.go:521-551 -/
theorem emitTerm_ok {Cf Cl : Nat} {F : List Bytes} {s1 s : St} {A : Abs} (hF : FieldsOK F s1) (hS : Sim Cf Cl s1 s A)
    (hLen : s1.numLocs.length = s1.numTerms.length) {i : Nat} (hi : i < F.length)
    (docNum norm : Nat) (t : Bytes) (tf : TokFreq) {v : Nat} (hv : dget s1.dicts i t = some v)
    (hv1 : 1 ≤ v) (hv2 : v ≤ s1.numTerms.length)
    (hlocs : ∀ l ∈ tf.locs, l.field = [] ∨ l.field ∈ F)
    (hw1 : (lget A.af (v - 1)).length < nget s1.numTerms (v - 1))
    (hw2 : (lget A.al (v - 1)).length + tf.locs.length ≤ nget s1.numLocs (v - 1)) :
    ∃ s', emitTerm docNum i norm (s1.dicts.getD i []) s (t, tf) = .ok s' ∧
      Sim Cf Cl s1 s' (applyEmit A { pid := v - 1, doc := docNum,
                                      fn := { freq := tf.freq, norm := norm, numLocs := tf.locs.length },
                                      locs := tf.locs.map (toILoc F i) }) := by
  have hp : v - 1 < s1.numTerms.length := pid_lt ⟨hv1, hv2⟩
  have hpL : v - 1 < s1.numLocs.length := hLen ▸ hp
  obtain ⟨w, hw, hRf⟩ := hS.fn.append hp hw1
    { freq := tf.freq, norm := norm, numLocs := tf.locs.length }
  have hlw := hS.loc.win (v - 1) hpL
  have g0 : pidOf ((aget (s1.dicts.getD i []) t).getD 0) 522 = .ok (v - 1) := by
    rw [show aget (s1.dicts.getD i []) t = some v from hv]; exact if_neg (Nat.ne_of_gt hv1)
  have g1 : getE s.postings (v - 1) 523 = .ok (lget A.post (v - 1)) := by
    rw [hS.post]; exact getE_getD (hS.lenP.symm ▸ hp) _ _
  have hpost : s.postings.set (v - 1) (addDoc docNum (lget A.post (v - 1))) =
      A.post.set (v - 1) (addDoc docNum (lget A.post (v - 1))) := by rw [hS.post]
  have hlen : (A.post.set (v - 1) (addDoc docNum (lget A.post (v - 1)))).length = s1.numTerms.length := by
    rw [List.length_set, hS.lenP]
  by_cases h0 : tf.locs.length > 0
  · obtain ⟨B', lw', e, hRl⟩ := emitLocs_ok hi hpL tf.locs
      { s with postings := s.postings.set (v - 1) (addDoc docNum (lget A.post (v - 1))),
               fnWins := s.fnWins.set (v - 1) (w.append s.fnBacking
                 { freq := tf.freq, norm := norm, numLocs := tf.locs.length }).1,
               fnBacking := (w.append s.fnBacking
                 { freq := tf.freq, norm := norm, numLocs := tf.locs.length }).2 }
      s.locWins A.al _ (hF.of_eq hS.core.fmap hS.core.finv) hS.loc hlw hlocs hw2
    refine ⟨_, ?_, hS.core.update _ _ _ (s.locWins.set (v - 1) lw') B', hpost, hlen, hRf, hRl⟩
    simp only [emitTerm, g0, g1, getE_eq_ok hw, h0, if_true, getE_eq_ok hlw, e,
      setE_eq_ok _ (hS.loc.lenW ▸ hpL)]
  · refine ⟨_, ?_, hS.core.update _ _ _ s.locWins s.locBacking, hpost, hlen, hRf, ?_⟩
    · simp only [emitTerm, g0, g1, getE_eq_ok hw, h0, if_false]
    · have hl0 : tf.locs = [] := List.eq_nil_of_length_eq_zero (Nat.eq_zero_of_not_pos h0)
      simpa [applyEmit, hl0, lget_set_self] using hS.loc

def fname (F : List Bytes) (i : Nat) : Bytes := F.getD i []

theorem fname_eq {F : List Bytes} {i : Nat} (hi : i < F.length) : fname F i = F[i] :=
  Option.some.inj ((getElem?_eq_some_getD hi []).symm.trans (List.getElem?_eq_getElem hi))

def mkEmit (nc : Bytes → Nat → Nat) (F : List Bytes) (D : List (AMap Bytes Nat)) (n i : Nat)
    (lens : List Nat) (e : Bytes × TokFreq) : Emit :=
  { pid := (dget D i e.1).getD 0 - 1, doc := n,
    fn := { freq := e.2.freq, norm := nc (fname F i) (nget lens i), numLocs := e.2.locs.length },
    locs := e.2.locs.map (toILoc F i) }

abbrev Order := Nat → Nat → List (Bytes × TokFreq) → List (Bytes × TokFreq)

def fieldEmits (nc : Bytes → Nat → Nat) (π : Order) (F : List Bytes) (D : List (AMap Bytes Nat))
    (n : Nat) (lens : List Nat) (x : AMap Bytes TokFreq × Nat) : List Emit :=
  (π n x.2 x.1).map (mkEmit nc F D n x.2 lens)

def docEmits (v0 : Bool) (nc : Bytes → Nat → Nat) (π : Order) (F : List Bytes)
    (D : List (AMap Bytes Nat)) (x : Doc × Nat) : List Emit :=
  (rollTFs v0 F x.1).zipIdx.flatMap (fieldEmits nc π F D x.2 (rollLens F x.1))

def allEmits (v0 : Bool) (nc : Bytes → Nat → Nat) (π : Order) (F : List Bytes)
    (D : List (AMap Bytes Nat)) (b : Batch) : List Emit :=
  b.zipIdx.flatMap (docEmits v0 nc π F D)

/-- the emissions into postings list `p` -/
def esel (E : List Emit) (p : Nat) : List Emit := E.filter (fun e => e.pid == p)

theorem esel_append (E E' : List Emit) (p : Nat) : esel (E ++ E') p = esel E p ++ esel E' p := by
  simp [esel]

/-- pass 2 stays inside what pass 1 reserved -/
structure Fits (n : Nat) (nT nL : List Nat) (E : List Emit) : Prop where
  pid : ∀ e ∈ E, e.pid < n
  cnt : ∀ p, (esel E p).length ≤ nget nT p
  locs : ∀ p, ((esel E p).flatMap (·.locs)).length ≤ nget nL p

theorem Fits.prefix {n : Nat} {nT nL : List Nat} {E E' : List Emit} (h : Fits n nT nL (E ++ E')) :
    Fits n nT nL E := by
  refine ⟨fun e he => h.pid e (List.mem_append_left _ he), fun p => ?_, fun p => ?_⟩
  · have := h.cnt p; rw [esel_append, List.length_append] at this; omega
  · have := h.locs p; rw [esel_append, List.flatMap_append, List.length_append] at this; omega

theorem applyAll_snoc (A : Abs) (E : List Emit) (e : Emit) :
    applyAll A (E ++ [e]) = applyEmit (applyAll A E) e := foldl_snoc _ _ E e

/-- what pass 2 builds from nothing: per postings list, its emissions in order -/
theorem applyAll_empty {n : Nat} {E : List Emit} (h : ∀ e ∈ E, e.pid < n) :
    ((applyAll (Abs.empty n) E).post.length = n ∧ (applyAll (Abs.empty n) E).af.length = n ∧
      (applyAll (Abs.empty n) E).al.length = n) ∧ ∀ p,
    lget (applyAll (Abs.empty n) E).af p = (esel E p).map (·.fn) ∧
    lget (applyAll (Abs.empty n) E).al p = (esel E p).flatMap (·.locs) ∧
    lget (applyAll (Abs.empty n) E).post p = ((esel E p).map (·.doc)).foldl (fun l d => addDoc d l) [] := by
  induction E using snoc_induction with
  | nil =>
    exact ⟨⟨List.length_replicate, List.length_replicate, List.length_replicate⟩, fun p =>
      ⟨lget_replicate_nil n p, lget_replicate_nil n p, lget_replicate_nil n p⟩⟩
  | snoc E e ih =>
    obtain ⟨⟨l1, l2, l3⟩, ih⟩ := ih fun e' he' => h e' (List.mem_append_left _ he')
    have he : e.pid < n := h e (List.mem_append_right _ List.mem_cons_self)
    rw [applyAll_snoc]
    refine ⟨by simp only [applyEmit, List.length_set, l1, l2, l3, and_self], fun p => ?_⟩
    obtain ⟨i1, i2, i3⟩ := ih p
    simp only [applyEmit, lget_set, esel_append, l1, l2, l3, he, and_true]
    by_cases hp : e.pid = p
    · subst hp; simp [esel, i1, i2, i3]
    · simp [esel, hp, i1, i2, i3]

/-- the facts about a rolled-up document that pass 2 relies on -/
def TFsOK (F : List Bytes) (D : List (AMap Bytes Nat)) (tfs : List (AMap Bytes TokFreq)) : Prop :=
  ∀ i t tf, (t, tf) ∈ lget tfs i →
    (dget D i t).isSome ∧ ∀ l ∈ tf.locs, l.field = [] ∨ l.field ∈ F

def PermOK (π : Order) : Prop := ∀ n i m, (π n i m).Perm m

section pass2
variable {Cf Cl : Nat} {F : List Bytes} {s1 : St} {E0 : List (Nat × TermOcc)} (nc : Bytes → Nat → Nat) (π : Order)
  (hF : FieldsOK F s1)
  (hD : DictInv F.length E0 s1.dicts s1.dictKeys s1.numTerms s1.numLocs s1.numTerms.length)
  (hπ : PermOK π)

/-- `run` simulates the emissions `em`: from a state that represents the emissions `E` so far it
    reaches a state that represents `E ++ em`, provided these still fit -/
def Emits (Cf Cl : Nat) (s1 : St) (run : St → M St) (em : List Emit) : Prop :=
  ∀ s E, Sim Cf Cl s1 s (applyAll (Abs.empty s1.numTerms.length) E) →
    Fits s1.numTerms.length s1.numTerms s1.numLocs (E ++ em) →
    ∃ s', run s = .ok s' ∧ Sim Cf Cl s1 s' (applyAll (Abs.empty s1.numTerms.length) (E ++ em))

/-- a loop whose body simulates the emissions `em x` simulates all of them in order -/
theorem foldlE_sim {α : Type} (f : St → α → M St) (em : α → List Emit) (l : List α)
    (hstep : ∀ x ∈ l, Emits Cf Cl s1 (f · x) (em x)) : Emits Cf Cl s1 (foldlE f · l) (l.flatMap em) := by
  induction l with
  | nil => intro s E hS _; exact ⟨s, rfl, by rwa [List.flatMap_nil, List.append_nil]⟩
  | cons x r ih =>
    intro s E hS hfit
    rw [List.flatMap_cons, ← List.append_assoc] at hfit ⊢
    obtain ⟨s', e, hS'⟩ := hstep x List.mem_cons_self s E hS hfit.prefix
    obtain ⟨s'', e', hS''⟩ := ih (fun y hy => hstep y (List.mem_cons_of_mem _ hy)) s' _ hS' hfit
    exact ⟨s'', by simp only [foldlE, e, e'], hS''⟩

include hF hD hπ

/-- the body of `for fieldID, tfs := range fieldTFs`, new.go:517-552 -/
theorem emitField_ok (n : Nat) (lens : List Nat) (x : AMap Bytes TokFreq × Nat)
    (hi : x.2 < F.length) (hlens : lens.length = F.length)
    (hx : ∀ t tf, (t, tf) ∈ x.1 → (dget s1.dicts x.2 t).isSome ∧ ∀ l ∈ tf.locs, l.field = [] ∨ l.field ∈ F) :
    Emits Cf Cl s1 (emitField nc π n lens · x) (fieldEmits nc π F s1.dicts n lens x) := by
  obtain ⟨m, i⟩ := x
  intro s E1 hS hfit
  have hiD : i < s1.dicts.length := by rw [hD.lenD]; exact hi
  have g1 : getE s.dicts i 518 = .ok (s1.dicts.getD i []) := hS.core.dicts ▸ getE_getD hiD _ _
  have g2 : getE s.fieldsInv i 519 = .ok (fname F i) := by
    rw [hS.core.finv, hF.inv]; exact getE_getD hi _ _
  have g3 : getE lens i 519 = .ok (nget lens i) := getE_getD (hlens ▸ hi) _ _
  simp only [emitField, g1, g2, g3, fieldEmits, List.map_eq_flatMap] at hfit ⊢
  refine foldlE_sim _ _ _ ?_ s E1 hS hfit
  intro (t, tf) hmem s E hSs hfit2
  obtain ⟨hsome, hlocs⟩ := hx t tf ((hπ n i m).mem_iff.1 hmem)
  obtain ⟨v, hv⟩ := Option.isSome_iff_exists.1 hsome
  obtain ⟨hv1, hv2⟩ := hD.rng i t v hv
  -- the window still has room
  have hsp := (applyAll_empty hfit2.prefix.pid).2 (v - 1)
  have hc := hfit2.cnt (v - 1)
  have hl := hfit2.locs (v - 1)
  have hself : esel [mkEmit nc F s1.dicts n i lens (t, tf)] (v - 1) =
      [mkEmit nc F s1.dicts n i lens (t, tf)] := by simp [esel, mkEmit, hv]
  rw [esel_append, hself, List.length_append] at hc
  rw [esel_append, hself, List.flatMap_append, List.length_append, List.flatMap_singleton] at hl
  obtain ⟨s', e', hS'⟩ := emitTerm_ok hF hSs (by rw [hD.lenL]) hi n
    (nc (fname F i) (nget lens i)) t tf hv hv1 hv2 hlocs
    (by rw [hsp.1, List.length_map]; exact hc)
    (by rw [hsp.2.1]; simpa only [mkEmit, List.length_map] using hl)
  refine ⟨s', e', ?_⟩
  rw [applyAll_snoc]
  simpa [mkEmit, hv] using hS'

/-- new.go:469-553 -/
theorem processDocument_ok (v0 : Bool) (x : Doc × Nat) (hd : ∀ f ∈ x.1, f.name ∈ F)
    (htf : TFsOK F s1.dicts (rollTFs v0 F x.1)) :
    Emits Cf Cl s1 (processDocument v0 nc π F.length · x) (docEmits v0 nc π F s1.dicts x) := by
  obtain ⟨d, n⟩ := x
  intro s Ed hS hfit
  have hFs : FieldsOK F s := hF.of_eq hS.core.fmap hS.core.finv
  simp only [processDocument, visitFields_ok v0 hFs d hd, docEmits] at hfit ⊢
  refine foldlE_sim _ _ _ (fun y hy => ?_) s Ed hS hfit
  obtain ⟨hi, hlg⟩ := getD_of_mem_zipIdx hy []
  exact emitField_ok nc π hF hD hπ n (rollLens F d) y (length_rollTFs v0 F d ▸ hi)
    (length_rollLens F d) (fun t tf hm => htf y.2 t tf (by rw [lget, hlg]; exact hm))

/-- new.go:453-467 -/
theorem processDocuments_ok (v0 : Bool) (b : Batch) (hb : ∀ d ∈ b, ∀ f ∈ d, f.name ∈ F)
    (htf : ∀ d ∈ b, TFsOK F s1.dicts (rollTFs v0 F d)) :
    Emits Cf Cl s1 (processDocuments v0 nc π · b) (allEmits v0 nc π F s1.dicts b) := by
  intro s E hS hfit
  have hlenF : s.fieldsInv.length = F.length := by rw [hS.core.finv, hF.inv]
  simp only [processDocuments, hlenF]
  refine foldlE_sim _ _ _ (fun x hx => ?_) s E hS hfit
  have hxb := List.fst_mem_of_mem_zipIdx hx
  exact processDocument_ok nc π hF hD hπ v0 x (hb x.1 hxb) (htf x.1 hxb)

end pass2

end Ice.Model.Builder
