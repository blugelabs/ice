import IceModel.Lemmas.Builder.Windows
/-
  The roll-up of one document (new.go:472-514): `visitField` over the document's instances computes
  `rollLens` and `rollTFs` (`visitFields_ok`), and `rollTFs` holds, per field and term, the `tfOf` of the
  document's (field id, term occurrence) events (`rollTFs_ok`).
-/
namespace Ice.Model.Builder
open Ice Ice.Spec

/-- `fieldLens` of processDocument after the instances `I` -/
def rollLens (F : List Bytes) (I : List FieldInst) : List Nat :=
  I.foldl (fun lens f => lens.set (F.idxOf f.name) (nget lens (F.idxOf f.name) + f.length))
    (List.replicate F.length 0)

/-- `fieldTFs` of processDocument after the instances `I` -/
def rollTFs (v0 : Bool) (F : List Bytes) (I : List FieldInst) : List (AMap Bytes TokFreq) :=
  I.foldl (fun tfs f => tfs.set (F.idxOf f.name)
      (f.terms.foldl (visitTerm v0 f.name) (lget tfs (F.idxOf f.name))))
    (List.replicate F.length [])

theorem rollLens_snoc (F : List Bytes) (I : List FieldInst) (f : FieldInst) :
    rollLens F (I ++ [f]) =
      (rollLens F I).set (F.idxOf f.name) (nget (rollLens F I) (F.idxOf f.name) + f.length) :=
  foldl_snoc _ _ I f

theorem rollTFs_snoc (v0 : Bool) (F : List Bytes) (I : List FieldInst) (f : FieldInst) :
    rollTFs v0 F (I ++ [f]) = (rollTFs v0 F I).set (F.idxOf f.name)
      (f.terms.foldl (visitTerm v0 f.name) (lget (rollTFs v0 F I) (F.idxOf f.name))) :=
  foldl_snoc _ _ I f

theorem length_rollLens (F : List Bytes) (I : List FieldInst) : (rollLens F I).length = F.length := by
  unfold rollLens; rw [foldl_length_inv _ (by intros; simp)]; simp

theorem length_rollTFs (v0 : Bool) (F : List Bytes) (I : List FieldInst) :
    (rollTFs v0 F I).length = F.length := by
  unfold rollTFs; rw [foldl_length_inv _ (by intros; simp)]; simp

theorem visitFields_ok (v0 : Bool) {F : List Bytes} {s : St} (hF : FieldsOK F s) (d : Doc)
    (hd : ∀ f ∈ d, f.name ∈ F) :
    foldlE (visitField v0) (s, List.replicate F.length 0, List.replicate F.length []) d =
      .ok (s, rollLens F d, rollTFs v0 F d) := by
  obtain ⟨x, e, hx⟩ := foldlE_inv (visitField v0)
    (fun pre x => x = (s, rollLens F pre, rollTFs v0 F pre)) d
    (s, List.replicate F.length 0, List.replicate F.length []) rfl
    (by
      intro pre f post x hdd hx
      subst hx
      have hf : f.name ∈ F := hd f (by simp [hdd])
      have hi := List.idxOf_lt_length_of_mem hf
      have hl : F.idxOf f.name < (rollLens F pre).length := by rw [length_rollLens]; exact hi
      have ht : F.idxOf f.name < (rollTFs v0 F pre).length := by rw [length_rollTFs]; exact hi
      refine ⟨_, ?_, rfl⟩
      simp only [visitField, getOrDefineField_known hF hf, u16_idx hF hf, getE_getD hl 474 0, getE_getD ht 476 [],
        rollLens_snoc, rollTFs_snoc]
      rfl)
  rw [e, hx]

/-- the occurrences of term `t` in field `i`, in input order -/
def occs (E : List (Nat × TermOcc)) (i : Nat) (t : Bytes) : List TermOcc :=
  (E.filter (fun e => e.1 == i && e.2.term == t)).map (·.2)

/-- the rolled-up `tokenFreq` of a list of occurrences -/
def tfOf (os : List TermOcc) : TokFreq :=
  { freq := (os.map (·.freq)).sum, locs := os.flatMap (·.locs) }

theorem occs_append (E E' : List (Nat × TermOcc)) (i : Nat) (t : Bytes) :
    occs (E ++ E') i t = occs E i t ++ occs E' i t := by simp [occs]

theorem occs_single (i j : Nat) (o : TermOcc) (t : Bytes) :
    occs [(j, o)] i t = if j = i ∧ o.term = t then [o] else [] := by
  simp only [occs, List.filter_cons, List.filter_nil, Bool.and_eq_true, beq_iff_eq]
  split <;> rfl

theorem occs_evsI (F : List Bytes) (I : List FieldInst) (i : Nat) (t : Bytes) :
    occs (evsI F I) i t =
      ((I.filter (fun f => F.idxOf f.name == i)).flatMap (·.terms)).filter (fun o => o.term == t) := by
  induction I with
  | nil => rfl
  | cons f r ih =>
    rw [show evsI F (f :: r) = evsI F [f] ++ evsI F r from evsI_append F [f] r, occs_append, ih,
      List.filter_cons]
    by_cases h : F.idxOf f.name = i <;> simp [occs, evsI, h, List.filter_map, Function.comp_def]

theorem cnt_eq_occs (E : List (Nat × TermOcc)) (i : Nat) (t : Bytes) :
    cnt E i t = (occs E i t).length := by
  simp [cnt, occs, List.countP_eq_length_filter]

theorem lsum_eq_occs (E : List (Nat × TermOcc)) (i : Nat) (t : Bytes) :
    lsum E i t = (tfOf (occs E i t)).locs.length := by
  induction E with
  | nil => simp [lsum, occs, tfOf]
  | cons e r ih =>
    have h1 : lsum (e :: r) i t = lsum [e] i t + lsum r i t := by rw [← lsum_append]; rfl
    have h2 : occs (e :: r) i t = occs [e] i t ++ occs r i t := by rw [← occs_append]; rfl
    obtain ⟨j, o⟩ := e
    rw [h1, h2, ih, lsum_single, occs_single]
    by_cases h : j = i ∧ o.term = t
    · simp [h, tfOf]
    · simp [h, tfOf]

structure RollOK (E : List (Nat × TermOcc)) (i : Nat) (m : AMap Bytes TokFreq) : Prop where
  nodup : (m.map (·.1)).Nodup
  get : ∀ t, aget m t = if occs E i t = [] then none else some (tfOf (occs E i t))

theorem RollOK.eq_tfOf {E : List (Nat × TermOcc)} {i : Nat} {m : AMap Bytes TokFreq} (h : RollOK E i m)
    {t : Bytes} {tf : TokFreq} (hg : aget m t = some tf) : tf = tfOf (occs E i t) := by
  have := h.get t
  rw [hg] at this
  split at this
  · exact absurd this (by simp)
  · exact Option.some.inj this

theorem RollOK.occs_nil {E : List (Nat × TermOcc)} {i : Nat} {m : AMap Bytes TokFreq} (h : RollOK E i m)
    {t : Bytes} (hg : aget m t = none) : occs E i t = [] := by
  have := h.get t
  rw [hg] at this
  split at this
  · assumption
  · cases this

theorem RollOK.isSome_iff {E : List (Nat × TermOcc)} {i : Nat} {m : AMap Bytes TokFreq} (h : RollOK E i m)
    (t : Bytes) : (aget m t).isSome ↔ 0 < cnt E i t := by
  rw [h.get t, cnt_eq_occs, List.length_pos_iff]
  split <;> simp [*]

theorem tfOf_snoc (os : List TermOcc) (o : TermOcc) :
    tfOf (os ++ [o]) = { freq := (tfOf os).freq + o.freq, locs := (tfOf os).locs ++ o.locs } := by
  simp [tfOf, List.sum_append]

/-- one occurrence rolled up, new.go:481-511 after commit 6eca540 -/
theorem visitTerm_eq {E : List (Nat × TermOcc)} {i : Nat} {m : AMap Bytes TokFreq}
    (h : RollOK E i m) (fname : Bytes) (o : TermOcc) :
    visitTerm false fname m o = aset m o.term (tfOf (occs E i o.term ++ [o])) := by
  unfold visitTerm
  cases hg : aget m o.term with
  | some tf => simp only [Bool.false_eq_true, if_false, tfOf_snoc, ← h.eq_tfOf hg]
  | none => simp only [h.occs_nil hg, List.nil_append, tfOf, List.map_singleton, List.sum_singleton,
      List.flatMap_singleton]

theorem visitTerm_ok {E : List (Nat × TermOcc)} {i : Nat} {m : AMap Bytes TokFreq}
    (h : RollOK E i m) (fname : Bytes) (o : TermOcc) :
    RollOK (E ++ [(i, o)]) i (visitTerm false fname m o) := by
  rw [visitTerm_eq h]
  refine ⟨?_, fun t => ?_⟩
  · rw [map_fst_aset]
    split
    · exact h.nodup
    · next hk => exact nodup_snoc h.nodup hk
  · rw [aget_aset, occs_append, occs_single]
    by_cases e : t = o.term
    · subst e; simp
    · rw [if_neg e, if_neg (fun e' : i = i ∧ o.term = t => e e'.2.symm), List.append_nil]
      exact h.get t

theorem visitTerms_ok (fname : Bytes) (os : List TermOcc) {E : List (Nat × TermOcc)} {i : Nat}
    {m : AMap Bytes TokFreq} (h : RollOK E i m) :
    RollOK (E ++ os.map (fun o => (i, o))) i (os.foldl (visitTerm false fname) m) := by
  induction os using snoc_induction with
  | nil => rw [List.map_nil, List.append_nil]; exact h
  | snoc l o ih =>
    rw [foldl_snoc, List.map_append, ← List.append_assoc]
    exact visitTerm_ok ih fname o

theorem occs_other (E : List (Nat × TermOcc)) (os : List TermOcc) {i j : Nat} (h : j ≠ i) (t : Bytes) :
    occs (E ++ os.map (fun o => (j, o))) i t = occs E i t := by
  rw [occs_append]
  have : occs (os.map (fun o => (j, o))) i t = [] := by
    simp only [occs, List.map_eq_nil_iff, List.filter_eq_nil_iff, List.mem_map]
    rintro e ⟨o, _, rfl⟩
    simp [h]
  rw [this, List.append_nil]

theorem RollOK.other {E : List (Nat × TermOcc)} {i : Nat} {m : AMap Bytes TokFreq} (h : RollOK E i m)
    (os : List TermOcc) {j : Nat} (hj : j ≠ i) : RollOK (E ++ os.map (fun o => (j, o))) i m :=
  ⟨h.nodup, fun t => by rw [occs_other E os hj t]; exact h.get t⟩

theorem rollTFs_ok (F : List Bytes) (d : Doc) (i : Nat) (hi : i < F.length) :
    RollOK (evsI F d) i (lget (rollTFs false F d) i) := by
  induction d using snoc_induction generalizing i with
  | nil =>
    rw [rollTFs, List.foldl_nil, lget_replicate_nil]
    exact ⟨List.nodup_nil, fun t => rfl⟩
  | snoc I f ih =>
    have hev : evsI F [f] = f.terms.map (fun o => (F.idxOf f.name, o)) := by simp [evsI]
    rw [rollTFs_snoc, evsI_append, hev, lget_set, length_rollTFs]
    by_cases e : F.idxOf f.name = i
    · subst e
      rw [if_pos ⟨rfl, hi⟩]
      exact visitTerms_ok f.name f.terms (ih _ hi)
    · rw [if_neg (fun h => e h.1)]
      exact (ih i hi).other f.terms e

theorem rollLens_eq (F : List Bytes) (d : Doc) (i : Nat) (hi : i < F.length) :
    nget (rollLens F d) i = freqSum F d i := by
  induction d using snoc_induction with
  | nil => rw [rollLens, List.foldl_nil, nget, getD_replicate]; rfl
  | snoc I f ih =>
    rw [rollLens_snoc, nget_set, length_rollLens, freqSum, List.map_append, List.sum_append, ← freqSum, ← ih]
    by_cases e : F.idxOf f.name = i
    · subst e; simp [hi]
    · simp [e]

end Ice.Model.Builder
