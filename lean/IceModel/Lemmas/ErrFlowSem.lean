import IceModel.Lemmas.ErrFlowSyntax
/-
  Error flow, part 2 (semantics): a nondeterministic execution relation for error-flow skeletons
  that knows neither conditions nor loop counts, and the central lemma: in a program in which every
  call is immediately checked, an execution that starts with a nil error variable either sees no
  failing call, or stops at the first one and returns a non-nil error.
-/
namespace Ice.ErrFlow
open Ice.Bridge.ErrFlow

/-- callees that never return a nil error: the error constructors.  `fmt.Errorf` is the only one the
    package binds with `F` inside a check (`if err != nil { return fmt.Errorf("…: %w", err) }`). -/
def alwaysFails (c : String) : Bool := c == "Errorf"

/-- one executed call: was its error result discarded by the code (`D`), its callee, did it fail -/
structure Step where
  dropped : Bool
  callee : String
  failed : Bool
  deriving Repr, DecidableEq

/-- how the execution of a statement list ends: it falls off its end, it returns, or a jump is under
    way; `e` is the state of the error variable (`true` = non-nil) -/
inductive Out where
  | norm (e : Bool)
  | ret (nonNil : Bool)
  | jump (e : Bool)
  deriving Repr, DecidableEq

/-- `Exec e p tr o`: started with error variable `e`, the statement list `p` can execute the calls
    `tr` (in this order) and end as `o`.  The derivation is the oracle: it picks for every call whether
    it fails (`callOk`/`callFail`, `drop b`), for every unguarded block whether it is skipped, run, or
    run again (`blockSkip`, `blockNorm`), where a jump lands, and what a `return <expr>` yields while the
    error variable is nil (`retOther`).  Only `{:err` is deterministic: entered iff the error variable
    is non-nil (`guardSkip` needs `e = false`, every rule entering a guarded block needs `e = true`). -/
inductive Exec : Bool → List Stmt → List Step → Out → Prop
  | nil {e} : Exec e [] [] (.norm e)
  /-- a bound call succeeds: the error variable becomes nil (not possible for an error constructor) -/
  | callOk {e c rest tr o} : alwaysFails c = false → Exec false rest tr o →
      Exec e (.call c :: rest) (⟨false, c, false⟩ :: tr) o
  /-- a bound call fails: the error variable becomes non-nil -/
  | callFail {e c rest tr o} : Exec true rest tr o →
      Exec e (.call c :: rest) (⟨false, c, true⟩ :: tr) o
  /-- a call whose error is discarded: fails or not, the error variable is untouched -/
  | drop {e c rest tr o} (b : Bool) : Exec e rest tr o →
      Exec e (.drop c :: rest) (⟨true, c, b⟩ :: tr) o
  | retNil {e rest} : Exec e (.ret false :: rest) [] (.ret false)
  /-- `return …, err` with a non-nil error variable returns a non-nil error -/
  | retErr {rest} : Exec true (.ret true :: rest) [] (.ret true)
  /-- `return …, <expr>` while the error variable is nil: anything (a sentinel error, a nil `err`, …) -/
  | retOther {rest} (b : Bool) : Exec false (.ret true :: rest) [] (.ret b)
  /-- break / continue / goto: leaves the statement list … -/
  | jump {e rest} : Exec e (.jump :: rest) [] (.jump e)
  /-- … or (forward goto) lands on a later statement of the same list -/
  | jumpResume {e rest rest' tr o} : rest' <:+ rest → Exec e rest' tr o →
      Exec e (.jump :: rest) tr o
  /-- `if err != nil { … }` with a nil error variable: not entered -/
  | guardSkip {body rest tr o} : Exec false rest tr o → Exec false (.block true body :: rest) tr o
  /-- `if err != nil { … }` with a non-nil error variable: entered, and left at its end -/
  | guardNorm {body rest tr1 tr2 e' o} : Exec true body tr1 (.norm e') → Exec e' rest tr2 o →
      Exec true (.block true body :: rest) (tr1 ++ tr2) o
  /-- any other block (if / else / for / range / switch / case): not entered, or not entered again -/
  | blockSkip {e body rest tr o} : Exec e rest tr o → Exec e (.block false body :: rest) tr o
  /-- … its body runs to its end, and then the block is considered again (0 or more further rounds) -/
  | blockNorm {e body rest tr1 tr2 e' o} : Exec e body tr1 (.norm e') →
      Exec e' (.block false body :: rest) tr2 o →
      Exec e (.block false body :: rest) (tr1 ++ tr2) o
  /-- a `return` inside a block (guarded blocks only with a non-nil error variable) -/
  | blockRet {e g body rest tr b} : (g = true → e = true) → Exec e body tr (.ret b) →
      Exec e (.block g body :: rest) tr (.ret b)
  /-- a jump inside a block leaves the enclosing list as well (labelled break/continue, break inside
      an `if`) … -/
  | blockJumpOut {e g body rest tr e'} : (g = true → e = true) → Exec e body tr (.jump e') →
      Exec e (.block g body :: rest) tr (.jump e')
  /-- … or starts the next round of this block (`continue`; then `blockSkip` = `break`) … -/
  | blockJumpLoop {e body rest tr1 tr2 e' o} : Exec e body tr1 (.jump e') →
      Exec e' (.block false body :: rest) tr2 o →
      Exec e (.block false body :: rest) (tr1 ++ tr2) o
  /-- … or lands on any later statement of the enclosing list (`break`, forward `goto`) -/
  | blockJumpResume {e g body rest rest' tr1 tr2 e' o} : (g = true → e = true) →
      Exec e body tr1 (.jump e') → rest' <:+ rest → Exec e' rest' tr2 o →
      Exec e (.block g body :: rest) (tr1 ++ tr2) o

inductive Result where
  | returned (errNonNil : Bool)
  | fellOff
  deriving Repr, DecidableEq

def Out.result : Out → Result
  | .ret b => .returned b
  | _ => .fellOff

/-- an execution of a function body: the error variable starts nil -/
def Run (p : Prog) (tr : List Step) (r : Result) : Prop := ∃ o, Exec false p tr o ∧ o.result = r

/-- a failure the code can observe: a bound (not discarded) call that failed -/
def Step.isFailure (s : Step) : Bool := !s.dropped && s.failed

def AnyFailed (tr : List Step) : Prop := ∃ s ∈ tr, s.isFailure = true
def NoFail (tr : List Step) : Prop := ∀ s ∈ tr, s.isFailure = false

instance (tr : List Step) : Decidable (AnyFailed tr) := by unfold AnyFailed; infer_instance
instance (tr : List Step) : Decidable (NoFail tr) := by unfold NoFail; infer_instance

theorem noFail_iff_not_anyFailed (tr : List Step) : NoFail tr ↔ ¬ AnyFailed tr := by
  simp [NoFail, AnyFailed]

/-- the execution stops at its first failure: the failing call `c` is the last call made, except
    possibly for a wrapper call `w` with `W w` that also "fails" (builds the error to return) -/
def FailFastW (W : String → Prop) (tr : List Step) : Prop :=
  ∃ pre c wrap, tr = pre ++ ⟨false, c, true⟩ :: wrap ∧ NoFail pre ∧
    (wrap = [] ∨ ∃ w, W w ∧ wrap = [⟨false, w, true⟩])

/-- … the wrapper being an error constructor (`fmt.Errorf`) -/
def FailFast (tr : List Step) : Prop := FailFastW (fun w => alwaysFails w = true) tr

theorem NoFail.nil : NoFail [] := by simp [NoFail]
theorem NoFail.cons {s : Step} {tr : List Step} (hs : s.isFailure = false) (h : NoFail tr) :
    NoFail (s :: tr) := by
  intro x hx
  rcases List.mem_cons.1 hx with rfl | hx
  · exact hs
  · exact h x hx
theorem NoFail.append {a b : List Step} (ha : NoFail a) (hb : NoFail b) : NoFail (a ++ b) := by
  intro x hx
  rcases List.mem_append.1 hx with hx | hx
  · exact ha x hx
  · exact hb x hx

theorem FailFastW.cons {W : String → Prop} {s : Step} {tr : List Step} (hs : s.isFailure = false)
    (h : FailFastW W tr) : FailFastW W (s :: tr) := by
  obtain ⟨pre, c, wrap, rfl, hp, hw⟩ := h
  exact ⟨s :: pre, c, wrap, by simp, hp.cons hs, hw⟩
theorem FailFastW.append {W : String → Prop} {a tr : List Step} (ha : NoFail a)
    (h : FailFastW W tr) : FailFastW W (a ++ tr) := by
  obtain ⟨pre, c, wrap, rfl, hp, hw⟩ := h
  exact ⟨a ++ pre, c, wrap, by simp, ha.append hp, hw⟩
theorem FailFastW.anyFailed {W : String → Prop} {tr : List Step} (h : FailFastW W tr) :
    AnyFailed tr := by
  obtain ⟨pre, c, wrap, rfl, _, _⟩ := h
  exact ⟨⟨false, c, true⟩, by simp, rfl⟩
theorem FailFastW.mono {W W' : String → Prop} (hW : ∀ w, W w → W' w) {tr : List Step}
    (h : FailFastW W tr) : FailFastW W' tr := by
  obtain ⟨pre, c, wrap, rfl, hp, hw⟩ := h
  refine ⟨pre, c, wrap, rfl, hp, ?_⟩
  rcases hw with hw | ⟨w, h1, h2⟩
  · exact Or.inl hw
  · exact Or.inr ⟨w, hW w h1, h2⟩
/-- without wrappers, the failing call is literally the last call -/
theorem FailFastW.nowrap {tr : List Step} (h : FailFastW (fun _ => False) tr) :
    ∃ pre c, tr = pre ++ [⟨false, c, true⟩] ∧ NoFail pre := by
  obtain ⟨pre, c, wrap, rfl, hp, hw⟩ := h
  rcases hw with rfl | ⟨_, h1, _⟩
  · exact ⟨pre, c, rfl, hp⟩
  · exact h1.elim

/-- the wrapper call of the check that follows a call, if it has one -/
def wrapOf : List Stmt → Option String
  | .block true [.call w, .ret true] :: _ => some w
  | _ => none

mutual
def wrappersStmt : Stmt → List String
  | .block _ body => wrappers body
  | _ => []
/-- the callees `w` of all checks of the form `F … {:err F w R err }` -/
def wrappers : List Stmt → List String
  | [] => []
  | s :: rest =>
    (match s with
      | .call _ => (wrapOf rest).toList
      | _ => []) ++ wrappersStmt s ++ wrappers rest
end

/-- every call is immediately checked (`uncheckedS p = []`, i.e. the bridge's `unchecked` is empty on
    the flat form) and every wrapping check wraps with a callee satisfying `W` -/
def DiscW (W : String → Prop) (p : Prog) : Prop := uncheckedS p = [] ∧ ∀ w ∈ wrappers p, W w

/-- … with an error constructor -/
def Disc (p : Prog) : Prop := uncheckedS p = [] ∧ ∀ w ∈ wrappers p, alwaysFails w = true

instance (p : Prog) : Decidable (Disc p) := by unfold Disc; infer_instance

theorem disc_iff_discW (p : Prog) : Disc p ↔ DiscW (fun w => alwaysFails w = true) p := Iff.rfl

theorem DiscW.nil {W : String → Prop} : DiscW W [] := by simp [DiscW, uncheckedS, wrappers]

theorem DiscW.tail {W : String → Prop} {s : Stmt} {rest : Prog} (h : DiscW W (s :: rest)) :
    DiscW W rest := by
  obtain ⟨h1, h2⟩ := h
  simp only [uncheckedS, List.append_eq_nil_iff] at h1
  refine ⟨h1.2, fun w hw => h2 w ?_⟩
  simp only [wrappers, List.mem_append]
  exact Or.inr hw

theorem DiscW.body {W : String → Prop} {g : Bool} {body rest : Prog}
    (h : DiscW W (.block g body :: rest)) : DiscW W body := by
  obtain ⟨h1, h2⟩ := h
  simp only [uncheckedS, uncheckedStmt, List.append_eq_nil_iff] at h1
  refine ⟨h1.1.2, fun w hw => h2 w ?_⟩
  simp only [wrappers, wrappersStmt, List.mem_append]
  exact Or.inl (Or.inr hw)

theorem DiscW.suffix {W : String → Prop} {p q : Prog} (h : DiscW W p) (hs : q <:+ p) :
    DiscW W q := by
  obtain ⟨t, rfl⟩ := hs
  induction t with
  | nil => simpa using h
  | cons s t ih => exact ih (DiscW.tail h)

/-- what a disciplined program has after a call -/
inductive CheckShape (W : String → Prop) : List Stmt → Prop
  | direct {rest} : CheckShape W (.ret true :: rest)
  | guarded {rest} : CheckShape W (.block true [.ret true] :: rest)
  | wrapped {w rest} : W w → CheckShape W (.block true [.call w, .ret true] :: rest)

theorem DiscW.check {W : String → Prop} {c : String} {rest : Prog}
    (h : DiscW W (.call c :: rest)) : CheckShape W rest := by
  obtain ⟨h1, h2⟩ := h
  simp only [uncheckedS, uncheckedStmt, List.append_eq_nil_iff] at h1
  have hc : checkedNext rest = true := by
    by_cases hc : checkedNext rest = true
    · exact hc
    · simp [hc] at h1
  have hw : ∀ w, wrapOf rest = some w → W w := by
    intro w hw
    apply h2
    simp [wrappers, hw]
  unfold checkedNext at hc
  split at hc
  · exact .direct
  · exact .guarded
  · exact .wrapped (hw _ (by simp [wrapOf]))
  · cases hc

/-- with a non-nil error variable, a check returns a non-nil error, after at most the wrapper call -/
theorem exec_check {W : String → Prop} (hW : ∀ w, W w → alwaysFails w = true) {rest : Prog}
    (hc : CheckShape W rest) {tr : List Step} {o : Out} (h : Exec true rest tr o) :
    o = .ret true ∧ (tr = [] ∨ ∃ w, W w ∧ tr = [⟨false, w, true⟩]) := by
  cases hc with
  | direct => cases h; exact ⟨rfl, Or.inl rfl⟩
  | guarded =>
    cases h with
    | guardNorm hb _ => cases hb
    | blockRet _ hb => cases hb; exact ⟨rfl, Or.inl rfl⟩
    | blockJumpOut _ hb => cases hb
    | blockJumpResume _ hb _ _ => cases hb
  | wrapped hw =>
    rename_i w _
    have key : ∀ {tr o}, Exec true [.call w, .ret true] tr o →
        o = .ret true ∧ tr = [⟨false, w, true⟩] := by
      intro tr o hb
      cases hb with
      | callOk hn _ => rw [hW w hw] at hn; cases hn
      | callFail hr => cases hr; exact ⟨rfl, rfl⟩
    cases h with
    | guardNorm hb _ => cases (key hb).1
    | blockRet _ hb => obtain ⟨ho, ht⟩ := key hb; exact ⟨ho, Or.inr ⟨w, hw, ht⟩⟩
    | blockJumpOut _ hb => cases (key hb).1
    | blockJumpResume _ hb _ _ => cases (key hb).1

/-- an outcome that carries no pending error -/
def Out.clean : Out → Prop
  | .norm e => e = false
  | .jump e => e = false
  | .ret _ => True

/-- how an execution of a disciplined program ends: without a failure and without a pending error, or at
    its first failure, returning it -/
def Ends (W : String → Prop) (tr : List Step) (o : Out) : Prop :=
  (NoFail tr ∧ o.clean) ∨ (FailFastW W tr ∧ o = .ret true)

theorem Ends.cons {W : String → Prop} {s : Step} {tr : List Step} {o : Out} (hs : s.isFailure = false)
    (h : Ends W tr o) : Ends W (s :: tr) o :=
  h.imp (fun h => ⟨h.1.cons hs, h.2⟩) (fun h => ⟨h.1.cons hs, h.2⟩)

/-- a first part that does not return, then a second part started from the state the first one left -/
theorem Ends.seq {W : String → Prop} {tr1 tr2 : List Step} {o1 o : Out} (h1 : Ends W tr1 o1)
    (hne : o1 ≠ .ret true) (h2 : o1.clean → Ends W tr2 o) : Ends W (tr1 ++ tr2) o := by
  rcases h1 with ⟨n1, c1⟩ | ⟨_, r⟩
  · exact (h2 c1).imp (fun h => ⟨n1.append h.1, h.2⟩) (fun h => ⟨h.1.append n1, h.2⟩)
  · exact absurd r hne

/-- central lemma: started with a nil error variable, a disciplined program stops at its first failure -/
theorem exec_discW {W : String → Prop} (hW : ∀ w, W w → alwaysFails w = true)
    {e : Bool} {p : Prog} {tr : List Step} {o : Out} (h : Exec e p tr o) :
    e = false → DiscW W p → Ends W tr o := by
  induction h with
  | nil => intro he _; exact Or.inl ⟨NoFail.nil, he⟩
  | callOk _ _ ih => intro _ hd; exact (ih rfl hd.tail).cons rfl
  | callFail hr _ =>
    intro _ hd
    obtain ⟨ho, ht⟩ := exec_check hW hd.check hr
    exact Or.inr ⟨⟨[], _, _, rfl, NoFail.nil, ht⟩, ho⟩
  | drop b _ ih => intro he hd; exact (ih he hd.tail).cons rfl
  | retNil => intro _ _; exact Or.inl ⟨NoFail.nil, trivial⟩
  | retErr => intro he; cases he
  | retOther b => intro _ _; exact Or.inl ⟨NoFail.nil, trivial⟩
  | jump => intro he _; exact Or.inl ⟨NoFail.nil, he⟩
  | jumpResume hs _ ih => intro he hd; exact ih he (hd.tail.suffix hs)
  | guardSkip _ ih => intro he hd; exact ih he hd.tail
  | guardNorm _ _ _ _ => intro he; cases he
  | blockSkip _ ih => intro he hd; exact ih he hd.tail
  | blockNorm _ _ ih1 ih2 => intro he hd; exact (ih1 he hd.body).seq nofun fun h2 => ih2 h2 hd
  | blockRet hg _ ih => intro he hd; exact ih he hd.body
  | blockJumpOut hg _ ih => intro he hd; exact ih he hd.body
  | blockJumpLoop _ _ ih1 ih2 => intro he hd; exact (ih1 he hd.body).seq nofun fun h2 => ih2 h2 hd
  | blockJumpResume hg _ hs _ ih1 ih2 =>
    intro he hd; exact (ih1 he hd.body).seq nofun fun h2 => ih2 h2 (hd.tail.suffix hs)

/-- … for error-constructor wrappers -/
theorem exec_disc {e : Bool} {p : Prog} {tr : List Step} {o : Out} (h : Exec e p tr o)
    (he : e = false) (hd : Disc p) : (NoFail tr ∧ o.clean) ∨ (FailFast tr ∧ o = .ret true) :=
  exec_discW (fun _ h => h) h he hd

/-- … and for programs without wrapping checks -/
theorem exec_disc_nowrap {e : Bool} {p : Prog} {tr : List Step} {o : Out} (h : Exec e p tr o)
    (he : e = false) (hu : uncheckedS p = []) (hw : wrappers p = []) :
    (NoFail tr ∧ o.clean) ∨ (FailFastW (fun _ => False) tr ∧ o = .ret true) :=
  exec_discW (fun _ h => h.elim) h he ⟨hu, by simp [hw]⟩

def Step.forget (s : Step) : Step := if s.dropped then { s with failed := false } else s

theorem Step.forget_bound {c : String} {b : Bool} {s : Step} (h : s.forget = (⟨false, c, b⟩ : Step).forget) :
    s = ⟨false, c, b⟩ := by
  obtain ⟨d, c', b'⟩ := s
  cases d <;> simp_all [Step.forget]

theorem Step.forget_dropped {c : String} {b : Bool} {s : Step} (h : s.forget = (⟨true, c, b⟩ : Step).forget) :
    ∃ b', s = ⟨true, c, b'⟩ := by
  obtain ⟨d, c', b'⟩ := s
  cases d <;> simp_all [Step.forget]

/-- whether discarded calls fail has no influence whatsoever on an execution -/
theorem exec_forget {e : Bool} {p : Prog} {tr : List Step} {o : Out} (h : Exec e p tr o) :
    ∀ tr' : List Step, tr'.map Step.forget = tr.map Step.forget → Exec e p tr' o := by
  induction h with
  | nil => intro tr' h; simp at h; subst h; exact .nil
  | callOk hc _ ih =>
    intro tr' h
    cases tr' with
    | nil => simp at h
    | cons s t =>
      simp only [List.map_cons, List.cons.injEq] at h
      rw [Step.forget_bound h.1]; exact .callOk hc (ih t h.2)
  | callFail _ ih =>
    intro tr' h
    cases tr' with
    | nil => simp at h
    | cons s t =>
      simp only [List.map_cons, List.cons.injEq] at h
      rw [Step.forget_bound h.1]; exact .callFail (ih t h.2)
  | drop b _ ih =>
    intro tr' h
    cases tr' with
    | nil => simp at h
    | cons s t =>
      simp only [List.map_cons, List.cons.injEq] at h
      obtain ⟨b', rfl⟩ := Step.forget_dropped h.1
      exact .drop b' (ih t h.2)
  | retNil => intro tr' h; simp at h; subst h; exact .retNil
  | retErr => intro tr' h; simp at h; subst h; exact .retErr
  | retOther b => intro tr' h; simp at h; subst h; exact .retOther b
  | jump => intro tr' h; simp at h; subst h; exact .jump
  | jumpResume hs _ ih => intro tr' h; exact .jumpResume hs (ih tr' h)
  | guardSkip _ ih => intro tr' h; exact .guardSkip (ih tr' h)
  | guardNorm _ _ ih1 ih2 =>
    intro tr' h
    rw [List.map_append, List.map_eq_append_iff] at h
    obtain ⟨a, b, rfl, ha, hb⟩ := h
    exact .guardNorm (ih1 a ha) (ih2 b hb)
  | blockSkip _ ih => intro tr' h; exact .blockSkip (ih tr' h)
  | blockNorm _ _ ih1 ih2 =>
    intro tr' h
    rw [List.map_append, List.map_eq_append_iff] at h
    obtain ⟨a, b, rfl, ha, hb⟩ := h
    exact .blockNorm (ih1 a ha) (ih2 b hb)
  | blockRet hg _ ih => intro tr' h; exact .blockRet hg (ih tr' h)
  | blockJumpOut hg _ ih => intro tr' h; exact .blockJumpOut hg (ih tr' h)
  | blockJumpLoop _ _ ih1 ih2 =>
    intro tr' h
    rw [List.map_append, List.map_eq_append_iff] at h
    obtain ⟨a, b, rfl, ha, hb⟩ := h
    exact .blockJumpLoop (ih1 a ha) (ih2 b hb)
  | blockJumpResume hg _ hs _ ih1 ih2 =>
    intro tr' h
    rw [List.map_append, List.map_eq_append_iff] at h
    obtain ⟨a, b, rfl, ha, hb⟩ := h
    exact .blockJumpResume hg (ih1 a ha) hs (ih2 b hb)

end Ice.ErrFlow
