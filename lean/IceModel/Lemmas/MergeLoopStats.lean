import IceModel.Lemmas.MergeLoopSpec
/-
  Counting lemmas behind the merged statistics (C16): bitmaps as sorted sets, exchanging the
  order of summation between terms and documents; the 1-hit decision of `finishTerm`.
-/
namespace Ice.Model.MergeLoop
open Ice Ice.Spec

theorem sorted_bmAdd (x : Nat) (r : List Nat) (h : r.Pairwise (· < ·)) :
    (bmAdd x r).Pairwise (· < ·) := by
  induction r with
  | nil => simp [bmAdd]
  | cons z r ih =>
    have hz := List.pairwise_cons.1 h
    simp only [bmAdd]
    split
    · next hlt =>
      refine List.pairwise_cons.2 ⟨?_, h⟩
      intro b hb
      rcases List.mem_cons.1 hb with rfl | hb
      · exact hlt
      · exact Nat.lt_trans hlt (hz.1 b hb)
    · split
      · exact h
      · next h1 h2 =>
        refine List.pairwise_cons.2 ⟨?_, ih hz.2⟩
        intro b hb
        rcases (mem_bmAdd x b r).1 hb with rfl | hb
        · exact Nat.lt_of_le_of_ne (Nat.le_of_not_lt h1) (Ne.symm h2)
        · exact hz.1 b hb

theorem sorted_bmAddAll (xs r : List Nat) (h : r.Pairwise (· < ·)) :
    (bmAddAll xs r).Pairwise (· < ·) := by
  induction xs generalizing r with
  | nil => exact h
  | cons x xs ih => exact ih _ (sorted_bmAdd x r h)

theorem bmAddAll_sorted (xs : List Nat) (h : xs.Pairwise (· < ·)) : bmAddAll xs [] = xs :=
  have hs := sorted_bmAddAll xs [] List.Pairwise.nil
  List.Perm.eq_of_pairwise (fun _ _ _ _ hab hba => absurd hab (Nat.lt_asymm hba)) hs h
    ((List.perm_ext_iff_of_nodup (hs.imp Nat.ne_of_lt) (h.imp Nat.ne_of_lt)).2 fun y => by
      rw [mem_bmAddAll]; simp)

theorem sum_map_zero {α : Type} (l : List α) : (l.map (fun _ => 0)).sum = 0 := by
  rw [List.map_const', List.sum_replicate_nat, Nat.mul_zero]

theorem sum_map_add {α : Type} (l : List α) (x y : α → Nat) :
    (l.map (fun a => x a + y a)).sum = (l.map x).sum + (l.map y).sum := by
  induction l with
  | nil => rfl
  | cons a r ih => simp only [List.map_cons, List.sum_cons, ih, Nat.add_add_add_comm]

theorem sum_swap {α β : Type} (T : List α) (D : List β) (a : β → α → Nat) :
    (T.map (fun t => (D.map (fun d => a d t)).sum)).sum =
      (D.map (fun d => (T.map (fun t => a d t)).sum)).sum := by
  induction T with
  | nil => simp [sum_map_zero]
  | cons t T ih =>
    simp only [List.map_cons, List.sum_cons, ih, sum_map_add]

theorem sum_indicator (T : List Bytes) (a : Bytes) (c : Nat) (hn : T.Nodup) :
    (T.map (fun t => if t = a then c else 0)).sum = if a ∈ T then c else 0 := by
  induction T with
  | nil => rfl
  | cons t T ih =>
    have hnd := List.nodup_cons.1 hn
    simp only [List.map_cons, List.sum_cons, ih hnd.2, List.mem_cons]
    by_cases h : t = a
    · subst h
      simp [hnd.1]
    · have : ¬ a = t := fun e => h e.symm
      simp [h, this]

/-- frequency of term `t` in field `f` of document `d` (0 if absent) -/
def freqOf (d : ADoc) (f t : Bytes) : Nat :=
  match postingOf d 0 f t with
  | some p => p.freq
  | none => 0

theorem sum_postings_freq (s : AbsSeg) (f t : Bytes) :
    ((postings s f t).map (·.freq)).sum = (s.docs.map (fun d => freqOf d f t)).sum := by
  unfold postings
  have : ∀ (L : List (ADoc × Nat)),
      ((L.filterMap (fun q => postingOf q.1 q.2 f t)).map (·.freq)).sum =
        (L.map (fun q => freqOf q.1 f t)).sum := by
    intro L
    induction L with
    | nil => rfl
    | cons q L ih =>
      have hq := postingOf_renumber q.1 0 q.2 f t
      have hf : freqOf q.1 f t = match postingOf q.1 0 f t with
          | some p => p.freq
          | none => 0 := rfl
      simp only [List.filterMap_cons, List.map_cons, List.sum_cons, hq, hf]
      cases postingOf q.1 0 f t with
      | none => simpa using ih
      | some p => simp [ih]
  rw [this]
  congr 1
  apply List.ext_getElem?
  intro i
  simp only [List.getElem?_map, List.getElem?_zipIdx]
  cases s.docs[i]? <;> rfl

theorem sum_find_freq (xs : List ATerm) (T : List Bytes) (hT : T.Nodup)
    (hx : (xs.map (·.term)).Nodup) (hsub : ∀ x ∈ xs, x.term ∈ T) :
    (T.map (fun t => match xs.find? (fun x => x.term == t) with
                     | some x => x.freq
                     | none => 0)).sum = (xs.map (·.freq)).sum := by
  induction xs with
  | nil => simp [sum_map_zero]
  | cons x r ih =>
    simp only [List.map_cons] at hx
    have hnd := List.nodup_cons.1 hx
    have hpt : ∀ t ∈ T, (match (x :: r).find? (fun y => y.term == t) with
        | some y => y.freq
        | none => 0) = (if t = x.term then x.freq else 0) +
          (match r.find? (fun y => y.term == t) with
           | some y => y.freq
           | none => 0) := by
      intro t _
      simp only [List.find?_cons]
      by_cases h : x.term = t
      · subst h
        have : r.find? (fun y => y.term == x.term) = none := by
          rw [List.find?_eq_none]
          intro y hy hyt
          exact hnd.1 (List.mem_map.2 ⟨y, hy, by simpa using hyt⟩)
        simp [this]
      · have h' : ¬ t = x.term := fun e => h e.symm
        have hb : (x.term == t) = false := by simpa using h
        simp [hb, h']
    rw [List.map_congr_left hpt, sum_map_add, sum_indicator T x.term x.freq hT,
      ih hnd.2 (fun y hy => hsub y (by simp [hy]))]
    simp [hsub x (by simp)]

/-- no field of a document lists a term twice (what `rollTerms` produces) -/
def TermsNodupDocs (docs : List ADoc) (f : Bytes) : Prop :=
  ∀ d ∈ docs, ∀ af, d.field? f = some af → (af.terms.map (·.term)).Nodup

theorem sum_freqOf_doc (d : ADoc) (f : Bytes) (T : List Bytes) (hT : T.Nodup)
    (hd : ∀ af, d.field? f = some af → (af.terms.map (·.term)).Nodup)
    (hsub : ∀ t ∈ docTerms d f, t ∈ T) :
    (T.map (fun t => freqOf d f t)).sum = fieldTermFreq d f := by
  have hfo : ∀ t, freqOf d f t = match d.field? f with
      | none => 0
      | some af => match af.terms.find? (fun x => x.term == t) with
        | some x => x.freq
        | none => 0 := by
    intro t
    unfold freqOf postingOf
    cases d.field? f with
    | none => rfl
    | some af =>
      simp only []
      cases af.terms.find? (fun x => x.term == t) <;> rfl
  simp only [hfo]
  unfold fieldTermFreq
  unfold docTerms at hsub
  cases hf : d.field? f with
  | none => simp [sum_map_zero]
  | some af =>
    simp only [hf] at hsub
    exact sum_find_freq af.terms T hT (hd af hf)
      (fun x hx => hsub x.term (List.mem_map.2 ⟨x, hx, rfl⟩))

theorem sum_terms_freq (s : AbsSeg) (f : Bytes) (T : List Bytes) (hT : T.Nodup)
    (hsub : ∀ t ∈ terms s f, t ∈ T) (hnd : TermsNodupDocs s.docs f) :
    (T.map (fun t => ((postings s f t).map (·.freq)).sum)).sum =
      (s.docs.map (fun d => fieldTermFreq d f)).sum := by
  simp only [sum_postings_freq]
  rw [sum_swap]
  refine congrArg _ (List.map_congr_left fun d hd => ?_)
  refine sum_freqOf_doc d f T hT (hnd d hd) fun t ht => hsub t ?_
  rw [terms_def, mem_sortDedup, List.mem_flatMap]
  exact ⟨d, hd, ht⟩

theorem fieldHasTerm_iff (d : ADoc) (f : Bytes) :
    fieldHasTerm d f = true ↔ ∃ t, t ∈ docTerms d f := by
  unfold fieldHasTerm docTerms
  cases d.field? f with
  | none => simp
  | some af =>
    show (!af.terms.isEmpty) = true ↔ ∃ t, t ∈ af.terms.map (·.term)
    rcases af.terms with _ | ⟨x, r⟩
    · simp
    · exact ⟨fun _ => ⟨x.term, by simp⟩, fun _ => rfl⟩

theorem length_docs_bitmap (s : AbsSeg) (f : Bytes) (T : List Bytes)
    (hsize : s.docs.length ≤ 2 ^ 32) (hsub : ∀ t ∈ terms s f, t ∈ T) :
    (bmAddAll (T.flatMap (fun t => (postings s f t).map (fun p => u32 p.doc))) []).length =
      s.docs.countP (fun d => fieldHasTerm d f) := by
  -- the bitmap and the numbers of the documents with a term are duplicate-free with the same members
  have hY : ((s.docs.zipIdx.filter (fun q => fieldHasTerm q.1 f)).map (·.2)).Nodup :=
    (List.pairwise_map.2 ((zipIdx_snd_lt s.docs 0).filter _)).imp Nat.ne_of_lt
  have hX := (sorted_bmAddAll (T.flatMap (fun t => (postings s f t).map (fun p => u32 p.doc))) []
    List.Pairwise.nil).imp Nat.ne_of_lt
  rw [← List.zipIdx_map_fst 0 s.docs, List.countP_map, List.countP_eq_length_filter]
  refine ((List.perm_ext_iff_of_nodup hX hY).2 fun y => ?_).length_eq.trans (List.length_map _)
  simp only [mem_bmAddAll, List.not_mem_nil, or_false, List.mem_flatMap, List.mem_map,
    List.mem_filter, Prod.exists, List.mk_mem_zipIdx_iff_getElem?, exists_eq_right]
  constructor
  · rintro ⟨t, _, p, hp, rfl⟩
    obtain ⟨d, hd, hpo⟩ := mem_postings.1 hp
    have hlt := (List.getElem?_eq_some_iff.1 hd).1
    rw [u32, Nat.mod_eq_of_lt (Nat.lt_of_lt_of_le hlt hsize)]
    exact ⟨d, hd, (fieldHasTerm_iff d f).2 ⟨t, (postingOf_isSome d p.doc f t).1 (by rw [hpo]; rfl)⟩⟩
  · rintro ⟨d, hd, hq⟩
    obtain ⟨t, ht⟩ := (fieldHasTerm_iff d f).1 hq
    obtain ⟨p, hp⟩ := Option.isSome_iff_exists.1 ((postingOf_isSome d y f t).2 ht)
    have hpd := postingOf_doc hp
    have hpm : p ∈ postings s f t :=
      mem_postings.2 ⟨d, by rw [hpd]; exact hd, by rw [hpd]; exact hp⟩
    have hlt := (List.getElem?_eq_some_iff.1 hd).1
    refine ⟨t, hsub t ((mem_terms_iff s f t).2 (List.ne_nil_of_mem hpm)), p, hpm, ?_⟩
    rw [hpd, u32, Nat.mod_eq_of_lt (Nat.lt_of_lt_of_le hlt hsize)]

/-! ### the 1-hit decision of `finishTerm` (merge.go:471-479) in terms of the entries of the term -/

/-- the new document numbers written for term `k` are strictly ascending and fit `uint32` -/
def DocsAsc (active : List Active) (k : Bytes) : Prop :=
  ((allItems (segsOf active k)).map (fun np => np.1)).Pairwise (· < ·) ∧
  ∀ np ∈ allItems (segsOf active k), np.1 < 2 ^ 32

/-- the last segment whose dictionary holds `k` still has a posting of `k` after the deletions -/
def LastHolderContributes (active : List Active) (k : Bytes) : Prop :=
  ∃ q, (segsOf active k).getLast? = some q ∧ q.2 ≠ []

theorem groupCur_roaring (cfg : Cfg) (active : List Active) (k : Bytes) (h : DocsAsc active k) :
    (groupCur cfg active k).roaring = (allItems (segsOf active k)).map (fun np => np.1) := by
  have : (allItems (segsOf active k)).map (fun np => u32 np.1) =
      (allItems (segsOf active k)).map (fun np => np.1) := by
    apply List.map_congr_left
    intro np hnp
    exact Nat.mod_eq_of_lt (h.2 np hnp)
  simp only [groupCur, this]
  exact bmAddAll_sorted _ h.1

theorem under32Bits_iff (d : Nat) : under32Bits d = true ↔ d < 2 ^ 31 := by
  unfold under32Bits mask31
  simp only [decide_eq_true_eq]
  exact Nat.le_sub_one_iff_lt (Nat.two_pow_pos 31)

/-- the last delivery of a term with exactly one item: it holds the item or nothing -/
theorem last_of_singleton {Q : List (Active × List Posting)} {q : Active × List Posting}
    {np : Nat × Posting} (hq : Q.getLast? = some q) (hits : allItems Q = [np]) :
    itemsOf q = [np] ∨ itemsOf q = [] := by
  obtain ⟨Q', rfl⟩ := List.getLast?_eq_some_iff.1 hq
  rw [allItems_append] at hits
  rcases hA : allItems Q' with _ | ⟨a, A⟩
  · rw [hA] at hits; exact Or.inl (by simpa [allItems] using hits)
  · rcases hB : itemsOf q with _ | ⟨b, B⟩
    · exact Or.inr rfl
    · rw [hA] at hits
      have := congrArg List.length hits
      simp [allItems, hB] at this

/-- the 1-hit decision for the term `k`, in terms of the entries written for it -/
theorem use1HitC_iff (cfg : Cfg) (active : List Active) (k : Bytes) (h : DocsAsc active k)
    (v : Nat) :
    use1HitC (groupCur cfg active k) = some v ↔
      ∃ p, (groupCur cfg active k).entries = [p] ∧ p.freq = 1 ∧ p.locs = [] ∧ p.doc < 2 ^ 31 ∧
        LastHolderContributes active k ∧ v = encode1Hit p.doc p.norm := by
  have hr := groupCur_roaring cfg active k h
  have hent : (groupCur cfg active k).entries =
      (allItems (segsOf active k)).map (encItem cfg.fieldsInv) := rfl
  have hloc : (groupCur cfg active k).locData =
      (allItems (segsOf active k)).any (fun np => !np.2.locs.isEmpty) := rfl
  rw [use1HitC, hr, hent, hloc]
  rcases hits : allItems (segsOf active k) with _ | ⟨np, _ | ⟨b, r⟩⟩
  · simp
  · -- one entry: the last holder decides
    rcases hq : (segsOf active k).getLast? with _ | q
    · rw [List.getLast?_eq_none_iff.1 hq] at hits; cases hits
    · have hlast : LastHolderContributes active k ↔ itemsOf q ≠ [] := by
        simp only [LastHolderContributes, hq, Option.some.injEq, exists_eq_left', itemsOf, ne_eq,
          List.map_eq_nil_iff]
      rcases last_of_singleton hq hits with hq1 | hq1
      · simp [groupCur, hq, hq1, hlast, under32Bits_iff, encItem, encPosting]
        constructor
        · rintro ⟨hl, ⟨h31, hf⟩, rfl⟩; exact ⟨hf, hl, h31, rfl⟩
        · rintro ⟨hf, hl, h31, rfl⟩; exact ⟨hl, ⟨h31, hf⟩, rfl⟩
      · simp [groupCur, hq, hq1, hlast]
  · simp

end Ice.Model.MergeLoop
