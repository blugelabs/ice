import IceModel.Model.Format
import IceModel.Lemmas.ChunkBytes
import IceModel.Lemmas.DocValues
import IceModel.Lemmas.Stored
import IceModel.Lemmas.Sort
import IceModel.Props.ChunkBytes
import IceModel.Props.C07
/-
  The container model (Model/Format.lean), writer side: the rule for the writer loop
  (`foldW_spec`), what `writeTerm` and `writeField` write on valid descriptions (`TermPost`,
  `FieldPost`), the fields section, and `serialize` inverted through `middle`, the part it shares
  with `convert`.
  The theorems of C04 take `serialize K L = .ok (data, footer)` as a hypothesis (a segment ice has
  written); the writer being a function, what the successful run wrote is what `writeField_spec`
  says it writes.  That `serialize` succeeds is `serialize_ok`, at the end.
-/
namespace Ice.Model.Format
open Ice Ice.Model
open Ice.Model.Writer (be unbe Footer)
open Ice.Model.ChunkBytes (Entry BLoc Coder tfAdds locAdds uvarintU64 Fresh TailZero)
open Ice.Model.DocValues (add64 sub64 maxUint64 At)

theorem bind_eq_ok {α β : Type} {x : Res α} {f : α → Res β} {b : β} (h : (x >>= f) = .ok b) :
    ∃ a, x = .ok a ∧ f a = .ok b :=
  ChunkBytes.bind_eq_ok.mp h

theorem u64_small {x : Nat} (h : x < 2 ^ 64) : u64 x = x := by
  unfold u64 two64; omega

theorem u64_lt (x : Nat) : u64 x < 2 ^ 64 := by
  unfold u64 two64; omega

/-- The rule for the writer loop: if every step from a state satisfying `I` succeeds, re-establishes
    `I` and has the property `Q` (of the element, the write position, the bytes and the output),
    the loop succeeds and keeps `I`, and the bytes split around every element's bytes such that `Q`
    holds at its position. -/
theorem foldW_spec {σ α β : Type} (step : σ → Nat → α → Res (σ × Bytes × β)) (I : σ → Prop)
    (Q : α → Nat → Bytes → β → Prop) (l : List α)
    (hstep : ∀ s c x, I s → x ∈ l → ∃ s' b o, step s c x = .ok (s', b, o) ∧ I s' ∧ Q x c b o) :
    ∀ (s : σ) (c : Nat), I s → ∃ s' B O, foldW step s c l = .ok (s', B, O) ∧ I s' ∧
      O.length = l.length ∧
      ∀ (i : Nat) (x : α), l[i]? = some x → ∃ Bpre b Bpost o, B = Bpre ++ b ++ Bpost ∧
        O[i]? = some o ∧ Q x (c + Bpre.length) b o := by
  induction l with
  | nil => intro s c hI; exact ⟨s, [], [], rfl, hI, rfl, fun i x hx => by simp at hx⟩
  | cons a r ih =>
    intro s c hI
    obtain ⟨s1, b, o, h1, hI1, hQ⟩ := hstep s c a hI (by simp)
    obtain ⟨s2, bs, os, h2, hI2, hlen, hel⟩ :=
      ih (fun s c x hI hx => hstep s c x hI (by simp [hx])) s1 (c + b.length) hI1
    refine ⟨s2, b ++ bs, o :: os, by simp only [foldW, h1, h2], hI2, by simp [hlen], ?_⟩
    intro i x hx
    cases i with
    | zero =>
      simp only [List.getElem?_cons_zero, Option.some.injEq] at hx
      subst hx
      exact ⟨[], b, bs, o, by simp, by simp, by simpa using hQ⟩
    | succ i =>
      simp only [List.getElem?_cons_succ] at hx
      obtain ⟨Bpre, b', Bpost, o', hB, hO, hQ'⟩ := hel i x hx
      refine ⟨b ++ Bpre, b', Bpost, o', by rw [hB]; simp, by simpa using hO, ?_⟩
      rw [List.length_append, ← Nat.add_assoc]; exact hQ'

theorem foldW_nil {σ α β : Type} (step : σ → Nat → α → Res (σ × Bytes × β)) (s : σ) (c : Nat) :
    foldW step s c ([] : List α) = .ok (s, [], []) := rfl

theorem foldW_length {σ α β : Type} {step : σ → Nat → α → Res (σ × Bytes × β)} :
    ∀ {l : List α} {s s' : σ} {c : Nat} {B : Bytes} {O : List β},
      foldW step s c l = .ok (s', B, O) → O.length = l.length
  | [], _, _, _, _, _, h => by
    rw [foldW_nil] at h
    cases h; rfl
  | a :: r, s, s', c, B, O, h => by
    unfold foldW at h
    split at h
    · split at h
      · rename_i hs2
        simp only [Res.ok.injEq, Prod.mk.injEq] at h
        rw [← h.2.2, List.length_cons, foldW_length hs2]; rfl
      · cases h
      · cases h
    · cases h
    · cases h

theorem forall_mem_of_index {α β : Type} {l : List α} {O : List β} {P : β → Prop}
    (hlen : O.length = l.length) (h : ∀ (i : Nat) x, l[i]? = some x → ∃ o, O[i]? = some o ∧ P o) :
    ∀ o ∈ O, P o := by
  intro o ho
  obtain ⟨i, hi⟩ := List.mem_iff_getElem?.mp ho
  have hil : i < l.length := hlen ▸ (List.getElem?_eq_some_iff.mp hi).1
  obtain ⟨o', ho', hp⟩ := h i l[i] (List.getElem?_eq_getElem hil)
  rw [hi] at ho'
  cases ho'
  exact hp

/-- postings in document order, inside the segment, every entry within the Go types -/
def EntriesOK (numDocs : Nat) (es : List Entry) : Prop :=
  (∀ e ∈ es, e.Valid) ∧ es.Pairwise (fun a b => a.doc < b.doc) ∧ ∀ e ∈ es, e.doc < numDocs

instance (numDocs : Nat) (es : List Entry) : Decidable (EntriesOK numDocs es) := by
  unfold EntriesOK; infer_instance

/-- a 1-hit description only in the merger, document and norm in 31 bits (`fSTValEncode1Hit`
    masks both; a norm with bit 31 set - a negative float32 - would lose that bit); a general
    description has at least one posting -/
def TermDesc.Valid (merger : Bool) (numDocs : Nat) : TermDesc → Prop
  | .oneHit d n => merger = true ∧ d < 2 ^ 31 ∧ n < 2 ^ 31 ∧ d < numDocs
  | .general es => es ≠ [] ∧ EntriesOK numDocs es

instance (merger : Bool) (numDocs : Nat) (t : TermDesc) : Decidable (t.Valid merger numDocs) := by
  cases t <;> unfold TermDesc.Valid <;> infer_instance

theorem TermDesc.Valid.entriesOK {merger : Bool} {numDocs : Nat} {t : TermDesc}
    (h : t.Valid merger numDocs) : EntriesOK numDocs t.entries := by
  cases t with
  | oneHit d n =>
    obtain ⟨_, hd, hn, hdn⟩ := h
    refine ⟨?_, by simp [TermDesc.entries], ?_⟩
    · intro e he
      simp only [TermDesc.entries, List.mem_singleton] at he
      subst he
      refine ⟨by show (1 : Nat) < 2 ^ 63; decide, by show n < 2 ^ 64; omega, by simp, by simp⟩
    · intro e he
      simp only [TermDesc.entries, List.mem_singleton] at he
      subst he; exact hdn
  | general es => exact h.2

theorem length_le_of_ascending (l : List Nat) (n : Nat) : ∀ k, k ≤ n → l.Pairwise (· < ·) →
    (∀ x ∈ l, k ≤ x) → (∀ x ∈ l, x < n) → l.length + k ≤ n := by
  induction l with
  | nil => intro k hk _ _ _; simpa using hk
  | cons a r ih =>
    intro k _ hp hk hn
    rw [List.pairwise_cons] at hp
    have hka := hk a (by simp)
    have han := hn a (by simp)
    have := ih (a + 1) han hp.2 (fun x hx => hp.1 x hx) (fun x hx => hn x (by simp [hx]))
    simp only [List.length_cons]; omega

theorem EntriesOK.length_le {numDocs : Nat} {es : List Entry} (h : EntriesOK numDocs es) :
    es.length ≤ numDocs := by
  have hp : (es.map (·.doc)).Pairwise (· < ·) := by
    rw [List.pairwise_map]; exact h.2.1
  simpa using length_le_of_ascending (es.map (·.doc)) numDocs 0 (Nat.zero_le _) hp
    (fun _ _ => Nat.zero_le _)
    (by intro x hx; obtain ⟨e, he, rfl⟩ := List.mem_map.mp hx; exact h.2.2 e he)

theorem EntriesOK.sorted {numDocs : Nat} {es : List Entry} (h : EntriesOK numDocs es) :
    es.Pairwise (fun a b => a.doc ≤ b.doc) :=
  h.2.1.imp (fun hab => Nat.le_of_lt hab)

/-- what a successful `writeTerm` at position `count` wrote (`b`) and returned (`v`) -/
def TermPost (K : Codecs) (chunkMode numDocs : Nat) (t : Bytes × TermDesc) (count : Nat)
    (b : Bytes) (v : Nat) : Prop :=
  match t.2 with
  | .oneHit d n => b = [] ∧ v = encode1Hit d n
  | .general es =>
    ∃ cs tf0 lc0 tf' lc', getChunkSize chunkMode es.length numDocs = .ok cs ∧ 0 < cs ∧
      Fresh tf0 ∧ tf0.chunkSize = cs ∧ tf0.lensLen = (numDocs - 1) / cs + 1 ∧
      Fresh lc0 ∧ lc0.chunkSize = cs ∧ lc0.lensLen = (numDocs - 1) / cs + 1 ∧
      tf0.encode K.chunk (tfAdds es) = .ok tf' ∧ lc0.encode K.chunk (locAdds es) = .ok lc' ∧
      b = (tf'.writeAt count).2.1 ++ (lc'.writeAt (count + (tf'.writeAt count).2.1.length)).2.1 ++
          postingsRecord K (tf'.writeAt count).1
            (lc'.writeAt (count + (tf'.writeAt count).2.1.length)).1 (es.map (·.doc)) ∧
      v = u64 (count + (tf'.writeAt count).2.1.length +
            (lc'.writeAt (count + (tf'.writeAt count).2.1.length)).2.1.length)

theorem writeAt_reset_fresh {c : Coder} (h : TailZero c) (n : Nat) : Fresh (c.writeAt n).2.2.reset := by
  unfold Coder.writeAt
  split
  · exact h.reset
  · exact h.write.reset

theorem chunk_total_lt {numDocs cs : Nat} (hn : numDocs < 2 ^ 32) :
    (numDocs - 1) / cs + 1 < ChunkBytes.two63 := by
  have : (numDocs - 1) / cs ≤ numDocs - 1 := Nat.div_le_self _ _
  unfold ChunkBytes.two63; omega

theorem adds_doc (es : List Entry) :
    (∀ a ∈ tfAdds es, ∃ e ∈ es, a.1 = e.doc) ∧ (∀ a ∈ locAdds es, ∃ e ∈ es, a.1 = e.doc) := by
  constructor
  · intro a ha
    obtain ⟨e, he, rfl⟩ := List.mem_map.mp ha
    exact ⟨e, he, rfl⟩
  · intro a ha
    obtain ⟨e, he, ha⟩ := List.mem_flatMap.mp ha
    exact ⟨e, he, ChunkBytes.locAddsOf_doc e a ha⟩

/-- One valid term: `writeTerm` succeeds - validity excludes each of its error branches (unknown
    chunk mode, chunk size 0, an `Add` beyond the last chunk, 1-hit in the builder or beyond 31
    bits) -, hands the coders back fresh, and wrote what `TermPost` says. -/
theorem writeTerm_spec (K : Codecs) (merger : Bool) (chunkMode numDocs : Nat)
    (hmode : 1 ≤ chunkMode ∧ chunkMode ≤ 1025) (hnd : 0 < numDocs) (hn32 : numDocs < 2 ^ 32)
    (st : Coders) (count : Nat) (t : Bytes × TermDesc)
    (hI : Fresh st.tf ∧ Fresh st.lc) (hv : t.2.Valid merger numDocs) :
    ∃ st' b v, writeTerm K merger chunkMode numDocs st count t = .ok (st', b, v) ∧
      (Fresh st'.tf ∧ Fresh st'.lc) ∧ TermPost K chunkMode numDocs t count b v := by
  obtain ⟨key, td⟩ := t
  have hv : td.Valid merger numDocs := hv
  have hok := hv.entriesOK
  obtain ⟨cs, hcs⟩ := getChunkSize_ok chunkMode td.entries.length numDocs hmode.2
  have hcspos : 0 < cs := getChunkSize_pos chunkMode _ numDocs cs hmode.1 hok.length_le hnd hcs
  obtain ⟨tf0, htf0, hf1, hc1, hl1⟩ :=
    Coder.setChunkSize_ok hI.1 hcspos (chunk_total_lt (numDocs := numDocs) (cs := cs) hn32)
  obtain ⟨lc0, hlc0, hf2, hc2, hl2⟩ :=
    Coder.setChunkSize_ok hI.2 hcspos (chunk_total_lt (numDocs := numDocs) (cs := cs) hn32)
  -- the `Add` calls come in document order and stay inside the last chunk: both encoders succeed
  obtain ⟨hs1, hs2⟩ := Ice.Props.ChunkBytes.T7_sorted cs td.entries hok.sorted
  have hidx : ∀ e ∈ td.entries, e.doc / cs < (numDocs - 1) / cs + 1 := fun e he =>
    chunk_index_lt cs e.doc (numDocs - 1) (Nat.le_sub_one_of_lt (hok.2.2 e he))
  obtain ⟨tf', htf', -, -, htz1⟩ := Ice.Props.ChunkBytes.T5_encode K.chunk tf0 hf1 cs _ hc1 hcspos hl1
    (Nat.succ_pos _) (tfAdds td.entries) hs1
    (fun a ha => by obtain ⟨e, he, h⟩ := (adds_doc td.entries).1 a ha; exact h ▸ hidx e he)
  obtain ⟨lc', hlc', -, -, htz2⟩ := Ice.Props.ChunkBytes.T5_encode K.chunk lc0 hf2 cs _ hc2 hcspos hl2
    (Nat.succ_pos _) (locAdds td.entries) hs2
    (fun a ha => by obtain ⟨e, he, h⟩ := (adds_doc td.entries).2 a ha; exact h ▸ hidx e he)
  have hne : td.entries.isEmpty = false := by
    cases td with
    | oneHit d n => rfl
    | general es => cases es with
      | nil => exact absurd rfl hv.1
      | cons _ _ => rfl
  unfold writeTerm
  simp only [hcs, htf0, hlc0, htf', hlc', ChunkBytes.ok_bind, hne, Bool.false_eq_true, if_false]
  cases td with
  | oneHit d n =>
    obtain ⟨hm, hd, -, -⟩ := hv
    have hu : under32Bits d = true := by
      unfold under32Bits mask31; simp; omega
    simp only [hm, hu, Bool.and_self, if_true, ChunkBytes.ok_bind, ChunkBytes.pure_eq_ok]
    exact ⟨_, _, _, rfl, ⟨htz1.reset, htz2.reset⟩, rfl, rfl⟩
  | general es =>
    simp only [ChunkBytes.ok_bind, ChunkBytes.pure_eq_ok]
    exact ⟨_, _, _, rfl, ⟨writeAt_reset_fresh htz1 _, writeAt_reset_fresh htz2 _⟩,
      cs, tf0, lc0, tf', lc', hcs, hcspos, hf1, hc1, hl1, hf2, hc2, hl2, htf', hlc', rfl, rfl⟩

theorem encode1Hit_lt (d n : Nat) : encode1Hit d n < 2 ^ 64 := by
  unfold encode1Hit
  omega

theorem postingsRecord_length_pos (K : Codecs) (a b : Nat) (ds : List Nat) :
    0 < (postingsRecord K a b ds).length := by
  unfold postingsRecord
  simp only [List.length_append]
  have := putUvarint_length_pos a
  omega

theorem fstEntries_eq (terms : List (Bytes × TermDesc)) (vals : List Nat) (h : ∀ v ∈ vals, 0 < v) :
    fstEntries terms vals = (terms.map (·.1)).zip vals := by
  unfold fstEntries
  rw [List.filter_eq_self]
  intro p hp
  have := h p.2 (List.of_mem_zip hp).2
  simpa using this

theorem ascKeys_pairwise : ∀ ks : List Bytes, ascKeys ks = true →
    ks.Pairwise (fun a b => Bytes.cmp a b = .lt)
  | [], _ => .nil
  | [a], _ => by simp
  | a :: b :: r, h => by
    simp only [ascKeys, Bool.and_eq_true] at h
    have ih := ascKeys_pairwise (b :: r) h.2
    have hab : Bytes.cmp a b = .lt := by simpa [Bytes.lt] using h.1
    refine List.pairwise_cons.mpr ⟨?_, ih⟩
    intro x hx
    rcases List.mem_cons.mp hx with rfl | hx
    · exact hab
    · exact Bytes.cmp_lt_trans hab ((List.pairwise_cons.mp ih).1 x hx)

theorem pairwise_ascKeys : ∀ ks : List Bytes, ks.Pairwise (fun a b => Bytes.cmp a b = .lt) →
    ascKeys ks = true
  | [], _ => rfl
  | [a], _ => rfl
  | a :: b :: r, h => by
    have h1 := List.pairwise_cons.mp h
    simp only [ascKeys, Bool.and_eq_true]
    exact ⟨by simp [Bytes.lt, h1.1 b (by simp)], pairwise_ascKeys (b :: r) h1.2⟩

/-- `Bytes.cmp` is transitive, so a subsequence of an ascending key list is ascending: vellum
    accepts the keys that are left when terms without postings are skipped -/
theorem ascKeys_sublist {ks ks' : List Bytes} (hs : ks'.Sublist ks) (h : ascKeys ks = true) :
    ascKeys ks' = true :=
  pairwise_ascKeys ks' ((ascKeys_pairwise ks h).sublist hs)

theorem fstEntries_keys_sublist (terms : List (Bytes × TermDesc)) (vals : List Nat)
    (hl : vals.length = terms.length) :
    ((fstEntries terms vals).map (·.1)).Sublist (terms.map (·.1)) := by
  unfold fstEntries
  have h1 : (((terms.map (·.1)).zip vals).filter (fun p => decide (p.2 > 0))).Sublist
      ((terms.map (·.1)).zip vals) := List.filter_sublist
  have h2 := h1.map (·.1)
  rw [List.map_fst_zip (by simp [hl])] at h2
  exact h2

/-- which of the two doc-value writers of `Props/C07.lean` -/
def dvMode (merger : Bool) : Ice.Props.C07.Mode := if merger then .merger else .builder

theorem dvWrite_eq {β : Type} (merger : Bool) (z : DocValues.Codec) (cs m pos : Nat)
    (vals : List (Nat × List Bytes)) (k : Bytes × Nat × Nat → Res β) :
    (if merger = true then DocValues.mergeField z cs m pos (DocValues.encVals vals) >>= k
      else DocValues.buildField z cs m pos (DocValues.encVals vals) >>= k) =
    (Ice.Props.C07.writeField (dvMode merger) z cs m pos vals >>= k) := by
  cases merger <;> rfl

/-- valid field description: the numbers are `uint64`, the term keys ascend strictly from one to
    the next (`DictKeys` is sorted and duplicate-free; the enumerator of the merger delivers terms
    in order), every term is valid, the doc-value column is valid in the sense of C07 -/
def FieldDesc.Valid (merger : Bool) (numDocs : Nat) (f : FieldDesc) : Prop :=
  f.name.length < 2 ^ 64 ∧ f.fieldDocs < 2 ^ 64 ∧ f.fieldFreqs < 2 ^ 64 ∧
  ascKeys (f.terms.map (·.1)) = true ∧ (∀ t ∈ f.terms, t.2.Valid merger numDocs) ∧
  ∀ vals, f.dv = some vals → Ice.Props.C07.Valid dvChunk (numDocs - 1) vals

theorem FieldDesc.Valid.terms {merger : Bool} {numDocs : Nat} {f : FieldDesc}
    (h : f.Valid merger numDocs) : ∀ t ∈ f.terms, t.2.Valid merger numDocs :=
  h.2.2.2.2.1

theorem FieldDesc.Valid.dv {merger : Bool} {numDocs : Nat} {f : FieldDesc}
    (h : f.Valid merger numDocs) {vals : List (Nat × List Bytes)} (hd : f.dv = some vals) :
    Ice.Props.C07.Valid dvChunk (numDocs - 1) vals :=
  h.2.2.2.2.2 vals hd

def dictBytes (K : Codecs) (es : List (Bytes × Nat)) : Bytes :=
  putUvarint (K.fstEnc es).length ++ K.fstEnc es

/-- what a successful `writeField` at position `count` wrote (`b`) and recorded (`o`) -/
def FieldPost (K : Codecs) (merger : Bool) (chunkMode numDocs : Nat) (f : FieldDesc) (count : Nat)
    (b : Bytes) (o : FieldOut) : Prop :=
  ∃ (tb : Bytes) (vals : List Nat) (sec : Bytes),
    vals.length = f.terms.length ∧
    (∀ (j : Nat) (t : Bytes × TermDesc), f.terms[j]? = some t →
      ∃ Tpre tbj Tpost v, tb = Tpre ++ tbj ++ Tpost ∧ vals[j]? = some v ∧
        TermPost K chunkMode numDocs t (count + Tpre.length) tbj v) ∧
    ascKeys ((fstEntries f.terms vals).map (·.1)) = true ∧
    b = tb ++ dictBytes K (fstEntries f.terms vals) ++ sec ∧
    o.dictLoc = u64 (count + tb.length) ∧
    (match f.dv with
     | none => sec = [] ∧ o.dvStart = maxUint64 ∧ o.dvEnd = maxUint64
     | some dvals =>
       ∃ s e, Ice.Props.C07.writeField (dvMode merger) K.dv dvChunk (numDocs - 1)
           (count + tb.length + (dictBytes K (fstEntries f.terms vals)).length) dvals
             = .ok (sec, s, e) ∧ o.dvStart = u64 s ∧ o.dvEnd = u64 e)

theorem FieldPost.dictLoc_lt {K : Codecs} {merger : Bool} {mode nd count : Nat} {f : FieldDesc}
    {b : Bytes} {o : FieldOut} (h : FieldPost K merger mode nd f count b o) : o.dictLoc < 2 ^ 64 := by
  obtain ⟨_, _, _, _, _, _, _, hd, _⟩ := h
  exact hd ▸ u64_lt _

/-- One valid field: `writeField` succeeds - every term is written (`writeTerm_spec`), vellum
    accepts the keys, the content coder of the doc values does not fail (`C07.writeField_eq`) -,
    hands the coders back fresh, and wrote what `FieldPost` says. -/
theorem writeField_spec (K : Codecs) (merger : Bool) (chunkMode numDocs : Nat)
    (hmode : 1 ≤ chunkMode ∧ chunkMode ≤ 1025) (hnd : 0 < numDocs) (hn32 : numDocs < 2 ^ 32)
    (st : Coders) (count : Nat) (f : FieldDesc)
    (hI : Fresh st.tf ∧ Fresh st.lc) (hv : f.Valid merger numDocs) :
    ∃ st' b o, writeField K merger chunkMode numDocs st count f = .ok (st', b, o) ∧
      (Fresh st'.tf ∧ Fresh st'.lc) ∧ FieldPost K merger chunkMode numDocs f count b o := by
  obtain ⟨_, _, _, hasc, hterms, hdv⟩ := hv
  obtain ⟨st1, tb, vals, hfold, hI1, hlen, hel⟩ := foldW_spec (writeTerm K merger chunkMode numDocs)
    (fun s => Fresh s.tf ∧ Fresh s.lc) (TermPost K chunkMode numDocs) f.terms
    (fun s c x hI hx =>
      writeTerm_spec K merger chunkMode numDocs hmode hnd hn32 s c x hI (hterms x hx))
    st count hI
  have hasc' : ascKeys ((fstEntries f.terms vals).map (·.1)) = true :=
    ascKeys_sublist (fstEntries_keys_sublist f.terms vals hlen) hasc
  unfold writeField FieldPost
  simp only [hfold, ChunkBytes.ok_bind, hasc', Bool.not_true, Bool.false_eq_true, if_false]
  cases hfd : f.dv with
  | none =>
    exact ⟨_, _, _, rfl, hI1, tb, vals, [], hlen, hel, hasc', by simp [dictBytes], rfl, rfl, rfl, rfl⟩
  | some dvals =>
    have hw := Ice.Props.C07.writeField_eq (dvMode merger) K.dv (hdv dvals hfd)
    simp only [dvWrite_eq, hw, ChunkBytes.ok_bind, ChunkBytes.pure_eq_ok]
    exact ⟨_, _, _, rfl, hI1, tb, vals, _, hlen, hel, hasc', rfl, rfl, _, _, rfl, rfl, rfl⟩

theorem persistFieldsLoop_length : ∀ (fs : List (Nat × FieldDesc)) (count : Nat),
    (persistFieldsLoop count fs).2.length = fs.length := by
  intro fs
  induction fs with
  | nil => intro _; rfl
  | cons p r ih => intro count; obtain ⟨dl, f⟩ := p; simp [persistFieldsLoop, ih]

theorem persistFieldsLoop_spec : ∀ (fs : List (Nat × FieldDesc)) (count j : Nat) (p : Nat × FieldDesc),
    fs[j]? = some p → ∃ pre post, (persistFieldsLoop count fs).1 = pre ++ fieldRecord p.1 p.2 ++ post ∧
      (persistFieldsLoop count fs).2[j]? = some (u64 (count + pre.length)) := by
  intro fs
  induction fs with
  | nil => intro _ j p h; simp at h
  | cons q r ih =>
    intro count j p h
    obtain ⟨dl, f⟩ := q
    cases j with
    | zero =>
      simp only [List.getElem?_cons_zero, Option.some.injEq] at h
      subst h
      exact ⟨[], (persistFieldsLoop (count + (fieldRecord dl f).length) r).1, by simp [persistFieldsLoop],
        by simp [persistFieldsLoop]⟩
    | succ j =>
      simp only [List.getElem?_cons_succ] at h
      obtain ⟨pre, post, h1, h2⟩ := ih (count + (fieldRecord dl f).length) j p h
      refine ⟨fieldRecord dl f ++ pre, post, ?_, ?_⟩
      · simp only [persistFieldsLoop, h1, List.append_assoc]
      · simp only [persistFieldsLoop, List.getElem?_cons_succ, h2, List.length_append, Nat.add_assoc]

theorem fieldRecord_length_ge (dl : Nat) (f : FieldDesc) :
    4 + f.name.length ≤ (fieldRecord dl f).length := by
  unfold fieldRecord
  simp only [List.length_append]
  have := putUvarint_length_pos dl
  have := putUvarint_length_pos f.name.length
  have := putUvarint_length_pos f.fieldDocs
  have := putUvarint_length_pos f.fieldFreqs
  omega

theorem persistFieldsLoop_bytes_ge : ∀ (fs : List (Nat × FieldDesc)) (count : Nat),
    4 * fs.length ≤ (persistFieldsLoop count fs).1.length := by
  intro fs
  induction fs with
  | nil => intro _; simp
  | cons p r ih =>
    intro count
    have := ih (count + (fieldRecord p.1 p.2).length)
    have := fieldRecord_length_ge p.1 p.2
    simp only [persistFieldsLoop, List.length_append, List.length_cons]
    omega

theorem persistFields_length (count : Nat) (fs : List (Nat × FieldDesc)) :
    (persistFields count fs).1.length = (persistFieldsLoop count fs).1.length + 8 * fs.length := by
  unfold persistFields
  rw [List.length_append, Stored.flatMap_be8_length, persistFieldsLoop_length]

theorem persistFields_snd (count : Nat) (fs : List (Nat × FieldDesc)) :
    (persistFields count fs).2 = u64 (count + (persistFieldsLoop count fs).1.length) := rfl

/-- with one field the fields section is longer than any 10-byte look-ahead window -/
theorem persistFields_length_ge (count : Nat) (fs : List (Nat × FieldDesc)) :
    12 * fs.length ≤ (persistFields count fs).1.length := by
  have := persistFieldsLoop_bytes_ge fs count
  rw [persistFields_length]
  omega

def storedOut (K : Codecs) (L : LSeg) : Stored.StoredOut :=
  Stored.writeStoredFields K.stored docBlock L.stored

/-- the shape of every written data section: stored section, a middle part (postings,
    dictionaries, doc values and their index - empty without documents), fields section;
    and the footer values -/
structure Shape (K : Codecs) (L : LSeg) (data : Bytes) (ft : Footer) (mid : Bytes)
    (dictLocs : List Nat) : Prop where
  dl_len : dictLocs.length = L.fields.length
  data_eq : data = (storedOut K L).bytes ++ mid ++
    (persistFields ((storedOut K L).bytes.length + mid.length) (dictLocs.zip L.fields)).1
  numDocs : ft.numDocs = L.numDocs
  sio : ft.storedIndexOffset = (storedOut K L).storedIndexOffset
  fio : ft.fieldsIndexOffset =
    (persistFields ((storedOut K L).bytes.length + mid.length) (dictLocs.zip L.fields)).2
  mode : ft.chunkMode = L.chunkMode
  version : ft.version = 2

/-- the middle part of a segment with documents -/
structure Middle (K : Codecs) (L : LSeg) (ft : Footer) (mid : Bytes) (dictLocs : List Nat)
    (fb : Bytes) (outs : List FieldOut) : Prop where
  run : ∃ tf lc st', Fresh tf ∧ Fresh lc ∧
    foldW (writeField K L.merger L.chunkMode L.numDocs) { tf := tf, lc := lc }
      (storedOut K L).bytes.length L.fields = .ok (st', fb, outs)
  mid_eq : mid = fb ++ dvIndexBytes outs
  dl_eq : dictLocs = outs.map (·.dictLoc)
  dvo : ft.docValueOffset = u64 ((storedOut K L).bytes.length + fb.length)

/-- what `serializeWith` and `convert` do between the stored section (which ends at `count`) and
    the fields section: the bytes written, `dictOffsets`, and `docValueOffset` -/
def middle (K : Codecs) (L : LSeg) (count : Nat) : Res (Bytes × List Nat × Nat) :=
  if L.numDocs > 0 then do
    let tf ← Coder.new 1024 (L.numDocs - 1)
    let lc ← Coder.new 1024 (L.numDocs - 1)
    let (_, fb, outs) ←
      foldW (writeField K L.merger L.chunkMode L.numDocs) { tf, lc } count L.fields
    pure (fb ++ dvIndexBytes outs, outs.map (·.dictLoc), u64 (count + fb.length))
  else
    pure ([], L.fields.map (fun _ => 0), if L.merger then maxUint64 else 0)

theorem serialize_eq_middle (K : Codecs) (L : LSeg) :
    serialize K L = (middle K L (storedOut K L).bytes.length >>= fun r =>
      let pf := persistFields ((storedOut K L).bytes.length + r.1.length) (r.2.1.zip L.fields)
      pure ((storedOut K L).bytes ++ r.1 ++ pf.1,
        { numDocs := L.numDocs, storedIndexOffset := (storedOut K L).storedIndexOffset,
          fieldsIndexOffset := pf.2, docValueOffset := r.2.2, chunkMode := L.chunkMode,
          version := 2, crc := 0 })) := rfl

theorem middle_inv (K : Codecs) (L : LSeg) (hn32 : L.numDocs < 2 ^ 32) {count : Nat} {mid : Bytes}
    {dictLocs : List Nat} {dvo : Nat} (h : middle K L count = .ok (mid, dictLocs, dvo)) :
    dictLocs.length = L.fields.length ∧
    (L.numDocs = 0 → mid = [] ∧ dictLocs = L.fields.map (fun _ => 0) ∧
      dvo = if L.merger then maxUint64 else 0) ∧
    (0 < L.numDocs → ∃ fb outs,
      (∃ tf lc st', Fresh tf ∧ Fresh lc ∧
        foldW (writeField K L.merger L.chunkMode L.numDocs) { tf := tf, lc := lc } count L.fields =
          .ok (st', fb, outs)) ∧
      mid = fb ++ dvIndexBytes outs ∧ dictLocs = outs.map (·.dictLoc) ∧
      dvo = u64 (count + fb.length)) := by
  unfold middle at h
  by_cases hnd : 0 < L.numDocs
  · rw [if_pos hnd] at h
    obtain ⟨c0, hc0, hf0, -, -⟩ := Coder.new_ok (cs := 1024) (m := L.numDocs - 1) (by decide)
      (chunk_total_lt hn32)
    simp only [hc0, ChunkBytes.ok_bind] at h
    obtain ⟨⟨st', fb, outs⟩, hrun, h⟩ := bind_eq_ok h
    cases h
    exact ⟨by rw [List.length_map, foldW_length hrun], fun h0 => by omega,
      fun _ => ⟨fb, outs, ⟨c0, c0, st', hf0, hf0, hrun⟩, rfl, rfl, rfl⟩⟩
  · rw [if_neg hnd] at h
    cases h
    exact ⟨List.length_map _, fun _ => ⟨rfl, rfl, rfl⟩, fun h0 => absurd h0 hnd⟩

theorem serialize_inv (K : Codecs) (L : LSeg) (data : Bytes) (ft : Footer)
    (hn32 : L.numDocs < 2 ^ 32) (h : serialize K L = .ok (data, ft)) :
    ∃ mid dictLocs, Shape K L data ft mid dictLocs ∧
      (L.numDocs = 0 → mid = [] ∧ dictLocs = L.fields.map (fun _ => 0) ∧
        ft.docValueOffset = if L.merger then maxUint64 else 0) ∧
      (0 < L.numDocs → ∃ fb outs, Middle K L ft mid dictLocs fb outs) := by
  rw [serialize_eq_middle] at h
  obtain ⟨⟨mid, dictLocs, dvo⟩, hm, h⟩ := bind_eq_ok h
  simp only [ChunkBytes.pure_eq_ok, Res.ok.injEq, Prod.mk.injEq] at h
  obtain ⟨rfl, rfl⟩ := h
  obtain ⟨hl, h0, hpos⟩ := middle_inv K L hn32 hm
  refine ⟨mid, dictLocs, ⟨hl, rfl, rfl, rfl, rfl, rfl, rfl⟩, h0, fun hnd => ?_⟩
  obtain ⟨fb, outs, hrun, h1, h2, h3⟩ := hpos hnd
  exact ⟨fb, outs, hrun, h1, h2, h3⟩

/-! ### totality

  TOTALITY of the container writer (`Model/Format.lean: serialize`): every error branch of
  `serialize` / `foldW` / `writeField` / `writeTerm` is excluded by the structural validity of the
  description (one term, one field: `writeTerm_spec`, `writeField_spec` above).
  Which branches exist and what excludes them:

    getChunkSize          err   unknown chunk mode                 chunkMode ≤ 1025
    Coder.new             panic chunkSize 0 / length ≥ 2^63        1024 > 0, numDocs < 2^32
    Coder.setChunkSize    panic chunkSize 0 / length ≥ 2^63        1 ≤ chunkMode, card ≤ numDocs,
                                                                   0 < numDocs < 2^32
    Coder.encode          panic `chunkLens[currChunk]` out of      entries ascending by document,
                                range (Add after a later chunk,    documents < numDocs (T5)
                                document beyond maxDocNum)
    writeTerm, 1-hit      err   1-hit in the builder, document     TermDesc.Valid
                                not `under32Bits`
    writeField            err   vellum `Insert` out of order       term keys ascending (and the
                                                                   order is transitive, so dropping
                                                                   the terms with value 0 keeps it)
    buildField/mergeField panic/err of the content coder           C07.Valid (C07.writeField_eq)

  No bound on the SIZE of the output is needed: offsets are computed in `uint64` with wrap-around,
  which never fails (it makes the file unreadable, which is what the `size` field of `C04.Valid`
  is about, not a failing writer).
-/

/-- **Totality of the writer**, with exactly the hypotheses the proof uses: a document count in
    `uint32`, a known chunk mode that does not divide by zero, and (if there are documents) valid
    field descriptions.  No size bound, nothing about the stored content. -/
theorem serialize_ok (K : Codecs) (L : LSeg) (hn32 : L.numDocs < 2 ^ 32)
    (hmode : 1 ≤ L.chunkMode ∧ L.chunkMode ≤ 1025)
    (hfields : 0 < L.numDocs → ∀ f ∈ L.fields, f.Valid L.merger L.numDocs) :
    ∃ data ft, serialize K L = .ok (data, ft) := by
  rw [serialize_eq_middle]
  have hm : ∃ r, middle K L (storedOut K L).bytes.length = .ok r := by
    unfold middle
    by_cases hnd : 0 < L.numDocs
    · obtain ⟨c0, hc0, hf0, -, -⟩ := Coder.new_ok (cs := 1024) (m := L.numDocs - 1) (by decide)
        (chunk_total_lt hn32)
      obtain ⟨st', fb, outs, hfold, -⟩ := foldW_spec (writeField K L.merger L.chunkMode L.numDocs)
        (fun s => Fresh s.tf ∧ Fresh s.lc) (FieldPost K L.merger L.chunkMode L.numDocs) L.fields
        (fun s c x hI hx =>
          writeField_spec K L.merger L.chunkMode L.numDocs hmode hnd hn32 s c x hI (hfields hnd x hx))
        { tf := c0, lc := c0 } (storedOut K L).bytes.length ⟨hf0, hf0⟩
      simp only [if_pos hnd, hc0, ChunkBytes.ok_bind, hfold]
      exact ⟨_, rfl⟩
    · rw [if_neg hnd]
      exact ⟨_, rfl⟩
  obtain ⟨r, hr⟩ := hm
  rw [hr]
  exact ⟨_, _, rfl⟩

end Ice.Model.Format
