import IceModel.Lemmas.E2EMValid
/-
  END-TO-END, merger path: `mergedLSeg mode ins`, the description assembled from what the merge
  models produce, lays out `Spec.merge mode ins` (`mergedLSeg_lays`), and the invariant `SegOK`
  holds at a node of a tree of merges (`mergedLSeg_segOK`).  In four parts: the parameters and
  the invariants of the abstract segment, the description of one field, the merged doc-value
  column, the assembly.
-/
/-! ## facts about `Spec.merge`

  The invariants `AbsOK` are preserved; the parameters the merge computes (`mergeFields`,
  `computeNewDocCount`) are those of the specification. -/

namespace Ice.Props.E2EM
open Ice Ice.Spec Ice.Model Ice.Model.Format
open Ice.Model.MergeLoop (absCfg)
open Ice.Props.C03 (ValidDrops)
open Ice.Props.E2E

theorem mem_merge_docs {mode : Nat} {A : List (AbsSeg × List Nat)} {d : ADoc}
    (h : d ∈ (merge mode A).1.docs) : ∃ p ∈ A, d ∈ p.1.docs := by
  rw [merge_docs, List.mem_flatMap] at h
  obtain ⟨p, hp, hs⟩ := h
  rw [survivors_eq] at hs
  exact ⟨p, hp, mem_keepP hs⟩

theorem fields_sub_merge {mode : Nat} {A : List (AbsSeg × List Nat)} {p : AbsSeg × List Nat}
    (hp : p ∈ A) : ∀ f ∈ p.1.fields, f ∈ (merge mode A).1.fields := by
  intro f hf
  rw [merge_fields, mem_fieldList]
  exact .inr (List.mem_flatMap.2 ⟨p, hp, hf⟩)

theorem mem_merge_fields {mode : Nat} {A : List (AbsSeg × List Nat)} {f : Bytes}
    (h : f ∈ (merge mode A).1.fields) : f = idField ∨ ∃ p ∈ A, f ∈ p.1.fields := by
  rw [merge_fields, mem_fieldList] at h
  rcases h with h | h
  · exact .inl h
  · obtain ⟨p, hp, hf⟩ := List.mem_flatMap.1 h
    exact .inr ⟨p, hp, hf⟩

theorem absIns_map_fields (ins : List MIn) :
    (absIns ins).map (·.1.fields) = ins.map (·.abs.fields) := by
  simp [absIns, List.map_map, Function.comp_def]

theorem mFields_eq (mode : Nat) (ins : List MIn) :
    mFields ins = (merge mode (absIns ins)).1.fields := by
  unfold mFields
  rw [← absIns_map_fields]
  exact C02Stored.F_fields_merge mode (absIns ins)

theorem mNumDocs_eq (mode : Nat) (ins : List MIn)
    (hv : ∀ i ∈ ins, ValidDrops i.abs.docs.length i.drops)
    (hb : (ins.map fun i => i.abs.docs.length).sum < 2 ^ 64) :
    mNumDocs ins = numDocs (merge mode (absIns ins)).1 := by
  have h := C02Stored.N_count mode (absIns ins)
    (by intro p hp
        obtain ⟨i, hi, rfl⟩ := List.mem_map.1 hp
        exact hv i hi)
    (by simpa [absIns, List.map_map, Function.comp_def] using hb)
  rw [← h]
  unfold mNumDocs absIns
  rw [List.map_map]
  rfl

theorem mCfg_eq (mode : Nat) (ins : List MIn)
    (hv : ∀ i ∈ ins, ValidDrops i.abs.docs.length i.drops)
    (hb : (ins.map fun i => i.abs.docs.length).sum < 2 ^ 64) :
    mCfg mode ins = absCfg mode (absIns ins) := by
  unfold mCfg absCfg
  rw [mFields_eq mode, mNumDocs_eq mode ins hv hb]

theorem absOK_merge (mode : Nat) (ins : List MIn) (hok : ∀ i ∈ ins, AbsOK i.abs)
    (hB : MBounds mode ins) : AbsOK (merge mode (absIns ins)).1 := by
  have hsrc : ∀ {d}, d ∈ (merge mode (absIns ins)).1.docs → ∃ i ∈ ins, d ∈ i.abs.docs := by
    intro d hd
    obtain ⟨p, hp, hdp⟩ := mem_merge_docs hd
    obtain ⟨i, hi, rfl⟩ := List.mem_map.1 hp
    exact ⟨i, hi, hdp⟩
  have hsub : ∀ i ∈ ins, ∀ f ∈ i.abs.fields, f ∈ (merge mode (absIns ins)).1.fields := by
    intro i hi
    exact fields_sub_merge (p := (i.abs, i.drops)) (List.mem_map.2 ⟨i, hi, rfl⟩)
  refine ⟨?_, ?_, ?_, ?_, ?_, ?_, ?_, ⟨hB.numDocs, ?_, hB.freqs, ?_⟩⟩
  · rw [merge_fields]; exact C02Stored.fieldList_idFirstAsc _
  · rw [← mFields_eq]; exact hB.nfields
  · intro a ha af haf
    obtain ⟨i, hi, hai⟩ := hsrc ha
    exact hsub i hi _ ((hok i hi).names a hai af haf)
  · intro f
    apply Ice.Props.C16.termsNodup_merge
    intro p hp
    obtain ⟨i, hi, rfl⟩ := List.mem_map.1 hp
    exact (hok i hi).nodup f
  · intro d hd af haf x hx l hl
    obtain ⟨i, hi, hdi⟩ := hsrc hd
    exact hsub i hi _ ((hok i hi).locs d hdi af haf x hx l hl)
  · intro d hd af haf
    obtain ⟨i, hi, hdi⟩ := hsrc hd
    exact (hok i hi).norm31 d hdi af haf
  · intro x hx
    simp only [merge, List.mem_map] at hx
    obtain ⟨f, _, rfl⟩ := hx
    exact List.countP_le_length
  · intro f hf
    rcases mem_merge_fields hf with rfl | ⟨p, hp, hfp⟩
    · decide
    · obtain ⟨i, hi, rfl⟩ := List.mem_map.1 hp
      exact (hok i hi).bounds.nameLen f hfp
  · intro d hd af haf
    obtain ⟨i, hi, hdi⟩ := hsrc hd
    exact (hok i hi).bounds.field d hdi af haf

end Ice.Props.E2EM

/-! ## the description of one field

  `fieldOf` through the specification: the closed form of the merge loop (`mergeField_abs`) with
  `C02Model.mergedResult_spec` (dictionary and postings), `C02Model.mergedResult_oneHit` (the 1-hit
  decision) and `C16.mergedResult_stats` (the statistics accumulators). -/

namespace Ice.Props.E2EM
open Ice Ice.Spec Ice.Model Ice.Model.Format
open Ice.Model.MergeLoop (Cfg SegIn DictEntry MPosting MLoc mergeField absCfg absSegs encPosting
  encLoc fieldIdOf idxOf?_spec mergedResult mergeField_abs)
open Ice.Props.C03 (ValidDrops)
open Ice.Props.E2E

theorem mlocToB_encLoc {F : List Bytes} (hlen : F.length ≤ 65536) {l : Loc} (h : l.field ∈ F) :
    mlocToB (encLoc F l) = locToB F l := by
  obtain ⟨i, h1, h2, h3⟩ := idxOf?_spec F l.field h
  have hm : i % 65536 = i := Nat.mod_eq_of_lt (by omega)
  have hi : F.idxOf l.field = i := by
    have := Builder.idxOf?_eq_ite (l := F) (a := l.field)
    rw [if_pos h, h1] at this
    exact (Option.some.inj this).symm
  simp [mlocToB, encLoc, locToB, fieldIdOf, h1, hm, hi]

theorem mpToE_encPosting {F : List Bytes} (hlen : F.length ≤ 65536) {p : Posting}
    (h : ∀ l ∈ p.locs, l.field ∈ F) : mpToE (encPosting F p.doc p) = postingToE F p := by
  unfold mpToE encPosting postingToE
  simp only [List.map_map]
  congr 1
  apply List.map_congr_left
  intro l hl
  exact mlocToB_encLoc hlen (h l hl)

theorem termOf_fst (e : DictEntry) : (termOf e).1 = e.term := rfl

/-- the description of field `f` in `mergedLSeg` -/
def mField (mode : Nat) (ins : List MIn) (f : Bytes) : FieldDesc :=
  if mNumDocs ins = 0 then emptyField f else fieldOf mode ins f

theorem mergedLSeg_fields (mode : Nat) (ins : List MIn) :
    (mergedLSeg mode ins).fields = (mFields ins).map (mField mode ins) := by
  unfold mergedLSeg mField
  split <;> rfl

section
variable {mode : Nat} {ins : List MIn}
  (hdrops : ∀ i ∈ ins, ValidDrops i.abs.docs.length i.drops)
  (hok : ∀ i ∈ ins, AbsOK i.abs) (hB : MBounds mode ins)

include hdrops hok hB in
/-- **the description of a field of the merge**, through the specification: name, statistics
    (C16), the terms of the merged segment in order, each standing for its postings (general: the
    re-encoded postings are the byte-level entries of the specification's postings; 1-hit:
    exactly one posting, frequency 1, no locations, document below 2^31); without documents
    there is nothing -/
theorem fieldOf_spec (f : Bytes) :
    (mField mode ins f).name = f ∧
    (mField mode ins f).fieldDocs = (merge mode (absIns ins)).1.docs.countP (fun d => fieldHasTerm d f) ∧
    (mField mode ins f).fieldFreqs = ((merge mode (absIns ins)).1.docs.map (fun d => fieldTermFreq d f)).sum ∧
    (mField mode ins f).dv = (if mNumDocs ins = 0 then none else dvColM ins f) ∧
    (mField mode ins f).terms.map (·.1) = terms (merge mode (absIns ins)).1 f ∧
    ∀ (j : Nat) (t : Bytes) (td : TermDesc), (mField mode ins f).terms[j]? = some (t, td) →
      TermRep (merge mode (absIns ins)).1.fields td (postings (merge mode (absIns ins)).1 f t) := by
  have hnd : mNumDocs ins = (merge mode (absIns ins)).1.docs.length :=
    mNumDocs_eq mode ins hdrops hB.total
  unfold mField
  by_cases h0 : mNumDocs ins = 0
  · have hdocs : (merge mode (absIns ins)).1.docs = [] :=
      List.eq_nil_of_length_eq_zero (hnd ▸ h0)
    simp only [if_pos h0]
    refine ⟨rfl, ?_, ?_, rfl, ?_, fun j t td hj => nomatch hj⟩
    · rw [hdocs]; rfl
    · rw [hdocs]; rfl
    · rw [terms_of_no_docs hdocs]; rfl
  simp only [if_neg h0]
  have hpos : 1 ≤ numDocs (merge mode (absIns ins)).1 :=
    show 0 < (merge mode (absIns ins)).1.docs.length from hnd ▸ Nat.pos_of_ne_zero h0
  have hA := absOK_merge mode ins hok hB
  have hsize : numDocs (merge mode (absIns ins)).1 ≤ 2 ^ 32 := Nat.le_of_lt hB.numDocs
  unfold fieldOf
  rw [mCfg_eq mode ins hdrops hB.total, mergeField_abs mode f (absIns ins) hB.hmode hpos]
  have hd := C02Model.mergedResult_spec mode f (absIns ins)
  obtain ⟨hfd, hff⟩ := Ice.Props.C16.mergedResult_stats mode f (absIns ins) hsize
    (List.forall_mem_map.2 fun i hi => (hok i hi).nodup f)
  have h4 := C02Model.mergedResult_oneHit (absCfg mode (absIns ins)) _
    (C02Model.docsAsc_abs mode f (absIns ins) hsize)
  generalize mergedResult (absCfg mode (absIns ins)) (MergeLoop.activeFrom f (absIns ins) 0) = r
    at hd hfd hff h4 ⊢
  refine ⟨rfl, hfd, hff, rfl, ?_, fun j t td hj => ?_⟩
  · have := congrArg (List.map (·.1)) hd
    rw [List.map_map, List.map_map] at this
    simp only [List.map_map]
    exact this.trans (List.map_id'' (fun _ => rfl) _)
  · obtain ⟨e, he, ht, htd⟩ : ∃ e ∈ r.dict, e.term = t ∧ (termOf e).2 = td := by
      simp only [List.getElem?_map, Option.map_eq_some_iff] at hj
      obtain ⟨e, he, h⟩ := hj
      exact ⟨e, List.mem_of_getElem? he, congrArg Prod.fst h, congrArg Prod.snd h⟩
    subst ht htd
    -- the entries of a dictionary entry are the re-encoded postings of its term
    have hent : e.entries = (postings (merge mode (absIns ins)).1 f e.term).map
        (fun p => encPosting (merge mode (absIns ins)).1.fields p.doc p) := by
      have hmem := List.mem_map_of_mem (f := fun e => (e.term, e.entries)) he
      rw [hd] at hmem
      obtain ⟨t', _, h⟩ := List.mem_map.1 hmem
      rw [← (Prod.mk.inj h).1]
      exact (Prod.mk.inj h).2.symm
    cases hoh : e.oneHit with
    | none =>
      simp only [termOf, hoh]
      show e.entries.map mpToE = _
      rw [hent, List.map_map]
      exact List.map_congr_left fun p hp =>
        mpToE_encPosting (Nat.le_of_lt (Nat.lt_trans hA.nfields (by decide))) ((hA.rd true).posting_locs hp)
    | some v =>
      obtain ⟨p', hp', hfreq, hlocs, hd31, _, _⟩ := (h4 e he v).1 hoh
      simp only [termOf, hoh, hp']
      -- the single entry is the re-encoding of the single posting
      rw [hp'] at hent
      obtain ⟨p, hps, rfl⟩ := List.map_eq_singleton_iff.1 hent.symm
      exact ⟨hd31, p, hps, rfl, rfl, hfreq, List.map_eq_nil_iff.1 hlocs⟩

end

end Ice.Props.E2EM

/-! ## the merged doc-value column

  `dvColFrom` (terms per document).  Encoded (`encVals`) it is the byte column `mergedColFrom` of
  `Lemmas/MergeRestDvSpec.lean`, which `C02Stored.D_merged` shows `buildMergedDocVals` feeds to the
  chunked content coder; it ascends, stays inside the merged segment, and holds `Spec.dvOf` of the
  merged segment. -/

namespace Ice.Props.E2EM
open Ice Ice.Spec Ice.Model Ice.Model.Format
open Ice.Model.MergeRest (ColIn mergedColFrom gMap mergedColFrom_asc mergedColFrom_range)
open Ice.Model.DocValues (termsOf NoSep encVals docBytes bytesOf splitSep
  splitSep_bytesOf_encVals)
open Ice.Props.E2E

/-- the input as the doc-value part sees it for field `f` (bytes per document) -/
def MIn.colIn (f : Bytes) (i : MIn) : ColIn :=
  { n := i.abs.docs.length, drops := i.drops,
    col := if i.inFocus f then (i.dvCol f).map encVals else none }

theorem encVals_filterMap_gMapT (drops : List Nat) (start : Nat) (vals : List (Nat × List Bytes)) :
    encVals (vals.filterMap (gMapT drops start)) = (encVals vals).filterMap (gMap drops start) := by
  unfold encVals
  rw [List.map_filterMap, List.filterMap_map]
  refine congrArg (List.filterMap · vals) (funext fun q => ?_)
  unfold gMapT gMap
  simp only [Function.comp]
  split <;> rfl

theorem encVals_append (a b : List (Nat × List Bytes)) : encVals (a ++ b) = encVals a ++ encVals b := by
  simp [encVals]

theorem encVals_dvPart (f : Bytes) (i : MIn) (start : Nat) :
    encVals (i.dvPart f start) = (i.colIn f).part start := by
  unfold MIn.dvPart ColIn.part MIn.colIn
  cases i.inFocus f with
  | false => rfl
  | true =>
    simp only [if_true]
    cases i.dvCol f with
    | none => rfl
    | some vals => exact encVals_filterMap_gMapT _ _ _

theorem encVals_dvColFrom (f : Bytes) : ∀ (l : List MIn) (start : Nat),
    encVals (dvColFrom f l start) = mergedColFrom (l.map (MIn.colIn f)) start := by
  intro l
  induction l with
  | nil => intro _; rfl
  | cons i r ih =>
    intro start
    simp only [dvColFrom, List.map_cons, mergedColFrom, encVals_append, encVals_dvPart, ih]
    rfl

theorem colIn_col_some {f : Bytes} {i : MIn} {vals : List (Nat × Bytes)}
    (h : (i.colIn f).col = some vals) :
    i.inFocus f = true ∧ ∃ tv, i.dvCol f = some tv ∧ vals = encVals tv := by
  unfold MIn.colIn at h
  split at h
  · next hf =>
    cases hc : i.dvCol f with
    | none => rw [hc] at h; cases h
    | some tv => rw [hc] at h; exact ⟨hf, tv, rfl, (Option.some.inj h).symm⟩
  · cases h

theorem colIn_ok {f : Bytes} {i : MIn} (h : DvColOK f i) : (i.colIn f).OK := by
  intro vals hvals
  obtain ⟨_, tv, hc, rfl⟩ := colIn_col_some hvals
  obtain ⟨hasc, hmax, _⟩ := h.valid tv hc
  exact ⟨List.pairwise_map.2 hasc, List.forall_mem_map.2 hmax⟩

theorem mem_dvColFrom {f : Bytes} : ∀ {l : List MIn} {start : Nat} {q : Nat × List Bytes},
    q ∈ dvColFrom f l start → ∃ i ∈ l, ∃ vals, i.dvCol f = some vals ∧ ∃ q' ∈ vals, q'.2 = q.2
  | [], _, _, h => nomatch h
  | i :: r, start, q, h => by
    simp only [dvColFrom, List.mem_append] at h
    rcases h with h | h
    · unfold MIn.dvPart at h
      split at h
      · split at h
        · cases h
        · next vals hc =>
          obtain ⟨q', hq', hg⟩ := List.mem_filterMap.1 h
          unfold gMapT at hg
          split at hg
          · cases hg
          · exact ⟨i, List.mem_cons_self, vals, hc, q', hq', by rw [← Option.some.inj hg]⟩
      · cases h
    · obtain ⟨j, hj, rest⟩ := mem_dvColFrom h
      exact ⟨j, List.mem_cons_of_mem _ hj, rest⟩

/-- the column the merge uses of an input holds the doc values of the input; an input that takes
    no part (not in focus, or no reader) has none in the field -/
theorem colIn_rel {f : Bytes} {i : MIn} (h : DvColOK f i) :
    match (i.colIn f).col with
    | some vals => ∀ d, splitSep (bytesOf vals d) [] = dvOf i.abs d f
    | none => ∀ d, dvOf i.abs d f = [] := by
  have hrel := h.rel
  unfold MIn.colIn
  cases hf : i.inFocus f with
  | false =>
    have : (terms i.abs f).isEmpty = true := by
      unfold MIn.inFocus at hf
      simpa using hf
    exact dvOf_nil_of_no_terms this
  | true =>
    cases hcol : i.dvCol f with
    | none => rw [hcol] at hrel; exact hrel
    | some tv =>
      rw [hcol] at hrel
      intro d
      rw [splitSep_bytesOf_encVals tv (h.valid tv hcol).2.2 d]
      exact hrel d

section
variable {mode : Nat} {ins : List MIn} {f : Bytes}
  (hdv : ∀ i ∈ ins, DvColOK f i)

include hdv in
theorem colIns_ok : ∀ c ∈ ins.map (MIn.colIn f), c.OK := by
  intro c hc
  obtain ⟨i, hi, rfl⟩ := List.mem_map.1 hc
  exact colIn_ok (hdv i hi)

theorem merge_length_colIn : (merge mode (absIns ins)).1.docs.length =
    ((ins.map (MIn.colIn f)).map fun c => liveCount c.drops c.n).sum := by
  have := numDocs_merge mode (absIns ins)
  unfold numDocs at this
  rw [this, absIns, List.map_map, List.map_map]
  rfl

include hdv in
theorem dvColFrom_shape :
    (dvColFrom f ins 0).Pairwise (fun a b => a.1 < b.1) ∧
    (∀ q ∈ dvColFrom f ins 0, q.1 < (merge mode (absIns ins)).1.docs.length) ∧
    ∀ q ∈ dvColFrom f ins 0, NoSep q.2 := by
  have hasc := mergedColFrom_asc _ 0 (colIns_ok hdv)
  have hrange := mergedColFrom_range _ 0 (colIns_ok hdv)
  rw [← encVals_dvColFrom] at hasc hrange
  refine ⟨?_, fun q hq => ?_, fun q hq => ?_⟩
  · unfold encVals at hasc
    rw [List.pairwise_map] at hasc
    exact hasc
  · have := (hrange (q.1, docBytes q.2) (List.mem_map.2 ⟨q, hq, rfl⟩)).2
    rw [merge_length_colIn (f := f)]
    simpa using this
  · obtain ⟨i, hi, vals, hc, q', hq', he⟩ := mem_dvColFrom hq
    rw [← he]
    exact ((hdv i hi).valid vals hc).2.2 q' hq'

include hdv in
/-- **the merged column holds the doc values of the merged segment**: `C02Stored.mergedColFrom_dvOf` for
    columns of terms -/
theorem dvColFrom_dvOf (k : Nat) :
    termsOf (dvColFrom f ins 0) k = dvOf (merge mode (absIns ins)).1 k f := by
  obtain ⟨_, _, hnosep⟩ := dvColFrom_shape (mode := mode) hdv
  rw [← splitSep_bytesOf_encVals _ hnosep k, encVals_dvColFrom]
  exact C02Stored.mergedColFrom_dvOf f mode ins (·.abs) (MIn.colIn f) (fun _ => rfl)
    (fun i hi => colIn_ok (hdv i hi)) (fun i hi => colIn_rel (hdv i hi)) k

include hdv in
theorem dvOf_nil_of_not_has (h : dvHas ins f = false) (k : Nat) :
    dvOf (merge mode (absIns ins)).1 k f = [] := by
  have hnil : ∀ (l : List MIn) (start : Nat), (∀ i ∈ l, (i.inFocus f && (i.dvCol f).isSome) = false) →
      dvColFrom f l start = [] := by
    intro l
    induction l with
    | nil => intro _ _; rfl
    | cons i r ih =>
      intro start hl
      have := hl i List.mem_cons_self
      rw [dvColFrom, ih _ (fun j hj => hl j (List.mem_cons_of_mem _ hj)), List.append_nil]
      unfold MIn.dvPart
      cases hf : i.inFocus f with
      | false => rfl
      | true =>
        cases hc : i.dvCol f with
        | none => rfl
        | some v => rw [hf, hc] at this; cases this
  unfold dvHas at h
  rw [List.any_eq_false] at h
  rw [← dvColFrom_dvOf (mode := mode) hdv k, hnil ins 0 fun i hi => by simpa using h i hi]
  rfl

end

end Ice.Props.E2EM

/-! ## the description lays out `Spec.merge` -/

namespace Ice.Props.E2EM
open Ice Ice.Spec Ice.Model Ice.Model.Format
open Ice.Model.MergeRest (DocAsc)
open Ice.Props.C03 (ValidDrops)
open Ice.Model.DocValues (termsOf)
open Ice.Props.E2E

section
variable {α : Type} (l : List α) (g : α → MIn) (t : α → Bytes)

/- the stored part takes its inputs as `C02Stored.Input`s, with the bytes `t a` behind the stored
   section; the field list, the documents written and the inputs of `Spec.merge` do not depend
   on them -/

theorem sIn_absIns : C02Stored.absIns (l.map fun a => (g a).sIn (t a)) = absIns (l.map g) := by
  unfold C02Stored.absIns absIns
  rw [List.map_map, List.map_map]; rfl

theorem sIn_mergedFields :
    C02Stored.mergedFields (l.map fun a => (g a).sIn (t a)) = mFields (l.map g) := by
  unfold C02Stored.mergedFields mFields
  rw [List.map_map, List.map_map]; rfl

theorem sIn_mergedDocs :
    C02Stored.mergedDocs (l.map fun a => (g a).sIn (t a)) = mDocs (l.map g) := by
  unfold mDocs C02Stored.mergedDocs C02Stored.mergedFields
  simp only [List.map_map, List.flatMap_map]
  rfl

end

theorem absIns_sIn (ins : List MIn) : C02Stored.absIns (ins.map (·.sIn)) = absIns ins :=
  (sIn_absIns ins id fun _ => []).trans (by rw [List.map_id])

theorem mergedFields_sIn (ins : List MIn) : C02Stored.mergedFields (ins.map (·.sIn)) = mFields ins :=
  (sIn_mergedFields ins id fun _ => []).trans (by rw [List.map_id])

/-- the documents `mergeStoredAndRemap` writes: field ids ascending and inside the merged list -/
theorem mDocs_shape (ins : List MIn) :
    ∀ d ∈ mDocs ins, DocAsc d ∧ ∀ fv ∈ d, fv.1 < (mFields ins).length :=
  mergedFields_sIn ins ▸ C02Stored.mergedDocs_shape _

section
variable {K : Codecs} {mode : Nat} {ins : List MIn}
  (hok : ∀ i ∈ ins, MInOK K i) (hB : MBounds mode ins)

include hok in
theorem drops_valid : ∀ i ∈ ins, ValidDrops i.abs.docs.length i.drops :=
  fun i hi => (hok i hi).stored.drops

include hok hB in
theorem mNumDocs_spec : mNumDocs ins = (merge mode (absIns ins)).1.docs.length :=
  mNumDocs_eq mode ins (drops_valid hok) hB.total

include hok hB in
theorem mField_dv (f : Bytes) :
    (match (mField mode ins f).dv with
      | some vals => vals.Pairwise (fun a b => a.1 < b.1) ∧
          (∀ q ∈ vals, q.1 < (merge mode (absIns ins)).1.docs.length) ∧
          ∀ n, termsOf vals n = dvOf (merge mode (absIns ins)).1 n f
      | none => ∀ n, dvOf (merge mode (absIns ins)).1 n f = []) ∧
    (mNumDocs ins = 0 → (mField mode ins f).dv = none ∧ (mField mode ins f).fieldFreqs = 0) := by
  have hdv : ∀ i ∈ ins, DvColOK f i := fun i hi => (hok i hi).dv f
  rw [(fieldOf_spec (drops_valid hok) (fun i hi => (hok i hi).abs) hB f).2.2.2.1]
  by_cases h0 : mNumDocs ins = 0
  · rw [if_pos h0]
    exact ⟨(dvOf_of_no_docs (List.eq_nil_of_length_eq_zero (mNumDocs_spec hok hB ▸ h0)) · f),
      fun _ => ⟨rfl, by unfold mField; rw [if_pos h0]; rfl⟩⟩
  · rw [if_neg h0]
    refine ⟨?_, fun h => absurd h h0⟩
    unfold dvColM
    cases hh : dvHas ins f with
    | false => exact dvOf_nil_of_not_has hdv hh
    | true =>
      obtain ⟨hasc, hrange, _⟩ := dvColFrom_shape (mode := mode) hdv
      exact ⟨hasc, hrange, dvColFrom_dvOf hdv⟩

include hok hB in
theorem mergedLSeg_lays : Lays (merge mode (absIns ins)).1 (mergedLSeg mode ins) := by
  have hF := mFields_eq mode ins
  have hspec := fieldOf_spec (drops_valid hok) (fun i hi => (hok i hi).abs) hB
  have hfs : (mergedLSeg mode ins).fields =
      (merge mode (absIns ins)).1.fields.map (mField mode ins) := hF ▸ mergedLSeg_fields mode ins
  -- the description of the field with id `i`
  have hfield : ∀ {i : Nat} {f : Bytes} {fd : FieldDesc},
      (merge mode (absIns ins)).1.fields[i]? = some f → (mergedLSeg mode ins).fields[i]? = some fd →
      fd = mField mode ins f := by
    intro i f fd hf hfd
    rw [hfs, List.getElem?_map, hf] at hfd
    exact (Option.some.inj hfd).symm
  refine
    { numDocs := mNumDocs_spec hok hB, mode := rfl, names := ?_, fieldDocs := ?_, fieldFreqs := ?_,
      terms := ?_, oneHit := fun _ _ _ _ _ _ _ => rfl, stored := ?_, storedAsc := ?_,
      storedIds := ?_, dv := ?_, dvNonempty := nofun, empty := ?_ }
  · rw [hfs, List.map_map]
    exact List.map_id'' (fun f => (hspec f).1) _
  · rw [hfs, List.map_map]
    exact List.map_congr_left fun f _ => (hspec f).2.1
  · rw [hfs, List.map_map]
    exact List.map_congr_left fun f _ => (hspec f).2.2.1
  · intro i f fd hf hfd
    rw [hfield hf hfd]
    exact (hspec f).2.2.2.2
  · have := C02Stored.S_merged_rel K.stored docBlock mode (ins.map (·.sIn))
      (by intro s hs
          obtain ⟨i, hi, rfl⟩ := List.mem_map.1 hs
          exact (hok i hi).stored)
      (by rw [mergedFields_sIn]; exact hB.nfields)
    rw [mergedFields_sIn, absIns_sIn, hF] at this
    exact this
  · exact fun d hd => (mDocs_shape ins d hd).1
  · exact hF ▸ fun d hd => (mDocs_shape ins d hd).2
  · intro i f fd hf hfd
    rw [hfield hf hfd]
    exact (mField_dv hok hB f).1
  · intro h0 fd hfd
    rw [hfs] at hfd
    obtain ⟨f, _, rfl⟩ := List.mem_map.1 hfd
    exact (mField_dv hok hB f).2 h0

include hok hB in
theorem mergedLSeg_segOK (hsz : Sizes K (mergedLSeg mode ins)) :
    SegOK K (merge mode (absIns ins)).1 (mergedLSeg mode ins) :=
  .of_lays (mergedLSeg_lays hok hB) (absOK_merge mode ins (fun i hi => (hok i hi).abs) hB) hB.hmode hsz

end

end Ice.Props.E2EM
