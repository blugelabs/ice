import IceModel.Lemmas.IterBytesStep
/-
  Simulation of `deliverB`, the loops, `nextDocB` and `stepB` by their entry-level counterparts.
-/
namespace Ice.Model.IterBytes
open Ice Ice.Spec Ice.Model Ice.Model.ChunkBytes
open Ice.Model.Iter (RFlags It)
open Ice.Props.ChunkBytes (T2_read T3_read_freq)

/-- the loop of `nextAtOrAfter` is the byte-layer loop followed by the lookup of the field names -/
theorem readLocsLoopB_of_loop {finv : List Bytes} {cap start nlb : Nat} (fuel : Nat) : ∀ (j : Nat)
    (r : Rd) (accB : List BLoc) (acc : List Loc) {res : List BLoc} {r' : Rd},
    readLocsLoop fuel (some cap) start nlb j r accB = .ok (res, r') →
    ∃ ls, res = accB ++ ls ∧ ((∀ l ∈ ls, l.fieldID < finv.length) →
      readLocsLoopB finv fuel cap start nlb j r acc = .ok (acc ++ ls.map (toLoc finv), r')) := by
  induction fuel with
  | zero => exact fun _ _ _ _ _ _ h => nomatch h
  | succ fuel ih =>
    intro j r accB acc res r' h
    rw [readLocsLoop] at h
    rw [readLocsLoopB]
    by_cases hc : start - r.len < nlb
    · rw [if_pos hc] at h ⊢
      by_cases hj : j < cap
      · rw [if_pos (by simpa [capOk] using hj)] at h
        rw [if_pos hj]
        cases hrd : readLocation r with
        | err => rw [hrd] at h; cases h
        | panic => rw [hrd] at h; cases h
        | ok p =>
          obtain ⟨l, r1⟩ := p
          rw [hrd] at h
          obtain ⟨ls, rfl, hB⟩ := ih _ _ _ (acc ++ [toLoc finv l]) h
          refine ⟨l :: ls, by simp, fun hf => ?_⟩
          have hl := hf l (List.mem_cons_self ..)
          dsimp only
          rw [List.getElem?_eq_getElem hl]
          dsimp only
          rw [show ({ field := finv[l.fieldID], pos := l.pos, start := l.start, stop := l.stop } : Loc)
            = toLoc finv l by simp [toLoc, hl], hB fun x hx => hf x (List.mem_cons_of_mem _ hx)]
          simp
      · rw [if_neg (by simpa [capOk] using hj)] at h
        cases h
    · rw [if_neg hc] at h ⊢
      cases h
      exact ⟨[], by simp, fun _ => by simp⟩

theorem readLocsB_of_freq {finv : List Bytes} {freq : Nat} {r : Rd} {ls : List BLoc} {r' : Rd}
    (h : readLocsFreq freq r = .ok (ls, r')) (hf : ∀ l ∈ ls, l.fieldID < finv.length) :
    readLocsB finv freq r = .ok (ls.map (toLoc finv), r') := by
  unfold readLocsFreq readLocsWith at h
  unfold readLocsB
  cases hr : r.readUvarint with
  | err => rw [hr] at h; cases h
  | panic => rw [hr] at h; cases h
  | ok p =>
    rw [hr] at h
    obtain ⟨nlb, r1⟩ := p
    simp only [ok_bind] at h ⊢
    split
    · rename_i hlt
      rw [if_pos hlt] at h
      obtain ⟨ls', rfl, hB⟩ := readLocsLoopB_of_loop (finv := finv) _ _ _ [] [] h
      exact hB hf
    · rename_i hlt
      rw [if_neg hlt] at h
      cases h
      rfl

/-- moving the roaring cursors within what is still ahead -/
theorem Abs.cursors {E : Env} {fl : RFlags} {i : ItB} {j : It} (h : Abs E fl i j) {x y : List Nat}
    (hx : ∀ n ∈ x, n ∈ i.act) :
    Abs E fl { i with act := x, all := y } { j with act := x, all := y } := by
  obtain ⟨h, rfl, rfl⟩ := h
  exact ⟨⟨h.cs, h.finv, fun n hn => h.act n (hx n hn), h.fn, h.lc, h.aligned⟩, rfl, rfl⟩

/-- the relation on the results of `nextDocB` / `deliverB` / `stepB` -/
def AbsOut {α : Type} (E : Env) (fl : RFlags) : α × ItB → α × It → Prop :=
  fun x y => x.1 = y.1 ∧ Abs E fl x.2 y.2

theorem deliverB_sim {E : Env} (hE : E.OK) {fl : RFlags} {i : ItB} {j : It} (h : Abs E fl i j)
    (n : Nat) : SimR (AbsOut E fl) (deliverB i n) (Iter.deliver n j) := by
  rw [Iter.deliver_eq_pop, congrArg RFlags.incFN h.flj]
  unfold deliverB
  rw [congrArg RFlags.incFN h.fl]
  cases hfn : fl.incFN with
  | false => exact .ok ⟨rfl, h⟩
  | true =>
    intro ⟨o, j'⟩ hj
    obtain ⟨⟨e', ls, j''⟩, hp, hj⟩ := Option.map_eq_some_iff.mp hj
    cases hj
    obtain ⟨fb, pre, e, r, hfb, hmem, he', hr, hcase⟩ := pop_sim h hfn hp
    have hread := T2_read pre r e (hE.valid e hmem)
    have hnorm : e.norm % 2 ^ 32 = e.norm := Nat.mod_eq_of_lt (hE.norm e hmem)
    rcases hcase with ⟨hb, rfl, habs⟩ | ⟨hb, lb, lpre, le, lr, hlb, hlmem, hlne, hle, rfl, hlr, habs⟩
    · refine ⟨(_, _), ?_, rfl, habs⟩
      simp only [Bool.not_true, Bool.false_eq_true, if_false, hfb, DecB.rd, hr, ok_bind, hread, h.fl,
        hb, pure_eq_ok, hnorm, he']
      rfl
    · have hrl := readLocsB_of_freq
        (T3_read_freq lpre lr le (hE.valid le hlmem) hlne (hE.freq le hlmem)) (hE.fld le hlmem)
      rw [show le.freq = e.freq from congrArg Posting.freq (hle.trans he')] at hrl
      refine ⟨(_, _), ?_, rfl, habs (if i.nextLocsCap ≥ e.freq then i.nextLocsCap else e.freq * 2)⟩
      simp only [Bool.not_true, Bool.false_eq_true, if_false, hfb, DecB.rd, hr, ok_bind, hread, h.fl,
        hb, if_true, hlb, hlr, h.wf.finv, hrl, pure_eq_ok, hnorm, he']
      rfl

theorem cleanLoopB_eq (cs d : Nat) : ∀ (rest : List Nat) (n c s : Nat),
    cleanLoopB cs d n c s rest = Iter.cleanLoop cs d n c s rest := by
  intro rest
  induction rest with
  | nil =>
    intro n c s
    rw [cleanLoopB]
    by_cases h : n < d
    · rw [Iter.cleanLoop_nil _ _ _ _ _ h]
    · rw [Iter.cleanLoop_done _ _ _ _ _ _ h]
  | cons m r ih =>
    intro n c s
    rw [cleanLoopB]
    by_cases h : n < d
    · rw [if_pos h, Iter.cleanLoop_step _ _ _ _ _ _ _ h]
      exact ih _ _ _
    · rw [if_neg h, Iter.cleanLoop_done _ _ _ _ _ _ h]

theorem cleanLoopB_facts (cs d : Nat) : ∀ (rest : List Nat) (n s n' c' s' : Nat) (rest' : List Nat),
    cleanLoopB cs d n (n / cs) s rest = (n', c', s', rest') →
    c' = n' / cs ∧ (n' = n ∨ n' ∈ rest) ∧ ∀ x ∈ rest', x ∈ rest := by
  intro rest
  induction rest with
  | nil =>
    intro n s n' c' s' rest' h
    rw [cleanLoopB] at h
    simp only [Prod.mk.injEq] at h
    obtain ⟨rfl, rfl, _, rfl⟩ := h
    exact ⟨rfl, Or.inl rfl, fun _ hx => hx⟩
  | cons m r ih =>
    intro n s n' c' s' rest' h
    rw [cleanLoopB] at h
    by_cases hlt : n < d
    · rw [if_pos hlt] at h
      obtain ⟨h1, h2, h3⟩ := ih _ _ _ _ _ _ h
      refine ⟨h1, ?_, fun x hx => List.mem_cons_of_mem _ (h3 x hx)⟩
      rcases h2 with rfl | h2
      · exact Or.inr (by simp)
      · exact Or.inr (List.mem_cons_of_mem _ h2)
    · rw [if_neg hlt] at h
      simp only [Prod.mk.injEq] at h
      obtain ⟨rfl, rfl, _, rfl⟩ := h
      exact ⟨rfl, Or.inl rfl, fun _ hx => hx⟩

theorem repeatSkipB_sim {E : Env} (hE : E.OK) {fl : RFlags} (hfn : fl.incFN = true) {c : Nat}
    (hc : c ≤ E.maxDoc / E.cs) (k : Nat) : ∀ {i : ItB} {j : It}, Abs E fl i j →
    SimR (Abs E fl) (repeatSkipB E.K k i c) (Iter.repeatSkip k j c) := by
  induction k with
  | zero => exact fun h => .ok h
  | succ k ih =>
    intro i j h
    rw [repeatSkipB, Iter.repeatSkip]
    exact (currChunkNextB_sim hE h hfn hc).elim (fun _ _ h' => ih h') fun _ => .none

theorem exclLoopB_sim {E : Env} (hE : E.OK) {fl : RFlags} {n nChunk : Nat}
    (hc : nChunk ≤ E.maxDoc / E.cs) : ∀ (rest : List Nat) {i : ItB} {j : It} (allN : Nat),
    Abs E fl i j →
    SimR (fun x y => Abs E fl x.1 y.1 ∧ x.2 = y.2) (exclLoopB E.K n nChunk i allN rest)
      (Iter.exclLoop j n nChunk allN rest) := by
  intro rest i j allN h
  rw [exclLoopB, Iter.exclLoop]
  split
  · exact .ok ⟨h, rfl⟩
  · have hstep : SimR (Abs E fl)
        (if i.fl.incFN && decide (allN ≥ nChunk * i.cs) then currChunkNextB E.K i nChunk else .ok i)
        (if j.fl.incFN && decide (allN ≥ nChunk * j.cs) then Iter.currChunkNext j nChunk
         else some j) := by
      rw [show j.fl = i.fl from h.abs ▸ rfl, show j.cs = i.cs from h.abs ▸ rfl]
      split
      · rename_i hcond
        exact currChunkNextB_sim hE h (h.fl ▸ (Bool.and_eq_true_iff.mp hcond).1) hc
      · exact .ok h
    refine hstep.elim (fun i' j' h' => ?_) fun _ => .none
    cases rest with
    | nil => exact .none
    | cons a r => exact exclLoopB_sim hE hc r a h'

theorem nextDocB_sim {E : Env} (hE : E.OK) {fl : RFlags} {i : ItB} {j : It} (h : Abs E fl i j)
    (d : Nat) : SimR (AbsOut E fl) (nextDocB E.K i d) (Iter.nextDoc j d) := by
  have hfl := h.flj
  have eact : j.act = i.act := h.abs ▸ rfl
  have hcs : j.cs = i.cs := h.abs ▸ rfl
  have hle : ∀ {n}, n ∈ i.act → n / i.cs ≤ E.maxDoc / E.cs := fun hn => by
    rw [h.wf.cs]; exact Nat.div_le_div_right (h.wf.act _ hn)
  unfold nextDocB
  cases hact : i.act with
  | nil =>
    rw [Iter.nextDoc_act_nil _ _ (eact.trans hact)]
    exact .ok ⟨rfl, h⟩
  | cons n0 r0 =>
    have hne : j.act ≠ [] := by rw [eact, hact]; exact List.cons_ne_nil _ _
    dsimp only
    by_cases hcl : i.clean = true
    · have hcl' : j.clean = true := h.abs ▸ hcl
      rw [if_pos hcl, congrArg RFlags.incFN h.fl]
      cases hfn : fl.incFN with
      | false =>
        rw [Iter.nextDoc_clean_nofn _ d hne hcl' (hfl ▸ hfn), eact, hact]
        simp only [Bool.not_false, if_true]
        cases hdw : (n0 :: r0).dropWhile (· < d) with
        | nil => exact .ok ⟨rfl, h.cursors fun _ hm => nomatch hm⟩
        | cons n r =>
          refine .ok ⟨rfl, h.cursors fun m hm => ?_⟩
          rw [hact]
          exact List.dropWhile_subset _ (hdw ▸ List.mem_cons_of_mem _ hm)
      | true =>
        rw [Iter.nextDoc_clean_fn _ d n0 r0 (eact.trans hact) hcl' (hfl ▸ hfn),
          show Iter.cleanLoop j.cs d n0 (n0 / j.cs) 0 r0 = cleanLoopB i.cs d n0 (n0 / i.cs) 0 r0 by
            rw [cleanLoopB_eq, hcs]]
        simp only [Bool.not_true, Bool.false_eq_true, if_false]
        rcases hloop : cleanLoopB i.cs d n0 (n0 / i.cs) 0 r0 with ⟨n, nChunk, same, rest⟩
        obtain ⟨hch, hmem, hrest⟩ := cleanLoopB_facts _ _ _ _ _ _ _ _ _ hloop
        have hcle : nChunk ≤ E.maxDoc / E.cs := by
          rw [hch]
          apply hle
          rw [hact]
          rcases hmem with rfl | hm
          · exact List.mem_cons_self ..
          · exact List.mem_cons_of_mem _ hm
        have h0 : Abs E fl { i with act := rest, all := rest } { j with act := rest, all := rest } :=
          h.cursors fun m hm => by rw [hact]; exact List.mem_cons_of_mem _ (hrest m hm)
        dsimp only
        split
        · exact .ok ⟨rfl, h0⟩
        · refine (repeatSkipB_sim hE hfn hcle same h0).elim (fun i1 j1 h1 => ?_) fun _ => .none
          obtain ⟨i2, e2, h2⟩ := ensureB_sim hE h1 hfn hcle
          dsimp only
          rw [e2]
          exact .ok ⟨rfl, h2⟩
    · rw [if_neg hcl, Iter.nextDoc_excl _ d hne (h.abs ▸ Bool.eq_false_iff.mpr hcl), eact, hact,
        show j.all = i.all from h.abs ▸ rfl]
      cases hdw : (n0 :: r0).dropWhile (· < d) with
      | nil => exact .ok ⟨rfl, h.cursors fun _ hm => nomatch hm⟩
      | cons n r =>
        have hsub : ∀ m ∈ n :: r, m ∈ i.act := fun m hm => by
          rw [hact]; exact List.dropWhile_subset _ (hdw ▸ hm)
        have hcle := hle (hsub n (List.mem_cons_self ..))
        dsimp only
        cases hall : i.all with
        | nil => exact .none
        | cons allN arest =>
          dsimp only
          rw [show n / j.cs = n / i.cs by rw [hcs]]
          have h0 : Abs E fl { i with act := r, all := allN :: arest }
              { j with act := r, all := allN :: arest } :=
            h.cursors fun m hm => hsub m (List.mem_cons_of_mem _ hm)
          refine (exclLoopB_sim hE hcle arest allN h0).elim (fun p q hpq => ?_) fun _ => .none
          obtain ⟨i1, ra⟩ := p
          obtain ⟨j1, rb⟩ := q
          obtain ⟨⟨w1, f1, rfl⟩, rfl⟩ := hpq
          have h1' : Abs E fl { i1 with all := ra } { absIt E i1 with all := ra } :=
            Abs.cursors ⟨w1, f1, rfl⟩ fun _ hm => hm
          dsimp only
          rw [congrArg RFlags.incFN f1, show (absIt E i1).fl.incFN = fl.incFN from congrArg _ f1]
          cases hfn : fl.incFN with
          | false => exact .ok ⟨rfl, h1'⟩
          | true =>
            obtain ⟨i2, e2, h2⟩ := ensureB_sim hE h1' hfn hcle
            rw [if_pos rfl, if_pos rfl, e2]
            exact .ok ⟨rfl, h2⟩

theorem stepB_eq (K : Codec) (i : ItB) (op : IterOp) :
    stepB K i op = match nextDocB K i (Iter.dOf op) with
      | .ok (none, i) => .ok (none, i)
      | .ok (some n, i) => deliverB i n
      | .err => .err
      | .panic => .panic := by
  cases op <;> rfl

theorem stepB_sim {E : Env} (hE : E.OK) {fl : RFlags} {i : ItB} {j : It} (h : Abs E fl i j)
    (op : IterOp) : SimR (AbsOut E fl) (stepB E.K i op) (Iter.step j op) := by
  rw [stepB_eq, Iter.step_eq]
  refine (nextDocB_sim hE h (Iter.dOf op)).elim (fun p q hpq => ?_) fun _ => .none
  obtain ⟨o, i1⟩ := p
  obtain ⟨o', j1⟩ := q
  obtain ⟨rfl, h1⟩ := hpq
  cases o with
  | none => exact .ok ⟨rfl, h1⟩
  | some n => exact deliverB_sim hE h1 n

/-- an entry-level answer as a byte-level one (only mapped over lists without `none`, a fault) -/
def resOf : Option (Option Posting) → Res (Option Posting)
  | some r => .ok r
  | none => .err

end Ice.Model.IterBytes
