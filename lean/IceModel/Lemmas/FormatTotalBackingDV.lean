import IceModel.Model.DocValues
import IceModel.Lemmas.DocValues
/-
  The two backings of `segment.Data` (doc-value side).

  `Data.read` on memory-backed data (capacity = length) succeeds only for `0 ≤ s ≤ e ≤ len` and
  then returns the plain slice; the file-backed read of the same bytes returns the same slice
  there.  So EVERY computation that reads through `Data.read` and succeeds on the memory backing
  succeeds with the same result on the file backing (`OkLe`).  The converse does not hold in
  general (a file-backed read of length 0 succeeds at any non-negative offset, the memory-backed
  one panics beyond the end), which is why agreement is stated in this direction and combined, in
  `Props/C04Total.lean`, with the success of the memory-backed reads of a written segment.
-/
namespace Ice.Model.DocValues
open Ice Ice.Model Ice.Model.Writer

/-- the same bytes, file-backed -/
def Data.toFile (d : Data) : Data := { bytes := d.bytes, mem := false }

/-- `y` succeeds with the same result whenever `x` succeeds -/
def OkLe {α : Type} (x y : Res α) : Prop := ∀ r, x = .ok r → y = .ok r

theorem OkLe.refl {α : Type} (x : Res α) : OkLe x x := fun _ h => h

theorem OkLe.bind {α β : Type} {x y : Res α} {f g : α → Res β} (h : OkLe x y)
    (hf : ∀ a, OkLe (f a) (g a)) : OkLe (x >>= f) (y >>= g) := by
  intro r hr
  cases x with
  | ok a => rw [h a rfl]; exact hf a r hr
  | err => cases hr
  | panic => cases hr

theorem i64_lt (x : Nat) : i64 x < 2 ^ 63 := by
  unfold i64 two64; split <;> omega

theorem wrap64_of_nonneg {z : Int} (h0 : 0 ≤ z) (h1 : z < 2 ^ 63) : wrap64 z = z := by
  obtain ⟨n, rfl⟩ := Int.eq_ofNat_of_zero_le h0
  exact wrap64_of_lt (by omega)

/-- **the two backings agree where the memory-backed read succeeds** -/
theorem read_toFile (d : Data) (s e : Nat) : OkLe (d.read s e) (d.toFile.read s e) := by
  intro w h
  cases hm : d.mem with
  | false =>
    have : d.toFile = d := by
      obtain ⟨b, m⟩ := d
      dsimp only at hm
      subst hm; rfl
    rw [this]; exact h
  | true =>
    unfold Data.read at h
    simp only [hm, if_true] at h
    split at h
    · rename_i hc
      obtain ⟨h0, h1, h2⟩ := hc
      simp only [Res.ok.injEq] at h
      have hei := i64_lt e
      have hn : wrap64 (i64 e - i64 s) = i64 e - i64 s := wrap64_of_nonneg (by omega) (by omega)
      have n1 : ¬ (i64 e - i64 s < 0) := by omega
      have n2 : ¬ (i64 s < 0) := by omega
      simp only [Data.read, Data.toFile, Bool.false_eq_true, if_false, hn, n1, n2]
      by_cases h3 : i64 e - i64 s = 0
      · simp only [h3, if_true]
        rw [← h, h3]; simp
      · have n4 : ¬ (i64 s + (i64 e - i64 s) > (d.bytes.length : Int)) := by omega
        simp only [h3, n4, if_false]
        rw [h]
    · cases h

theorem readOffsets_toFile (d : Data) (pos : Nat) : ∀ (k off : Nat),
    OkLe (readOffsets d pos k off) (readOffsets d.toFile pos k off)
  | 0, _ => OkLe.refl _
  | k + 1, off => by
    simp only [readOffsets]
    apply OkLe.bind (read_toFile _ _ _)
    intro w
    cases uvarint w with
    | none => exact OkLe.refl _
    | some p =>
      obtain ⟨loc, rd⟩ := p
      exact OkLe.bind (readOffsets_toFile d pos k _) (fun _ => OkLe.refl _)

theorem loadFieldDocValueReader_toFile (d : Data) (s e : Nat) :
    OkLe (loadFieldDocValueReader d s e) (loadFieldDocValueReader d.toFile s e) := by
  unfold loadFieldDocValueReader
  by_cases h1 : s = maxUint64
  · simp only [h1, if_true]; exact OkLe.refl _
  · simp only [h1, if_false]
    by_cases h2 : sub64 e s > 16
    · simp only [h2, if_true]
      apply OkLe.bind (read_toFile _ _ _)
      intro w1
      apply OkLe.bind (read_toFile _ _ _)
      intro w2
      by_cases h3 : unbe w1 ≥ 2 ^ 63
      · simp only [h3, if_true]; exact OkLe.refl _
      · simp only [h3, if_false]
        exact OkLe.bind (readOffsets_toFile d _ _ _) (fun _ => OkLe.refl _)
    · simp only [h2, if_false]; exact OkLe.refl _

theorem readHeader_toFile (d : Data) (metaLoc : Nat) : ∀ (k off dd doff : Nat),
    OkLe (readHeader d metaLoc k off dd doff) (readHeader d.toFile metaLoc k off dd doff)
  | 0, _, _, _ => OkLe.refl _
  | k + 1, off, dd, doff => by
    simp only [readHeader]
    apply OkLe.bind (read_toFile _ _ _)
    intro a
    apply OkLe.bind (read_toFile _ _ _)
    intro b
    exact OkLe.bind (readHeader_toFile d metaLoc k _ _ _) (fun _ => OkLe.refl _)

theorem loadDvChunk_toFile (d : Data) (di : Reader) (c : Nat) :
    OkLe (di.loadDvChunk d c) (di.loadDvChunk d.toFile c) := by
  unfold Reader.loadDvChunk
  apply OkLe.bind (OkLe.refl _)
  intro se
  by_cases h1 : se.1 ≥ se.2
  · simp only [h1, if_true]; exact OkLe.refl _
  · simp only [h1, if_false]
    apply OkLe.bind (read_toFile _ _ _)
    intro nd
    cases uvarint nd with
    | none => exact OkLe.refl _
    | some p =>
      obtain ⟨numDocs, rd⟩ := p
      dsimp only
      by_cases h2 : numDocs ≥ 2 ^ 63
      · simp only [h2, if_true]; exact OkLe.refl _
      · simp only [h2, if_false]
        apply OkLe.bind (readHeader_toFile d _ _ _ _ _)
        intro h
        apply OkLe.bind (read_toFile _ _ _)
        intro _
        exact OkLe.refl _

theorem visit_toFile (z : Codec) (d : Data) (cs : Nat) (di : Reader) (doc : Nat) :
    OkLe (di.visit z d cs doc) (di.visit z d.toFile cs doc) := by
  unfold Reader.visit
  by_cases h0 : cs = 0
  · rw [if_pos h0, if_pos h0]; exact OkLe.refl _
  · rw [if_neg h0, if_neg h0]
    refine OkLe.bind ?_ (fun _ => OkLe.refl _)
    by_cases h1 : (doc / cs != di.curChunkNum) = true
    · rw [if_pos h1, if_pos h1]; exact loadDvChunk_toFile d di _
    · rw [if_neg h1, if_neg h1]; exact OkLe.refl _

theorem visitAll_toFile (z : Codec) (d : Data) (cs : Nat) : ∀ (ds : List Nat) (di : Reader),
    OkLe (Reader.visitAll z d cs di ds) (Reader.visitAll z d.toFile cs di ds)
  | [], _ => OkLe.refl _
  | doc :: ds, di => by
    simp only [Reader.visitAll]
    apply OkLe.bind (visit_toFile z d cs di doc)
    intro r
    exact OkLe.bind (visitAll_toFile z d cs ds r.2) (fun _ => OkLe.refl _)

end Ice.Model.DocValues
