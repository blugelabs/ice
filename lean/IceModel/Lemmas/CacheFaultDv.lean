import IceModel.Lemmas.Search
/-
  (c) docValueReader: what `getDocValueLocs` finds on an arbitrary header (`sort.Search` on any
  predicate: `Lemmas/Search`), and what a visit answers from a header that is the cached chunk's
  own or that a failed load has partly overwritten.
-/
namespace Ice.Model.CacheFault

theorem getElem?_getD {l : List Meta} {i : Nat} (h : i < l.length) : l[i]? = some (l.getD i default) := by
  rw [← List.getElem_eq_getD (h := h), List.getElem?_eq_getElem h]

theorem getDocValueLocs_some {hdr : List Meta} {d s e : Nat} (h : getDocValueLocs hdr d = some (s, e)) :
    ∃ i m, hdr[i]? = some m ∧ m.doc = d ∧ e = m.off ∧
      ((i = 0 ∧ s = 0) ∨ (0 < i ∧ ∃ m', hdr[i - 1]? = some m' ∧ m'.doc < d ∧ s = m'.off)) := by
  unfold getDocValueLocs at h
  have hs := (sortSearch_spec hdr.length (fun i => decide (d ≤ (hdr.getD i default).doc))).2.1
  generalize sortSearch hdr.length _ = i at h hs
  dsimp only at h
  split at h
  · rename_i hc
    obtain ⟨rfl, rfl⟩ := Prod.mk.inj (Option.some.inj h)
    refine ⟨i, _, getElem?_getD hc.1, hc.2, rfl, ?_⟩
    rcases Nat.eq_zero_or_pos i with rfl | hpos
    · exact Or.inl ⟨rfl, rfl⟩
    · refine Or.inr ⟨hpos, _, getElem?_getD (Nat.lt_of_le_of_lt (Nat.sub_le _ _) hc.1), ?_, if_pos hpos⟩
      exact Nat.lt_of_not_le (of_decide_eq_false (hs.resolve_left (Nat.ne_of_gt hpos)))
  · cases h

theorem getDocValueLocs_sorted (es : List Meta) (hs : es.Pairwise (fun a b => a.doc < b.doc))
    (i : Nat) (m : Meta) (hm : es[i]? = some m) : getDocValueLocs es m.doc ≠ none := by
  obtain ⟨hi, rfl⟩ := List.getElem?_eq_some_iff.mp hm
  have lt : ∀ {a b : Nat}, a < b → b < es.length → (es.getD a default).doc < (es.getD b default).doc := by
    intro a b hab hb
    rw [← List.getElem_eq_getD (h := hb), ← List.getElem_eq_getD (h := Nat.lt_trans hab hb)]
    exact List.pairwise_iff_getElem.mp hs a b _ hb hab
  unfold getDocValueLocs
  rw [List.getElem_eq_getD (h := hi) default]
  -- the search stops at the first index whose document is not below the one sought: that is `i`
  rw [sortSearch_eq es.length _ i (Nat.le_of_lt hi)
    (fun m hm => decide_eq_false (Nat.not_le_of_lt (lt hm hi)))
    (fun m hm hlen => decide_eq_true ((Nat.eq_or_lt_of_le hm).elim (fun e => e ▸ Nat.le_refl _)
      fun h => Nat.le_of_lt (lt h hlen)))]
  simp [hi]

def entriesOf (st : DvStore) (n : Nat) : List Meta :=
  match st n with
  | none => []
  | some c => c.entries

/-- a cell that cannot be taken for a document of chunk `B` with values: it names a document of
    another chunk, or it is a zeroed cell of a fresh array -/
def Foreign (chunkOf : Nat → Nat) (B : Nat) (m : Meta) : Prop := chunkOf m.doc ≠ B ∨ m = default

def High (chunkOf : Nat → Nat) (B : Nat) (m : Meta) : Prop := B < chunkOf m.doc

/-- cell `j` is entry `j` of chunk `B`, untouched -/
def Own (st : DvStore) (B : Nat) (j : Nat) (m : Meta) : Prop := (entriesOf st B)[j]? = some m

/-- every cell of the visible header is foreign to `B`, or it is `B`'s own entry AND its
    predecessor is `B`'s own entry or names a later chunk -/
def SafeView (chunkOf : Nat → Nat) (st : DvStore) (B : Nat) (v : List Meta) : Prop :=
  ∀ j m, v[j]? = some m →
    Foreign chunkOf B m ∨
    (Own st B j m ∧ (j = 0 ∨ ∃ m', v[j - 1]? = some m' ∧ (High chunkOf B m' ∨ Own st B (j - 1) m')))

/-- compressed data and decompressed copy are those of chunk `B` -/
def DataOK (st : DvStore) (B : Nat) (r : DvReader) : Prop :=
  match st B with
  | none => True
  | some c => r.data = some c.data ∧ (r.uncompressed = [] ∨ r.uncompressed = c.data)

variable {chunkOf : Nat → Nat} {st : DvStore} {r : DvReader} {d : Nat}

theorem entriesOf_some {n : Nat} {c : DvChunk} (hc : st n = some c) :
    entriesOf st n = c.entries := by
  unfold entriesOf; rw [hc]

theorem entriesOf_none {n : Nat} (hc : st n = none) : entriesOf st n = [] := by
  unfold entriesOf; rw [hc]

theorem entriesOf_getElem? {X j : Nat} {m : Meta} (h : (entriesOf st X)[j]? = some m) :
    ∃ c, st X = some c ∧ c.entries[j]? = some m := by
  cases hc : st X with
  | none => rw [entriesOf_none hc] at h; cases h
  | some c => exact ⟨c, rfl, entriesOf_some hc ▸ h⟩

theorem DataOK.of_some {B : Nat} {c : DvChunk} (hc : st B = some c)
    (h : DataOK st B r) : r.data = some c.data ∧ (r.uncompressed = [] ∨ r.uncompressed = c.data) := by
  unfold DataOK at h; rw [hc] at h; exact h

theorem DataOK.congr {B : Nat} {r' : DvReader} (h1 : r'.data = r.data)
    (h2 : r'.uncompressed = r.uncompressed) (h : DataOK st B r) : DataOK st B r' := by
  unfold DataOK at h ⊢
  rw [h1, h2]; exact h

/-- the two branches of the decompressed-copy logic deliver chunk `B`'s data -/
theorem DataOK.uncompressed {st : DvStore} {B : Nat} {r : DvReader} {c : DvChunk}
    (hc : st B = some c) (h : DataOK st B r) :
    (if r.uncompressed.length > 0 then r else { r with uncompressed := r.data.getD [] }).uncompressed = c.data := by
  obtain ⟨h1, h2⟩ := h.of_some hc
  split
  · rename_i hl
    rcases h2 with h2 | h2
    · rw [h2] at hl; cases hl
    · exact h2
  · simp only [h1, Option.getD_some]

/-- the values between the offsets `s` and `e`, as `visitDocValues` and `specValues` both cut them
    out of the decompressed data -/
def cut (data : List Nat) (s e : Nat) : Outcome (List Nat) :=
  if s = e then .ok []
  else if s ≤ e ∧ e ≤ data.length then .ok ((data.drop s).take (e - s)) else .panic

/-- what the exact answers need of `DvWF` -/
def EntriesSorted (st : DvStore) : Prop :=
  ∀ n c, st n = some c → c.entries.Pairwise (fun a b => a.doc < b.doc)

theorem findIdx_of_sorted (es : List Meta) (hs : es.Pairwise (fun a b => a.doc < b.doc))
    (i : Nat) (m : Meta) (h : es[i]? = some m) : es.findIdx? (fun x => x.doc == m.doc) = some i := by
  obtain ⟨hi, rfl⟩ := List.getElem?_eq_some_iff.mp h
  refine List.findIdx?_eq_some_iff_getElem.mpr ⟨hi, beq_self_eq_true _, fun j hj => ?_⟩
  have := List.pairwise_iff_getElem.mp hs j i (Nat.lt_trans hj hi) hi hj
  rw [beq_iff_eq]
  exact Nat.ne_of_lt this

/-- `hs`: the start offset in the shape in which `getDocValueLocs_some` delivers it -/
theorem specValues_of_entry (wf : EntriesSorted st) {i s : Nat}
    {c : DvChunk} {m : Meta} (hc : st (chunkOf d) = some c) (hi : c.entries[i]? = some m) (hdoc : m.doc = d)
    (hs : (i = 0 ∧ s = 0) ∨ (0 < i ∧ ∃ m', c.entries[i - 1]? = some m' ∧ s = m'.off)) :
    specValues chunkOf st d = cut c.data s m.off := by
  have hidx := findIdx_of_sorted c.entries (wf _ _ hc) i m hi
  rw [hdoc] at hidx
  unfold specValues
  simp only [hc, hidx, List.getD_eq_getElem?_getD, hi, Option.getD_some]
  rcases hs with ⟨rfl, rfl⟩ | ⟨hpos, m', hm', rfl⟩
  · rfl
  · rw [if_pos hpos, hm']; rfl

theorem specValues_of_not_mem (h : ∀ m ∈ entriesOf st (chunkOf d), m.doc ≠ d) : specValues chunkOf st d = .ok [] := by
  unfold specValues
  cases hc : st (chunkOf d) with
  | none => rfl
  | some c =>
    rw [entriesOf_some hc] at h
    have : c.entries.findIdx? (fun m => m.doc == d) = none :=
      List.findIdx?_eq_none_iff.mpr fun m hm => by simpa using h m hm
    simp only [this]

theorem visitDocValues_of_none (h : getDocValueLocs r.header d = none) :
    r.visitDocValues d = (r, .ok []) := by
  unfold DvReader.visitDocValues; rw [h]

theorem visitDocValues_of_eq {s : Nat} (h : getDocValueLocs r.header d = some (s, s)) :
    r.visitDocValues d = (r, .ok []) := by
  unfold DvReader.visitDocValues; rw [h]; exact if_pos rfl

theorem visitDocValues_cut {B s e : Nat} {c : DvChunk} (hc : st B = some c)
    (hd : DataOK st B r) (h : getDocValueLocs r.header d = some (s, e)) :
    (r.visitDocValues d).2 = cut c.data s e := by
  have hu := DataOK.uncompressed hc hd
  unfold DvReader.visitDocValues cut
  rw [h]
  dsimp only
  generalize (if r.uncompressed.length > 0 then r else { r with uncompressed := r.data.getD [] }) = r2 at hu ⊢
  rw [hu]
  split
  · rfl
  · split <;> rfl

theorem visitDocValues_state (r : DvReader) (d : Nat) :
    (r.visitDocValues d).1 = r ∨
      (r.uncompressed = [] ∧ (r.visitDocValues d).1 = { r with uncompressed := r.data.getD [] }) := by
  unfold DvReader.visitDocValues
  split
  · exact Or.inl rfl
  · split
    · exact Or.inl rfl
    · by_cases hl : r.uncompressed.length > 0
      · rw [if_pos hl]
        dsimp only
        split <;> exact Or.inl rfl
      · rw [if_neg hl]
        dsimp only
        split <;> exact Or.inr ⟨List.eq_nil_of_length_eq_zero (Nat.eq_zero_of_not_pos hl), rfl⟩

theorem visitDocValues_frame (r : DvReader) (d : Nat) :
    (r.visitDocValues d).1.hdrBuf = r.hdrBuf ∧ (r.visitDocValues d).1.header = r.header ∧
    (r.visitDocValues d).1.curChunkNum = r.curChunkNum ∧
    ∀ st B, DataOK st B r → DataOK st B (r.visitDocValues d).1 := by
  rcases visitDocValues_state r d with h | ⟨hu, h⟩ <;> rw [h]
  · exact ⟨rfl, rfl, rfl, fun _ _ h => h⟩
  · refine ⟨rfl, rfl, rfl, fun st B hd => ?_⟩
    unfold DataOK at hd ⊢
    split
    · trivial
    · rename_i c hc
      rw [hc] at hd
      exact ⟨hd.1, Or.inr (by rw [hd.1]; rfl)⟩

/-- **a visit on a partly overwritten header** answers as the specification does, or with nothing:
    never another slice, and a panic only where the specification has one -/
theorem visitDocValues_safe (wf : DvWF chunkOf st)
    (hv : SafeView chunkOf st (chunkOf d) r.header) (hd : DataOK st (chunkOf d) r) :
    (r.visitDocValues d).2 = specValues chunkOf st d ∨ (r.visitDocValues d).2 = .ok [] := by
  cases hg : getDocValueLocs r.header d with
  | none => right; rw [visitDocValues_of_none hg]
  | some se =>
    obtain ⟨s, e⟩ := se
    obtain ⟨i, m, hm, hdoc, he, hpred⟩ := getDocValueLocs_some hg
    rcases hv i m hm with hfor | ⟨hown, hp⟩
    · -- a foreign cell that carries `d` is a zeroed one, found at position 0: start = end = 0
      right
      rcases hfor with hfor | rfl
      · exact absurd (congrArg chunkOf hdoc) hfor
      · rcases hpred with ⟨_, rfl⟩ | ⟨_, m', _, hlt, _⟩
        · rw [visitDocValues_of_eq (he ▸ hg)]
        · exact absurd (hdoc ▸ hlt) (Nat.not_lt_zero _)
    · -- the chunk's own entry: its predecessor in the header is the one the specification uses
      left
      obtain ⟨c, hc, hi⟩ := entriesOf_getElem? hown
      rw [visitDocValues_cut hc hd hg, he]
      refine (specValues_of_entry wf.sorted hc hi hdoc (hpred.imp id fun ⟨hpos, m', hm', hlt, hs⟩ => ⟨hpos, m', ?_, hs⟩)).symm
      obtain ⟨m'', hm'', hcls⟩ := hp.resolve_left (Nat.ne_of_gt hpos)
      obtain rfl : m' = m'' := Option.some.inj (hm'.symm.trans hm'')
      rcases hcls with hhigh | hown'
      · -- a cell of a later chunk does not precede `d`
        exact absurd (wf.mono _ _ (Nat.le_of_lt hlt)) (Nat.not_le_of_lt hhigh)
      · exact entriesOf_some hc ▸ hown'

theorem visitDocValues_clean (wf : EntriesSorted st)
    (hh : r.header = entriesOf st (chunkOf d)) (hdat : DataOK st (chunkOf d) r) :
    (r.visitDocValues d).2 = specValues chunkOf st d := by
  cases hg : getDocValueLocs r.header d with
  | none =>
    rw [visitDocValues_of_none hg, specValues_of_not_mem]
    intro m hm hdoc
    obtain ⟨i, hi⟩ := List.getElem?_of_mem hm
    obtain ⟨c, hc, hi'⟩ := entriesOf_getElem? hi
    rw [hh, entriesOf_some hc] at hg
    exact getDocValueLocs_sorted c.entries (wf _ _ hc) i m hi' (hdoc ▸ hg)
  | some se =>
    obtain ⟨s, e⟩ := se
    obtain ⟨i, m, hm, hdoc, rfl, hpred⟩ := getDocValueLocs_some hg
    rw [hh] at hm hpred
    obtain ⟨c, hc, hi⟩ := entriesOf_getElem? hm
    rw [entriesOf_some hc] at hpred
    rw [visitDocValues_cut hc hdat hg]
    exact (specValues_of_entry wf hc hi hdoc
      (hpred.imp id fun ⟨hpos, m', hm', _, hs⟩ => ⟨hpos, m', hm', hs⟩)).symm

end Ice.Model.CacheFault
