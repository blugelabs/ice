import IceModel.Lemmas.MergeRestCopy
/-
  `mergeStoredAndRemap` as a whole: whichever path each input segment takes, the destination
  receives the survivors' documents regrouped by merged field id, and the section written is
  `Stored.writeStoredFields` of them.
-/
namespace Ice.Model.MergeRest
open Ice Ice.Model Ice.Model.Stored
open Ice.Spec (keepP keepP_nil keepP_cons keepP_true length_keepP liveCount liveCount_nil remapAll)

theorem Tracks.congr {cd : Codec} {c0 : Coder} {total : Nat} {st : MS} {A B : List Doc}
    (h : Tracks cd c0 total st A) (hab : A.map flat = B.map flat) : Tracks cd c0 total st B := by
  have hl : A.length = B.length := by
    have := congrArg List.length hab; simpa using this
  have hw := writeDocs_congr cd A B hab c0 []
  exact ⟨by rw [← hw]; exact h.coder, by rw [← hl]; exact h.num, by rw [← hw, ← hl]; exact h.dno⟩

/-- an input segment together with the documents it was written from and its deletions -/
structure SegSpec where
  src : Src
  docs : List Doc
  tail : Bytes
  drops : List Nat

/-- the merged documents of one input: the survivors, regrouped by merged field id -/
def segDocs (fm : Builder.AMap Bytes Nat) (nM : Nat) (s : SegSpec) : List Doc :=
  (keepP (fun i => !s.drops.contains i) 0 s.docs).map (reDoc (toMerged s.src.fields fm) nM)

/-- the source was written by the stored writer from `docs`, and its fields are known to the
    merged field map -/
structure SegOK (cd : Codec) (bs : Nat) (fm : Builder.AMap Bytes Nat) (nM : Nat) (s : SegSpec) :
    Prop where
  seg : s.src.seg = segOfNew cd bs s.src.fields.length s.docs s.tail
  valid : Ice.Props.C06.Valid cd bs s.src.fields.length s.docs
  mapped : FieldsMapped s.src.fields fm nM
  small : s.docs.length ≤ 2 ^ 32

/-- what the copy path additionally needs: block sizes inside `int` with the look-ahead, and the
    regrouping is the identity on the documents' values (field ids coincide) -/
structure CopyOK (fm : Builder.AMap Bytes Nat) (nM : Nat) (s : SegSpec) : Prop where
  size : (recs s.docs).length + 10 < 2 ^ 63
  ids : ∀ d ∈ s.docs, flat (reDoc (toMerged s.src.fields fm) nM d) = flat d

theorem length_segDocs (fm : Builder.AMap Bytes Nat) (nM : Nat) (s : SegSpec) :
    (segDocs fm nM s).length = liveCount s.drops s.docs.length := by
  simp only [segDocs, List.length_map, length_keepP, liveCount, List.range_eq_range']

theorem numDocs_segOfNew (cd : Codec) (bs nf : Nat) (docs : List Doc) (tail : Bytes) :
    (segOfNew cd bs nf docs tail).numDocs = docs.length := rfl

theorem remapSegment_stored (cd : Codec) (bs : Nat) (fm : Builder.AMap Bytes Nat) (nM : Nat)
    (c0 : Coder) (total : Nat) (s : SegSpec) (hok : SegOK cd bs fm nM s) (st : MS) (D : List Doc)
    (ht : Tracks cd c0 total st D) (hroom : D.length + (segDocs fm nM s).length ≤ total) :
    ∃ st' seen', remapSegment cd s.src s.drops fm nM st = .ok (st', seen') ∧
      Tracks cd c0 total st' (D ++ segDocs fm nM s) := by
  rw [remapSegment, hok.seg, numDocs_segOfNew, List.range_eq_range']
  exact remapSegLoop_stored cd bs s.src s.docs s.tail s.drops fm nM c0 total hok.seg hok.valid
    hok.mapped hok.small s.docs 0 st [] D rfl ht (by simpa [segDocs] using hroom)

theorem copySegment_stored (cd : Codec) (hZ : NonemptyFrames cd) (bs : Nat) (hbs : 0 < bs)
    (fm : Builder.AMap Bytes Nat) (nM : Nat) (c0 : Coder) (total : Nat) (s : SegSpec)
    (hok : SegOK cd bs fm nM s) (hcp : CopyOK fm nM s) (hd : s.drops = []) (st : MS)
    (D : List Doc) (ht : Tracks cd c0 total st D)
    (hroom : D.length + (segDocs fm nM s).length ≤ total) :
    ∃ cs, copyStoredDocs cd s.src.seg ⟨st.newDocNum, st.dno, st.coder⟩ = .ok cs ∧
      Tracks cd c0 total
        { newDocNum := st.newDocNum + s.src.seg.numDocs, dno := cs.dno, coder := cs.coder,
          vdc := st.vdc } (D ++ segDocs fm nM s) := by
  have hsd : segDocs fm nM s = s.docs.map (reDoc (toMerged s.src.fields fm) nM) := by
    simp only [segDocs, hd]
    rw [keepP_true]
    intro i _ _; simp
  rw [hsd] at hroom ⊢
  simp only [List.length_map] at hroom
  have ht0 : Tracks cd c0 total (CS.ms ⟨st.newDocNum, st.dno, st.coder⟩) D :=
    ⟨ht.coder, ht.num, ht.dno⟩
  rw [hok.seg]
  obtain ⟨cs, h1, h2⟩ := copyStoredDocs_stored cd hZ bs s.src.fields.length hbs s.docs s.tail c0
    total hcp.size ⟨st.newDocNum, st.dno, st.coder⟩ D ht0 hroom
  refine ⟨cs, h1, ?_⟩
  have h3 : Tracks cd c0 total
      { newDocNum := st.newDocNum + s.docs.length, dno := cs.dno, coder := cs.coder,
        vdc := st.vdc } (D ++ s.docs) :=
    ⟨h2.coder, by simp [ht.num], h2.dno⟩
  rw [numDocs_segOfNew]
  apply h3.congr
  simp only [List.map_append, List.map_map]
  congr 1
  apply List.map_congr_left
  intro d hd'
  exact (hcp.ids d hd').symm

theorem copy_eq_reencode (cd : Codec) (hZ : NonemptyFrames cd) (bs : Nat) (hbs : 0 < bs)
    (fm : Builder.AMap Bytes Nat) (nM : Nat) (c0 : Coder) (total : Nat) (s : SegSpec)
    (hok : SegOK cd bs fm nM s) (hcp : CopyOK fm nM s) (hd : s.drops = []) (st : MS)
    (D : List Doc) (ht : Tracks cd c0 total st D)
    (hroom : D.length + s.docs.length ≤ total) :
    ∃ cs st' seen', copyStoredDocs cd s.src.seg ⟨st.newDocNum, st.dno, st.coder⟩ = .ok cs ∧
      remapSegment cd s.src s.drops fm nM st = .ok (st', seen') ∧
      cs.coder = st'.coder ∧ cs.dno = st'.dno ∧
      st'.newDocNum = st.newDocNum + s.src.seg.numDocs := by
  have hlen : (segDocs fm nM s).length = s.docs.length := by
    rw [length_segDocs, hd, liveCount_nil]
  obtain ⟨cs, h1, h2⟩ := copySegment_stored cd hZ bs hbs fm nM c0 total s hok hcp hd st D ht
    (by omega)
  obtain ⟨st', seen', h3, h4⟩ := remapSegment_stored cd bs fm nM c0 total s hok st D ht (by omega)
  refine ⟨cs, st', seen', h1, h3, ?_, ?_, ?_⟩
  · rw [h4.coder]; exact h2.coder
  · rw [h4.dno]; exact h2.dno
  · rw [h4.num]; exact h2.num.symm

theorem segLoop_stored (cd : Codec) (hZ : NonemptyFrames cd) (bs : Nat) (hbs : 0 < bs)
    (drops : List (List Nat)) (fm : Builder.AMap Bytes Nat) (nM : Nat) (same : Bool) (c0 : Coder)
    (total : Nat) :
    ∀ (S : List SegSpec) (k : Nat) (st : MS) (acc : List (List Nat)) (D : List Doc),
    (∀ s ∈ S, SegOK cd bs fm nM s) →
    (same = true → ∀ s ∈ S, s.drops = [] → CopyOK fm nM s) →
    drops.drop k = S.map (·.drops) →
    Tracks cd c0 total st D → D.length + (S.flatMap (segDocs fm nM)).length ≤ total →
    ∃ st' acc', segLoop cd drops fm nM same ((S.map (·.src)).zipIdx k) st acc = .ok (st', acc') ∧
      Tracks cd c0 total st' (D ++ S.flatMap (segDocs fm nM)) := by
  intro S
  induction S with
  | nil => intro k st acc D _ _ _ ht _; exact ⟨st, acc, rfl, by simpa using ht⟩
  | cons s S ih =>
    intro k st acc D hok hcp hdr ht hroom
    have hs := hok s (by simp)
    have hS : ∀ t ∈ S, SegOK cd bs fm nM t := fun t ht' => hok t (by simp [ht'])
    have hcpS : same = true → ∀ t ∈ S, t.drops = [] → CopyOK fm nM t :=
      fun h t ht' => hcp h t (by simp [ht'])
    have hd0 : drops[k]? = some s.drops := by
      rw [← Nat.add_zero k, ← List.getElem?_drop, hdr]; rfl
    have hdrS : drops.drop (k + 1) = S.map (·.drops) := by
      rw [← List.drop_drop, hdr]; rfl
    rw [List.flatMap_cons, List.length_append] at hroom
    have hroom1 : D.length + (segDocs fm nM s).length ≤ total :=
      Nat.le_trans (Nat.add_le_add_left (Nat.le_add_right _ _) _) hroom
    have hroom2 : (D ++ segDocs fm nM s).length + (S.flatMap (segDocs fm nM)).length ≤ total := by
      rw [List.length_append, Nat.add_assoc]; exact hroom
    simp only [List.map_cons, List.zipIdx_cons]
    rw [segLoop, hd0]
    simp only
    by_cases hpath : (same && s.drops.length == 0) = true
    · rw [if_pos hpath]
      simp only [Bool.and_eq_true, beq_iff_eq] at hpath
      have hnil : s.drops = [] := List.length_eq_zero_iff.mp hpath.2
      obtain ⟨cs, h1, h2⟩ := copySegment_stored cd hZ bs hbs fm nM c0 total s hs
        (hcp hpath.1 s (by simp) hnil) hnil st D ht hroom1
      rw [h1]
      simp only [Res.bind_ok]
      rw [List.flatMap_cons, ← List.append_assoc]
      exact ih (k + 1) _ _ _ hS hcpS hdrS h2 hroom2
    · rw [if_neg hpath]
      obtain ⟨st1, seen1, h1, h2⟩ := remapSegment_stored cd bs fm nM c0 total s hs st D ht hroom1
      rw [h1]
      simp only [Res.bind_ok]
      rw [List.flatMap_cons, ← List.append_assoc]
      exact ih (k + 1) st1 _ _ hS hcpS hdrS h2 hroom2

theorem mergeStoredAndRemap_eq (cd : Codec) (hZ : NonemptyFrames cd) (bs : Nat) (hbs : 0 < bs)
    (S : List SegSpec) (fieldsInv : List Bytes) (same : Bool) (vdc : Buf)
    (hok : ∀ s ∈ S, SegOK cd bs (mapFields fieldsInv) fieldsInv.length s)
    (hcp : same = true → ∀ s ∈ S, s.drops = [] → CopyOK (mapFields fieldsInv) fieldsInv.length s) :
    ∃ buf', mergeStoredAndRemap cd bs (S.map (·.src)) (S.map (·.drops)) fieldsInv same
        ((S.map fun s => liveCount s.drops s.docs.length).sum) vdc =
      .ok (writeStoredFields cd bs (S.flatMap (segDocs (mapFields fieldsInv) fieldsInv.length)),
           (remapAll (S.map fun s => (s.docs.length, s.drops)) 0).map (·.map encNum), buf') := by
  have hlen : (S.flatMap (segDocs (mapFields fieldsInv) fieldsInv.length)).length =
      (S.map fun s => liveCount s.drops s.docs.length).sum := by
    rw [List.length_flatMap]
    congr 1
    apply List.map_congr_left
    intro s _
    exact length_segDocs _ _ s
  obtain ⟨st', acc', h1, h2⟩ := segLoop_stored cd hZ bs hbs (S.map (·.drops))
    (mapFields fieldsInv) fieldsInv.length same { chunkSize := bs }
    ((S.map fun s => liveCount s.drops s.docs.length).sum) S 0
    { newDocNum := 0, dno := List.replicate _ 0, coder := { chunkSize := bs }, vdc := vdc } [] []
    hok hcp rfl (Tracks.init cd _ _ vdc) (by rw [hlen]; simp)
  have hnums := segLoop_nums cd (S.map (·.drops)) (mapFields fieldsInv) fieldsInv.length same
    (S.map (·.src)) 0 _ [] st' acc'
    (List.forall_mem_map.2 fun s hs => by rw [(hok s hs).seg]; exact (hok s hs).small) h1
  refine ⟨st'.vdc, ?_⟩
  unfold mergeStoredAndRemap
  rw [h1]
  simp only [Res.bind_ok]
  have hpairs : (((S.map (·.src)).zip ((S.map (·.drops)).drop 0)).map fun q =>
        (q.1.seg.numDocs, q.2)) = S.map fun s => (s.docs.length, s.drops) := by
    rw [List.drop_zero, List.zip_map', List.map_map]
    exact List.map_congr_left fun s hs => by rw [Function.comp, (hok s hs).seg]; rfl
  have hdno : st'.dno =
      (writeDocs cd (S.flatMap (segDocs (mapFields fieldsInv) fieldsInv.length))
        { chunkSize := bs } []).2 := by
    rw [h2.dno]; simp [hlen]
  rw [hnums.1, hpairs]
  simp only [List.nil_append, Res.ok.injEq, Prod.mk.injEq, and_true]
  unfold writeStoredFields
  simp only [h2.coder, hdno, List.nil_append]

end Ice.Model.MergeRest
