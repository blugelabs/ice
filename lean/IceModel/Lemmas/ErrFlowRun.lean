import IceModel.Lemmas.ErrFlowSem
/-
  Error flow, part 3: an executable, oracle-driven interpreter of error-flow skeletons, and the proof
  that each of its runs is an execution in the sense of `Exec` - so every theorem about `Exec`/`Run`
  holds for every oracle.  (`Exec` is the more liberal notion; the interpreter is there to make "an
  execution driven by an oracle stream" concrete and to compute examples.)
-/
namespace Ice.ErrFlow

/-- the oracle: a stream of numbers consumed from the front (an exhausted oracle answers 0).
    call / drop : 0 = succeeds, otherwise fails
    `return <expr>` with a nil error variable : 0 = returns nil, otherwise non-nil
    unguarded block : 0 = skip (or: no further round), otherwise run the body (once more)
    jump statement : 0 = leave the list, `k+1` = land `k` statements further down in the same list
    jump arriving at a block : 0 = leave the enclosing list too, 1 = next round of the block (guarded
      block: go on behind it), `k+2` = land `k` statements behind the block -/
abbrev Oracle := List Nat

def Oracle.bit (o : Oracle) : Bool := o.headD 0 != 0

/-- `run fuel orc e p` : trace, outcome and the unused part of the oracle (`none`: out of fuel) -/
def run : Nat → Oracle → Bool → List Stmt → Option (List Step × Out × Oracle)
  | 0, _, _, _ => none
  | _ + 1, orc, e, [] => some ([], .norm e, orc)
  | fuel + 1, orc, _, .call c :: rest =>
    let failed := alwaysFails c || orc.bit
    (run fuel orc.tail failed rest).map fun r => (⟨false, c, failed⟩ :: r.1, r.2)
  | fuel + 1, orc, e, .drop c :: rest =>
    (run fuel orc.tail e rest).map fun r => (⟨true, c, orc.bit⟩ :: r.1, r.2)
  | _ + 1, orc, _, .ret false :: _ => some ([], .ret false, orc)
  | _ + 1, orc, e, .ret true :: _ =>
    if e then some ([], .ret true, orc) else some ([], .ret orc.bit, orc.tail)
  | fuel + 1, orc, e, .jump :: rest =>
    match orc.headD 0 with
    | 0 => some ([], .jump e, orc.tail)
    | k + 1 => run fuel orc.tail e (rest.drop k)
  | fuel + 1, orc, e, .block g body :: rest =>
    let enter (orc : Oracle) : Option (List Step × Out × Oracle) :=
      match run fuel orc e body with
      | none => none
      | some (tr1, .ret b, orc1) => some (tr1, .ret b, orc1)
      | some (tr1, .norm e', orc1) =>
        (run fuel orc1 e' (if g then rest else .block false body :: rest)).map
          fun r => (tr1 ++ r.1, r.2)
      | some (tr1, .jump e', orc1) =>
        match orc1.headD 0 with
        | 0 => some (tr1, .jump e', orc1.tail)
        | 1 => (run fuel orc1.tail e' (if g then rest else .block false body :: rest)).map
                fun r => (tr1 ++ r.1, r.2)
        | k + 2 => (run fuel orc1.tail e' (rest.drop k)).map fun r => (tr1 ++ r.1, r.2)
    if g then (if e then enter orc else run fuel orc e rest)
    else (if orc.bit then enter orc.tail else run fuel orc.tail e rest)

/-- a result obtained by putting something in front of the trace of a shorter run -/
theorem map_trace_eq_some {f : List Step → List Step} {r : Option (List Step × Out × Oracle)}
    {tr : List Step} {o : Out} {orc' : Oracle} (h : r.map (fun r => (f r.1, r.2)) = some (tr, o, orc')) :
    ∃ tr2, tr = f tr2 ∧ r = some (tr2, o, orc') := by
  obtain ⟨⟨tr2, o2, orc2⟩, hr, heq⟩ := Option.map_eq_some_iff.1 h
  cases heq; exact ⟨tr2, rfl, hr⟩

theorem run_exec : ∀ (fuel : Nat) (orc : Oracle) (e : Bool) (p : List Stmt) (tr : List Step) (o : Out)
    (orc' : Oracle), run fuel orc e p = some (tr, o, orc') → Exec e p tr o := by
  intro fuel
  induction fuel with
  | zero => intro orc e p tr o orc' h; simp [run] at h
  | succ fuel ih =>
    intro orc e p tr o orc' h
    match p with
    | [] =>
      simp only [run, Option.some.injEq, Prod.mk.injEq] at h
      obtain ⟨rfl, rfl, _⟩ := h; exact .nil
    | .call c :: rest =>
      simp only [run] at h
      obtain ⟨tr', rfl, hr⟩ := map_trace_eq_some (f := (_ :: ·)) h
      have := ih _ _ _ _ _ _ hr
      by_cases hf : (alwaysFails c || orc.bit) = true
      · rw [hf] at this ⊢; exact .callFail this
      · have hf' : (alwaysFails c || orc.bit) = false := by simpa using hf
        rw [hf'] at this ⊢
        exact .callOk (by simp at hf'; exact hf'.1) this
    | .drop c :: rest =>
      simp only [run] at h
      obtain ⟨tr', rfl, hr⟩ := map_trace_eq_some (f := (_ :: ·)) h
      exact .drop _ (ih _ _ _ _ _ _ hr)
    | .ret false :: rest =>
      simp only [run, Option.some.injEq, Prod.mk.injEq] at h
      obtain ⟨rfl, rfl, _⟩ := h; exact .retNil
    | .ret true :: rest =>
      simp only [run] at h
      split at h
      · rename_i he
        simp only [Option.some.injEq, Prod.mk.injEq] at h
        obtain ⟨rfl, rfl, _⟩ := h; subst he; exact .retErr
      · rename_i he
        simp only [Option.some.injEq, Prod.mk.injEq] at h
        obtain ⟨rfl, rfl, _⟩ := h
        have : e = false := by simpa using he
        subst this; exact .retOther _
    | .jump :: rest =>
      simp only [run] at h
      split at h
      · simp only [Option.some.injEq, Prod.mk.injEq] at h
        obtain ⟨rfl, rfl, _⟩ := h; exact .jump
      · exact .jumpResume (List.drop_suffix _ _) (ih _ _ _ _ _ _ h)
    | .block g body :: rest =>
      -- the body has been entered (with `g = true → e = true`) under oracle `orc0`
      have enter : ∀ (orc0 : Oracle), (g = true → e = true) →
          (match run fuel orc0 e body with
            | none => none
            | some (tr1, .ret b, orc1) => some (tr1, .ret b, orc1)
            | some (tr1, .norm e', orc1) =>
              (run fuel orc1 e' (if g then rest else .block false body :: rest)).map
                fun r => (tr1 ++ r.1, r.2)
            | some (tr1, .jump e', orc1) =>
              match orc1.headD 0 with
              | 0 => some (tr1, .jump e', orc1.tail)
              | 1 => (run fuel orc1.tail e' (if g then rest else .block false body :: rest)).map
                      fun r => (tr1 ++ r.1, r.2)
              | k + 2 => (run fuel orc1.tail e' (rest.drop k)).map fun r => (tr1 ++ r.1, r.2))
            = some (tr, o, orc') → Exec e (.block g body :: rest) tr o := by
        intro orc0 hg h
        split at h
        · cases h
        · rename_i tr1 b orc1 hb
          simp only [Option.some.injEq, Prod.mk.injEq] at h
          obtain ⟨rfl, rfl, _⟩ := h
          exact .blockRet hg (ih _ _ _ _ _ _ hb)
        · rename_i tr1 e' orc1 hb
          obtain ⟨tr2, rfl, hr⟩ := map_trace_eq_some (f := (tr1 ++ ·)) h
          have h1 := ih _ _ _ _ _ _ hb
          have h2 := ih _ _ _ _ _ _ hr
          cases g with
          | true => have := hg rfl; subst this; exact .guardNorm h1 (by simpa using h2)
          | false => exact .blockNorm h1 (by simpa using h2)
        · rename_i tr1 e' orc1 hb
          have h1 := ih _ _ _ _ _ _ hb
          split at h
          · simp only [Option.some.injEq, Prod.mk.injEq] at h
            obtain ⟨rfl, rfl, _⟩ := h
            exact .blockJumpOut hg h1
          · obtain ⟨tr2, rfl, hr⟩ := map_trace_eq_some (f := (tr1 ++ ·)) h
            have h2 := ih _ _ _ _ _ _ hr
            cases g with
            | true => exact .blockJumpResume hg h1 (List.suffix_refl _) (by simpa using h2)
            | false => exact .blockJumpLoop h1 (by simpa using h2)
          · obtain ⟨tr2, rfl, hr⟩ := map_trace_eq_some (f := (tr1 ++ ·)) h
            exact .blockJumpResume hg h1 (List.drop_suffix _ _) (ih _ _ _ _ _ _ hr)
      simp only [run] at h
      cases g with
      | true =>
        simp only [if_true] at h
        cases e with
        | true => simp only [if_true] at h; exact enter orc (fun _ => rfl) (by simpa using h)
        | false =>
          simp only [Bool.false_eq_true, if_false] at h
          exact .guardSkip (ih _ _ _ _ _ _ h)
      | false =>
        simp only [Bool.false_eq_true, if_false] at h
        split at h
        · exact enter orc.tail (fun hg => by cases hg) (by simpa using h)
        · exact .blockSkip (ih _ _ _ _ _ _ h)

theorem run_Run {fuel : Nat} {orc orc' : Oracle} {p : Prog} {tr : List Step} {o : Out}
    (h : run fuel orc false p = some (tr, o, orc')) : Run p tr o.result :=
  ⟨o, run_exec _ _ _ _ _ _ _ h, rfl⟩

end Ice.ErrFlow
